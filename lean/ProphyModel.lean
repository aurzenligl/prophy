-- root of the ProphyModel library: everything that `lake build` must check
import ProphyModel.Basic
import ProphyModel.Schema
import ProphyModel.Spec
import ProphyModel.Py
import ProphyModel.PLayout
import ProphyModel.Cpp
import ProphyModel.Topo
import ProphyModel.Expr
import ProphyModel.Text
import ProphyModel.Raw
import ProphyModel.Typing
import ProphyModel.Api
import ProphyModel.Copy
import ProphyModel.Files
import ProphyModel.FilesL
import ProphyModel.FilesW
import ProphyModel.Patch
import ProphyModel.Accept
import ProphyModel.WF
import ProphyModel.NameScan
import ProphyModel.Resolve
import ProphyModel.CppLit
import ProphyModel.Properties.Tables
import ProphyModel.Properties.DocExamples
import ProphyModel.Properties.TablesTexts
import ProphyModel.Properties.C01
import ProphyModel.Properties.C02
import ProphyModel.Properties.C03
import ProphyModel.Properties.C04
import ProphyModel.Properties.C05
import ProphyModel.Properties.C06
import ProphyModel.Properties.C06Size
import ProphyModel.Properties.C06All
import ProphyModel.Properties.C07
import ProphyModel.Properties.C08
import ProphyModel.Properties.C09
import ProphyModel.Properties.C09Complete
import ProphyModel.Properties.C10
import ProphyModel.Properties.C11
import ProphyModel.Properties.C11Complete
import ProphyModel.Properties.C12
import ProphyModel.Properties.C12Names
import ProphyModel.Properties.C12All
import ProphyModel.Properties.C13
import ProphyModel.Properties.C13Resolve
import ProphyModel.Properties.C13All
import ProphyModel.Properties.C14
import ProphyModel.Properties.C14CppLex
import ProphyModel.Properties.C14Host
import ProphyModel.Properties.C14Lex
import ProphyModel.Properties.C14Literal
import ProphyModel.Properties.C14All
import ProphyModel.Properties.C15
import ProphyModel.Properties.C15Complete
import ProphyModel.Properties.C16
import ProphyModel.Properties.C17
import ProphyModel.Properties.C18
import ProphyModel.Properties.C19
import ProphyModel.Properties.C20Links
import ProphyModel.Properties.C20Write
import ProphyModel.Properties.C20All
