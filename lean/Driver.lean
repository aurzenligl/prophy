/-
  JSON-lines driver: one request per line on stdin, one answer per line on stdout.
  Imports model files only (no Mathlib), so it links as a native executable.
-/
import Driver.Codec
import ProphyModel.Spec
import ProphyModel.Py
import ProphyModel.PLayout
import ProphyModel.Topo
import ProphyModel.Expr
import ProphyModel.Resolve
import ProphyModel.ExprHosts
import ProphyModel.Cpp
import ProphyModel.Text
import ProphyModel.Raw
import ProphyModel.Api
import ProphyModel.Typing
import ProphyModel.Copy
import ProphyModel.Files
import ProphyModel.FilesL
import ProphyModel.FilesW
import ProphyModel.CppLit
import ProphyModel.NameScan
import ProphyModel.Patch
import ProphyModel.Accept
import ProphyModel.WF
open Lean Prophy Prophy.Driver

structure DState where
  types : Std.HashMap Nat Ty := {}

def getTy (st : DState) (j : Json) : Except String Ty := do
  let t ← j.getObjVal? "t"
  match t with
  | .num _ =>
    let id ← t.getNat?
    match st.types[id]? with
    | some ty => pure ty
    | none => throw s!"unknown type id {id}"
  | _ => tyOfJson t

def stJson (s : Py.St) : Json :=
  Json.mkObj [("size", s.size), ("align", s.align), ("dyn", s.dyn), ("unl", s.unl)]

partial def astOfJson (j : Json) : Except String Expr.Ast := do
  let a ← j.getArr?
  let tag ← a[0]!.getStr?
  match tag with
  | "num" => pure (.num (← a[1]!.getNat?))
  | "name" => pure (.name (← a[1]!.getStr?))
  | "neg" => do pure (.neg (← astOfJson a[1]!))
  | "bin" =>
    let op ← (match (← a[1]!.getStr?) with
      | "+" => pure Expr.BinOp.add | "-" => pure Expr.BinOp.sub | "*" => pure Expr.BinOp.mul
      | "/" => pure Expr.BinOp.div | "<<" => pure Expr.BinOp.shl | ">>" => pure Expr.BinOp.shr
      | "|" => pure Expr.BinOp.bor
      | s => throw s!"bad operator {s}")
    pure (.bin op (← astOfJson a[2]!) (← astOfJson a[3]!))
  | s => throw s!"bad ast tag {s}"

def envOfJson (j : Json) : Except String (String → Option Int) := do
  let o ← j.getObj?
  let pairs ← o.toList.mapM (fun (k, v) => do pure (k, (← v.getInt?)))
  pure (fun s => pairs.lookup s)

def evalErrJson : Expr.EvalErr → Json
  | .divZero => Json.str "division by zero"
  | .negShift => Json.str "negative shift"
  | .outOfRange => Json.str "out of range"
  | .unknown s => Json.str ("unknown name " ++ s)

partial def argOfJson (j : Json) : Except String Api.Arg := do
  match j with
  | .null => pure .none
  | .bool true => pure .true_
  | .str "flt" => pure .flt
  | .str "other" => pure .other
  | .obj _ =>
    if let .ok v := j.getObjVal? "int" then pure (.int (← v.getInt?))
    else if let .ok v := j.getObjVal? "str" then pure (.str (← v.getStr?))
    else if let .ok v := j.getObjVal? "bytes" then pure (.bytes (← ofHex (← v.getStr?)))
    else if let .ok v := j.getObjVal? "list" then do pure (.list (← (← v.getArr?).toList.mapM argOfJson))
    else if let .ok v := j.getObjVal? "iter" then do pure (.iter (← (← v.getArr?).toList.mapM argOfJson))
    else if let .ok v := j.getObjVal? "msg" then do
      let a ← v.getArr?
      pure (.msg (← a[0]!.getStr?) (← valOfJson a[1]!))
    else throw "bad arg object"
  | _ => throw "bad arg"

def pathOfJson (j : Json) : Except String (List Api.Step) := do
  (← j.getArr?).toList.mapM fun s => do
    let a ← s.getArr?
    match (← a[0]!.getStr?) with
    | "f" => pure (Api.Step.field (← a[1]!.getNat?))
    | "e" => pure (Api.Step.elem (← a[1]!.getInt?))
    | x => throw s!"bad step {x}"

def optInt (j : Json) (k : String) : Except String (Option Int) :=
  match j.getObjVal? k with
  | .ok .null => pure none
  | .ok v => do pure (some (← v.getInt?))
  | .error _ => pure none

def opOfJson (j : Json) : Except String Api.Op := do
  let k ← getStr j "op"
  let p ← pathOfJson (← j.getObjVal? "path")
  let i := (getNat j "i").toOption.getD 0
  let a := (j.getObjVal? "a").toOption.getD Json.null
  match k with
  | "set" => do pure (.set p i (← argOfJson a))
  | "setDisc" => do pure (.setDisc p (← argOfJson a))
  | "append" => do pure (.append p i (← argOfJson a))
  | "insert" => do pure (.insert p i (← (← j.getObjVal? "idx").getInt?) (← argOfJson a))
  | "extend" => do pure (.extend p i (← argOfJson a))
  | "setItem" => do pure (.setItem p i (← (← j.getObjVal? "idx").getInt?) (← argOfJson a))
  | "setSlice" => do pure (.setSlice p i (← optInt j "lo") (← optInt j "hi") (← optInt j "step") (← argOfJson a))
  | "delItem" => do pure (.delItem p i (← (← j.getObjVal? "idx").getInt?))
  | "delSlice" => do pure (.delSlice p i (← optInt j "lo") (← optInt j "hi"))
  | "remove" => do pure (.remove p i (← argOfJson a))
  | "add" => pure (.add p i)
  | x => throw s!"bad op {x}"

def optStr (j : Json) (k : String) : Option String :=
  match j.getObjVal? k with
  | .ok (.str s) => some s
  | _ => none

def pmToJson (m : Patch.PM) : Json :=
  Json.mkObj [("name", m.name), ("type", m.type),
    ("bound", match m.bound with | some b => Json.str b | none => Json.null),
    ("size", match m.size with | some b => Json.str b | none => Json.null),
    ("greedy", m.greedy), ("optional", m.optional)]

def pmOfJson (j : Json) : Except String Patch.PM := do
  pure { name := ← getStr j "name", type := ← getStr j "type", bound := optStr j "bound", size := optStr j "size",
         greedy := (j.getObjVal? "greedy" >>= Json.getBool?).toOption.getD false,
         optional := (j.getObjVal? "optional" >>= Json.getBool?).toOption.getD false }

def actionOfJson (j : Json) : Except String Patch.Action := do
  let a ← j.getArr?
  let w ← a.toList.mapM (·.getStr?)
  match w with
  | ["type", m, t] => pure (.type m t)
  | ["insert", i, n, t] => match i.toInt? with
    | some k => pure (.insert k n t)
    | none => throw "bad index"
  | ["remove", m] => pure (.remove m)
  | ["dynamic", m, l] => pure (.dynamic m l)
  | ["greedy", m] => pure (.greedy m)
  | ["static", m, s] => pure (.static m s)
  | ["limited", m, l] => pure (.limited m l)
  | ["rename", m, n] => pure (.rename m n)
  | _ => throw "bad action"

def handle (st : DState) (j : Json) : Except String (DState × Json) := do
  let op ← getStr j "op"
  match op with
  | "deft" =>
    let id ← getNat j "id"
    let ty ← tyOfJson (← j.getObjVal? "t")
    pure ({ st with types := st.types.insert id ty }, Json.mkObj [("ok", true)])
  | "spec_enc" =>
    let ty ← getTy st j
    let v ← valOfJson (← j.getObjVal? "v")
    let e ← endianOf (← getStr j "e")
    pure (st, Json.mkObj [("bytes", toHex (Spec.enc ty v e))])
  | "spec_chunks" =>
    let ty ← getTy st j
    let v ← valOfJson (← j.getObjVal? "v")
    let cs := (Spec.chunksTy ty v).map (fun c => match c with
      | .scalar k _ => Json.arr #[Json.str "s", Json.num k]
      | .pad n => Json.arr #[Json.str "p", Json.num n]
      | .raw b => Json.arr #[Json.str "r", Json.num b.length])
    pure (st, Json.mkObj [("chunks", Json.arr cs.toArray), ("gal", Spec.galTy ty v)])
  | "spec_member_lens" =>
    let ty ← getTy st j
    let v ← valOfJson (← j.getObjVal? "v")
    match ty, v with
    | .struct _ ms, .struct vs =>
      let lens := Spec.memberLens ms vs ms vs
      pure (st, Json.mkObj [("lens", Json.arr (lens.map (fun (n : Nat) => (n : Json))).toArray),
                            ("starts", Json.arr ((Spec.memberStarts ms lens 0 false).map (fun (n : Nat) => (n : Json))).toArray),
                            ("unlimited", Spec.unlTy ty),
                            ("total", (Spec.enc ty v .little).length)])
    | _, _ => pure (st, Json.mkObj [("lens", Json.null), ("total", (Spec.enc ty v .little).length)])
  | "spec_layout" =>
    let ty ← getTy st j
    pure (st, Json.mkObj [("size", Spec.sizeTy ty), ("align", Spec.alignTy ty),
      ("dyn", Spec.dynTy ty), ("unl", Spec.unlTy ty)])
  | "cpp_encode" =>
    let ty ← getTy st j
    let v ← valOfJson (← j.getObjVal? "v")
    let e ← endianOf (← getStr j "e")
    let cells := Cpp.encodePtr ty v e
    let size := Cpp.getByteSize ty v
    let vec := match Cpp.encodeVec ty v e with
      | .ok b => Json.str (toHex b)
      | .fault => Json.str "fault"
    pure (st, Json.mkObj [("size", size), ("ptr_written", cells.length),
      ("ptr_bytes_zero", toHex (cells.map (·.getD 0))),
      ("written_mask", String.ofList (cells.map fun c => if c.isSome then 'w' else '.')),
      ("vec", vec), ("encoded_byte_size", Json.num (JsonNumber.fromInt (Cpp.codecSize ty)))])
  | "spec_offsets" =>
    let ty ← getTy st j
    let pairs := fun (l : List (String × Nat)) => Json.arr (l.map fun (n, o) => Json.arr #[Json.str n, (o : Json)]).toArray
    match ty with
    | .struct _ ms => pure (st, Json.mkObj [("blocks", Json.arr ((Spec.blockOffsets ms).map pairs).toArray),
        ("size", Spec.sizeTy ty), ("align", Spec.alignTy ty), ("fixed", !(Spec.dynTy ty))])
    | .union _ arms =>
      let a := max Spec.flagSize (Spec.alignArms arms)
      pure (st, Json.mkObj [("blocks", Json.arr #[pairs (("discriminator", 0) :: arms.map fun arm => (arm.name, a))]),
        ("size", Spec.sizeTy ty), ("align", Spec.alignTy ty), ("fixed", true)])
    | _ => throw "spec_offsets: composite expected"
  | "raw_layout" =>
    let ty ← getTy st j
    let pairs := fun (l : List (String × Nat)) => Json.arr (l.map fun (n, o) => Json.arr #[Json.str n, (o : Json)]).toArray
    match ty with
    | .struct _ ms =>
      let bs := Raw.structBlocks ms
      pure (st, Json.mkObj [("sizeof", Raw.sizeofTy ty), ("alignof", Raw.alignofTy ty),
        ("blocks", Json.arr (bs.map fun b => Json.mkObj [("align", b.align), ("sizeof", b.sizeof),
          ("fields", pairs (Raw.offsets b.fields 0))]).toArray)])
    | .union _ arms =>
      pure (st, Json.mkObj [("sizeof", Raw.sizeofTy ty), ("alignof", Raw.alignofTy ty),
        ("blocks", Json.arr #[Json.mkObj [("align", Raw.alignofTy ty), ("sizeof", Raw.sizeofTy ty),
          ("fields", pairs (Raw.unionLayout arms))]])])
    | _ => throw "raw_layout: composite expected"
  | "raw_swap" =>
    let ty ← getTy st j
    let data ← ofHex (← getStr j "data")
    match Raw.swap ty data with
    | some (b, ret) => pure (st, Json.mkObj [("data", toHex b), ("ret", ret)])
    | none => pure (st, Json.mkObj [("fault", true)])
  | "api_run" =>
    let ty ← getTy st j
    let ops ← (← getArr j "ops").toList.mapM opOfJson
    let init := Api.defaultTy ty
    -- states after every operation, outcomes, and whether each state is well typed
    let rec go (v : Val) : List Api.Op → List Json
      | [] => []
      | op :: r =>
        let (nv, e) := Api.step ty v op
        Json.mkObj [("exc", match e with | some x => Json.str (excName x) | none => Json.null),
                    ("state", valToJson nv), ("typed", hasType ty nv)] :: go nv r
    pure (st, Json.mkObj [("init", valToJson init), ("init_typed", hasType ty init), ("steps", Json.arr (go init ops).toArray)])
  | "prophyc_files" =>
    let strs := fun (x : Json) => do pure ((← x.getArr?).toList.mapM (·.getStr?))
    let fs ← (← getArr j "files").toList.mapM (fun f => do
      pure ({ id := ⟨← getStr f "dir", ← getStr f "leaf"⟩,
              includes := ← (← strs (← f.getObjVal? "includes")),
              defines := ← (← strs (← f.getObjVal? "defines")) } : Files.File))
    let dirs ← (← strs (← j.getObjVal? "include_dirs"))
    let mains ← (← getArr j "mains").toList.mapM (fun f => do
      pure (⟨← getStr f "dir", ← getStr f "leaf"⟩ : Files.FileId))
    match Files.processMains fs dirs mains [] with
    | .ok rs => pure (st, Json.mkObj [("results", Json.arr (rs.map fun (f, r) => Json.mkObj [
        ("leaf", f.leaf), ("visible", Json.arr (r.visible.map Json.str).toArray),
        ("parsed", Json.arr (r.parsed.map fun g => Json.str (g.dir ++ "/" ++ g.leaf)).toArray)]).toArray)])
    | .error (.notFound l) => pure (st, Json.mkObj [("error", "not found"), ("leaf", l)])
    | .error (.cyclic f) => pure (st, Json.mkObj [("error", "cyclic"), ("leaf", f.leaf)])
  | "prophyc_files_links" =>
    let strs := fun (x : Json) => do pure ((← x.getArr?).toList.mapM (·.getStr?))
    let entries ← (← getArr j "entries").toList.mapM (fun e => do
      pure ({ path := ⟨← getStr e "dir", ← getStr e "leaf"⟩, target := ⟨← getStr e "tdir", ← getStr e "tleaf"⟩,
              ident := ⟨← getStr e "idir", ← getStr e "ileaf"⟩ } : FilesL.Entry))
    let files ← (← getArr j "files").toList.mapM (fun f => do
      pure ({ id := ⟨← getStr f "dir", ← getStr f "leaf"⟩,
              includes := ← (← strs (← f.getObjVal? "includes")),
              defines := ← (← strs (← f.getObjVal? "defines")) } : FilesL.File))
    let dirs ← (← strs (← j.getObjVal? "include_dirs"))
    let mains ← (← getArr j "mains").toList.mapM (fun f => do
      pure (⟨← getStr f "dir", ← getStr f "leaf"⟩ : FilesL.Path))
    let fs : FilesL.FS := { entries := entries, files := files }
    let shapeJson := fun (sh : List (Nat × FilesL.Path)) =>
      Json.arr (sh.map fun (d, g) => Json.arr #[Json.num d, Json.str (g.dir ++ "/" ++ g.leaf)]).toArray
    let alone := Json.arr (mains.map (fun m =>
      match FilesL.eval fs dirs (FilesL.fuelOf fs) [] m with
      | .ok (_, vis, sh) => Json.mkObj [("visible", Json.arr (vis.map Json.str).toArray), ("shape", shapeJson sh)]
      | .error _ => Json.null)).toArray
    match FilesL.processMains fs dirs mains {} with
    | .ok rs => pure (st, Json.mkObj [("results", Json.arr (rs.map fun (f, r) => Json.mkObj [
        ("leaf", f.leaf), ("visible", Json.arr (r.visible.map Json.str).toArray),
        ("parsed", Json.arr (r.parsed.map fun g => Json.str (g.dir ++ "/" ++ g.leaf)).toArray),
        ("shape", shapeJson r.shape)]).toArray), ("alone", alone)])
    | .error e =>
      let kind := match e with
        | .notFound _ => "notFound" | .cyclic _ => "cyclic" | .sameName _ => "sameName"
        | .ambiguous _ _ => "ambiguous" | .tooDeep _ => "tooDeep" | .twoNames _ => "twoNames"
      pure (st, Json.mkObj [("error", kind), ("alone", alone)])
  | "isar_members" =>
    let flagText : Option String := match j.getObjVal? "dim" with
      | .ok d => optStr d "isVariableSize"
      | _ => none
    if (match flagText with | some v => (Patch.readFlag v).isNone | none => false) then
      return (st, Json.mkObj [("error", "flag")])
    let dim : Option Patch.Dim := match j.getObjVal? "dim" with
      | .ok (.obj _) =>
        let d := (j.getObjVal? "dim").toOption.getD Json.null
        let size := optStr d "size"
        some { size := size, size2 := optStr d "size2", sizerName := optStr d "variableSizeFieldName",
               sizerType := optStr d "variableSizeFieldType",
               isVariable := (match optStr d "isVariableSize" with       -- read by value (D90), by one rule (D201)
                 | some v => (Patch.readFlag v).getD false
                 | none => false),
               marker := match size with
                 | some s => decide ((s.splitOn "THIS_IS_VARIABLE_SIZE_ARRAY").length > 1)
                 | none => false }
      | _ => none
    let ms := Patch.isarMembers (← getStr j "name") (← getStr j "type")
      ((j.getObjVal? "optional" >>= Json.getBool?).toOption.getD false) dim
      ((j.getObjVal? "message" >>= Json.getBool?).toOption.getD false)
    pure (st, Json.mkObj [("members", Json.arr (ms.map pmToJson).toArray)])
  | "patch_apply" =>
    let ms ← (← getArr j "members").toList.mapM pmOfJson
    let acts ← (← getArr j "actions").toList.mapM actionOfJson
    match Patch.applyRules ms acts with
    | .ok r => pure (st, Json.mkObj [("members", Json.arr (r.map pmToJson).toArray)])
    | .error _ => pure (st, Json.mkObj [("error", true)])
  | "accepts" =>
    let ty ← getTy st j
    pure (st, Json.mkObj [("front", Accept.front ty), ("pyrt", Accept.pyRt ty), ("wf", WF.wfTy ty), ("model", Accept.model ty),
      ("grammar", Accept.grammar ty)])
  | "py_copy" =>
    let ty ← getTy st j
    let v ← valOfJson (← j.getObjVal? "v")
    let (c, shared) := Copy.copyFrom ty v
    pure (st, Json.mkObj [("val", valToJson c), ("shared", shared)])
  | "has_type" =>
    let ty ← getTy st j
    let v ← valOfJson (← j.getObjVal? "v")
    pure (st, Json.mkObj [("typed", hasType ty v)])
  | "py_str" =>
    let ty ← getTy st j
    let v ← valOfJson (← j.getObjVal? "v")
    pure (st, Json.mkObj [("text", Text.pyText ty v)])
  | "cpp_print" =>
    let ty ← getTy st j
    let v ← valOfJson (← j.getObjVal? "v")
    pure (st, Json.mkObj [("text", Text.cppText ty v)])
  | "cpp_traits" =>
    let ty ← getTy st j
    pure (st, Json.mkObj [("opt_misaligned", Cpp.optMisaligned ty), ("cpp_align", Cpp.cppAlign ty),
      ("codec_size", Json.num (JsonNumber.fromInt (Cpp.codecSize ty)))])
  | "cpp_decode" =>
    let ty ← getTy st j
    let data ← ofHex (← getStr j "data")
    let e ← endianOf (← getStr j "e")
    match Cpp.decode ty data e with
    | .accepted v rs => pure (st, Json.mkObj [("outcome", "accepted"), ("val", valToJson v),
        ("resizes", Json.arr (rs.map fun (n : Nat) => (n : Json)).toArray)])
    | .rejected rs => pure (st, Json.mkObj [("outcome", "rejected"),
        ("resizes", Json.arr (rs.map fun (n : Nat) => (n : Json)).toArray)])
    | .fault => pure (st, Json.mkObj [("outcome", "fault")])
    | .exception rs => pure (st, Json.mkObj [("outcome", "exception"),
        ("resizes", Json.arr (rs.map fun (n : Nat) => (n : Json)).toArray)])
  | "prophyc_eval" =>
    let text ← getStr j "text"
    let env ← envOfJson (← j.getObjVal? "env")
    let octal ← (← j.getObjVal? "octal").getBool?
    match Expr.evalText octal env text with
    | .value v => pure (st, Json.mkObj [("value", Json.num (JsonNumber.fromInt v))])
    | .syntaxError => pure (st, Json.mkObj [("error", "syntax")])
    | .evalError x => pure (st, Json.mkObj [("error", evalErrJson x)])
  | "prophyc_host" =>
    -- what the host languages compute from expression text that prophyc pasted (ProphyModel/ExprHosts.lean; theorems: Lemmas/ExprHostTree.lean, Lemmas/ExprHost.lean):
    -- calc's tree and value, the tree Python / C++ read, Python's value, C++'s value in `int` arithmetic
    let text ← getStr j "text"
    let env ← envOfJson (← j.getObjVal? "env")
    let res : Except Expr.EvalErr Int → Json := fun r => match r with
      | .ok v => Json.num (JsonNumber.fromInt v)
      | .error x => Json.mkObj [("error", evalErrJson x)]
    match Expr.tokenize false text with
    | none => pure (st, Json.mkObj [("error", "syntax")])
    | some toks =>
      let ctree := Expr.parse toks
      let host := Expr.parseWith Expr.hostInfo toks
      pure (st, Json.mkObj [
        ("calc", match ctree with | some a => res (Expr.eval env a) | none => Json.str "syntax"),
        ("same_tree", Json.bool (ctree.isSome && ctree == host)),
        ("py", match host with | some b => res (Expr.evalPy env b) | none => Json.str "syntax"),
        ("cpp", match host with | some b => res (Expr.evalCpp env b) | none => Json.str "syntax"),
        ("prec_safe", match ctree with | some a => Json.bool (Expr.precSafe a) | none => Json.null),
        ("int32_safe", match ctree with | some a => Json.bool (Expr.int32Safe env a) | none => Json.null)])
  | "prophyc_write_files" =>
    -- write_files (ProphyModel/FilesW.lean): targets = [[node | null, data text]], files = [[ident, text]] (what exists), full = [ident]
    let targets ← (← getArr j "targets").toList.mapM (fun e => do
      let a ← e.getArr?
      let node : Option Nat := match a[0]!.getNat? with
        | .ok i => some i
        | .error _ => none
      pure ({ node := node, data := (← a[1]!.getStr?).toList.map Char.toNat } : FilesW.Target))
    let files ← (← getArr j "files").toList.mapM (fun e => do
      let a ← e.getArr?
      pure ((← a[0]!.getNat?), (← a[1]!.getStr?).toList.map Char.toNat))
    let full ← (← getArr j "full").toList.mapM (fun e => e.getNat?)
    let ids ← (← getArr j "ids").toList.mapM (fun e => e.getNat?)
    let fs : FilesW.FS := fun i => (files.find? (fun f => f.1 == i)).map (·.2)
    let (ok, contents) := FilesW.observe (fun i => full.contains i) fs targets ids
    let text (b : List Nat) : String := String.ofList (b.map Char.ofNat)
    pure (st, Json.mkObj [("ok", Json.bool ok),
      ("contents", Json.arr (contents.map (fun c => match c with | some b => Json.str (text b) | none => Json.null)).toArray)])
  | "cpp_literal" =>
    -- `_to_literal` of the C++ generators (ProphyModel/CppLit.lean): the text written, what int(text, 0) gives, what a C++
    -- compiler reads from the written text, the value of a lone literal and whether it is rendered rather than pasted
    let cs := (← getStr j "text").toList
    let optInt (o : Option Int) : Json := match o with | some i => Json.num (JsonNumber.fromInt i) | none => Json.null
    pure (st, Json.mkObj [("literal", Json.str (String.ofList (CppLit.toLiteral cs))),
      ("py", optInt (CppLit.pyInt0 cs)),
      ("read", optInt (CppLit.cppRead (CppLit.toLiteral cs))),
      ("lone", optInt (CppLit.loneValue cs)),
      ("rendered", Json.bool (CppLit.rendered cs))])
  | "name_scan" =>
    -- the names `check_cpp_names` sees in an expression text (ProphyModel/NameScan.lean) and the identifier tokens calc reads
    let cs := (← getStr j "text").toList
    let idents : Json := match Expr.lex false (cs.length + 1) cs with
      | some ts => Json.arr ((NameScan.identsOf ts).map Json.str).toArray
      | none => Json.null
    pure (st, Json.mkObj [("names", Json.arr ((NameScan.scan cs).map Json.str).toArray), ("idents", idents)])
  | "calc_resolve" =>
    -- the name-resolution loop of calc (ProphyModel/Resolve.lean): vars = [[name, value]], value = int | string | null
    let vars ← (← getArr j "vars").toList.mapM (fun e => do
      let a ← e.getArr?
      let v : Resolve.Val := match a[1]! with
        | .str s => .name s
        | .null => .none
        | x => match x.getInt? with
          | .ok i => .int i
          | .error _ => .none
      pure ((← a[0]!.getStr?), v))
    match Resolve.resolve vars (← getStr j "name") with
    | .ok v => pure (st, Json.mkObj [("value", Json.num (JsonNumber.fromInt v))])
    | .error .selfDefined => pure (st, Json.mkObj [("error", "selfDefined")])
    | .error .notFound => pure (st, Json.mkObj [("error", "notFound")])
    | .error .fuel => pure (st, Json.mkObj [("error", "fuel")])
  | "prophyc_const" =>
    let text ← getStr j "text"
    let env ← envOfJson (← j.getObjVal? "env")
    match Expr.constText env text with
    | .value v => pure (st, Json.mkObj [("value", Json.num (JsonNumber.fromInt v))])
    | .syntaxError => pure (st, Json.mkObj [("error", "syntax")])
    | .evalError x => pure (st, Json.mkObj [("error", evalErrJson x)])
  | "expr_eval_ast" =>
    let ast ← astOfJson (← j.getObjVal? "ast")
    let env ← envOfJson (← j.getObjVal? "env")
    match Expr.eval env ast with
    | .ok v => pure (st, Json.mkObj [("value", Json.num (JsonNumber.fromInt v))])
    | .error x => pure (st, Json.mkObj [("error", evalErrJson x)])
  | "prophyc_topo" =>
    let ds ← (← getArr j "decls").toList.mapM (fun d => do
      let k ← getStr d "k"
      let n ← getStr d "name"
      match k with
      | "const" => pure (Topo.Decl.const n (← getStr d "value"))
      | "typedef" => pure (Topo.Decl.typedef n (← getStr d "type"))
      | "include" => pure (Topo.Decl.incl n)
      | "enum" =>
        let ms ← (← getArr d "members").toList.mapM (fun m => do
          let a ← m.getArr?
          pure ((← a[0]!.getStr?), (← a[1]!.getStr?)))
        pure (Topo.Decl.enum n ms)
      | "struct" =>
        let ms ← (← getArr d "members").toList.mapM (fun m => do
          let a ← m.getArr?
          pure ((← a[0]!.getStr?), (match a[1]! with | .str s => some s | _ => none)))
        pure (Topo.Decl.struct n ms)
      | "union" =>
        let ms ← (← getArr d "members").toList.mapM (fun m => do
          let a ← m.getArr?
          pure ((← a[0]!.getStr?), (← a[1]!.getStr?)))
        pure (Topo.Decl.union n ms)
      | s => throw s!"bad decl kind {s}")
    match Topo.sortDecls ds with
    | some order => pure (st, Json.mkObj [("order", Json.arr (order.map Json.str).toArray)])
    | none => pure (st, Json.mkObj [("cycle", true)])
  | "prophyc_layout" =>
    let ty ← getTy st j
    let n := PL.nodeTy ty
    let members := match ty with
      | .struct _ ms => Json.arr ((PL.structMembers ms).map (fun (s, a, p) =>
          Json.mkObj [("size", s), ("align", a), ("padding", Json.num (JsonNumber.fromInt p))])).toArray
      | .union _ arms => Json.arr ((PL.armsOf arms).map (fun n =>
          Json.mkObj [("size", n.size), ("align", n.align)])).toArray
      | _ => Json.null
    pure (st, Json.mkObj [("size", n.size), ("align", n.align), ("kind", n.kind), ("members", members)])
  | "py_statics" =>
    let ty ← getTy st j
    let fields := match ty with
      | .struct _ ms =>
        let fs := Py.stMs ms
        Json.arr ((fs.zip (Py.partials fs)).map (fun (f, p) =>
          Json.mkObj [("st", stJson f), ("partial", match p with | some a => Json.num a | none => Json.null)])).toArray
      | _ => Json.null
    pure (st, Json.mkObj [("st", stJson (Py.stTy ty)), ("fields", fields)])
  | "py_encode" =>
    let ty ← getTy st j
    let v ← valOfJson (← j.getObjVal? "v")
    let e ← endianOf (← getStr j "e")
    match Py.encode ty v e with
    | .ok b => pure (st, Json.mkObj [("bytes", toHex b)])
    | .error x => pure (st, Json.mkObj [("exc", excName x)])
  | "hypotheses" =>
    -- the hypotheses of the codec theorems (C01 / C19 / C02) on this (type, value)
    let ty ← getTy st j
    let v ← valOfJson (← j.getObjVal? "v")
    pure (st, Json.mkObj [("wf", WF.wfTy ty), ("typed", hasType ty v), ("agree", WF.agreeTy ty v), ("guard", WF.guardTy ty v),
      ("gal", Spec.galTy ty v), ("front", Accept.front ty), ("pyrt", Accept.pyRt ty)])
  | "py_decode" =>
    let ty ← getTy st j
    let data ← ofHex (← getStr j "data")
    let e ← endianOf (← getStr j "e")
    match Py.decode ty data e with
    | .ok (v, n) => pure (st, Json.mkObj [("val", valToJson v), ("size", n)])
    | .error x => pure (st, Json.mkObj [("exc", excName x)])
  | _ => throw s!"unknown op {op}"

partial def loop (hin hout : IO.FS.Stream) (st : DState) : IO Unit := do
  let line ← hin.getLine
  if line.isEmpty then return ()
  let line := line.trimAscii.toString
  if line.isEmpty then loop hin hout st else
  match Json.parse line >>= handle st with
  | .ok (st', out) =>
    hout.putStrLn out.compress
    loop hin hout st'
  | .error err =>
    hout.putStrLn (Json.mkObj [("driver_error", err)]).compress
    loop hin hout st

def main : IO Unit := do
  let hin ← IO.getStdin
  let hout ← IO.getStdout
  loop hin hout {}
  hout.flush
