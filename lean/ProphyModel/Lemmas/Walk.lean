/- what prophyc's signed paddings do to an offset, and what the walk over a struct's members (`Cpp.LayInv.step`,
   Lemmas/Lay.lean) asks of a member's bytes -/
import ProphyModel.Spec
import ProphyModel.Lemmas.Align
namespace Prophy
namespace PL

/-- what a signed padding does to an offset (`>= 0`: that many bytes, `< 0`: align to `|p|`) -/
def applyPad (p : Int) (x : Nat) : Nat := if p < 0 then x + padTo x p.natAbs else x + p.toNat

/-- the padding evaluate_struct_size records before a member of alignment `a` whose static offset is `bs`: an
    alignment request after a dynamic member of smaller alignment `aPrev`, else the static distance -/
def padBetween (dynPrev : Bool) (aPrev a bs : Nat) : Int :=
  if (dynPrev && decide (aPrev < a)) = true then -(a : Int) else (padTo bs a : Int)

theorem applyPad_padBetween (dynPrev : Bool) (aPrev a bs x : Nat) (ha : 0 < a)
    (h : (dynPrev && decide (aPrev < a)) = false → x % a = bs % a) :
    applyPad (padBetween dynPrev aPrev a bs) x = alignUp x a := by
  unfold padBetween applyPad
  cases hc : (dynPrev && decide (aPrev < a))
  · have : ¬ ((padTo bs a : Int) < 0) := by omega
    simp only [Bool.false_eq_true, if_false, this, Int.toNat_natCast, alignUp]
    rw [padTo_congr a x bs (h hc)]
  · have h1 : -(a : Int) < 0 := by omega
    simp only [if_true, if_pos h1, Int.natAbs_neg, Int.natAbs_natCast, alignUp]

/-- the own bytes `l` of a member against its static size `s`: equal unless the member ends its block, else both
    multiples of its alignment -/
structure LenOk (m : Member) (l s : Nat) : Prop where
  stat : Spec.endsBlock m = false → l = s
  dyn : Spec.endsBlock m = true → Spec.alignMember m ∣ l ∧ Spec.alignMember m ∣ s

end PL

namespace Cpp

/-- the same read as a number of bytes: what the padding adds at offset `pos` -/
def padLen (p : Int) (pos : Nat) : Nat := if p < 0 then padTo pos p.natAbs else p.toNat

theorem applyPad_eq (p : Int) (x : Nat) : PL.applyPad p x = x + padLen p x := by
  unfold PL.applyPad padLen; split <;> rfl

end Cpp
end Prophy
