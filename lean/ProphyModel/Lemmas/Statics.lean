/- statics of the Spec definitions: positivity, fixed / dynamic / unlimited, equations on constructors.  `Spec.*`
   definitions in Lemmas/ are proof vocabulary: `slot`, `fieldChunks`, `memberLen` name the loop bodies of `endMs`,
   `chunksMs`, `memberLens` (by `rfl`); the others are tied to Spec.lean by a theorem beside them. -/
import ProphyModel.Spec
import ProphyModel.Lemmas.Align
import ProphyModel.Lemmas.ListLemmas
namespace Prophy

mutual
  theorem Spec.alignTy_pos : (t : Ty) → 0 < Spec.alignTy t
    | .prim p => by cases p <;> simp [Spec.alignTy, Prim.size]
    | .byte => by simp [Spec.alignTy]
    | .enum _ _ => by simp [Spec.alignTy]
    | .struct _ ms => by simp only [Spec.alignTy]; exact Spec.alignMs_pos ms
    | .union _ arms => by simp only [Spec.alignTy, Spec.flagSize]; omega
  theorem Spec.alignMs_pos : (ms : List Member) → 0 < Spec.alignMs ms
    | [] => by simp [Spec.alignMs]
    | .mk _ t k :: r => by
      have := Spec.alignMs_pos r
      simp only [Spec.alignMs]; omega
end

theorem Spec.alignMember_pos (m : Member) : 0 < Spec.alignMember m := by
  obtain ⟨n, t, k⟩ := m
  have := Spec.alignTy_pos t
  unfold Spec.alignMember
  cases k <;> simp [Member.kind, Member.ty, Spec.flagSize] <;> omega

theorem Spec.alignMs_cons (n : String) (t : Ty) (k : MKind) (r : List Member) :
    Spec.alignMs (.mk n t k :: r) = max (Spec.alignMember (.mk n t k)) (Spec.alignMs r) := by
  cases k <;> rfl

theorem Spec.alignMember_le_alignMs (n : String) (t : Ty) (k : MKind) (r : List Member) :
    Spec.alignMember (.mk n t k) ≤ Spec.alignMs (.mk n t k :: r) := by
  rw [Spec.alignMs_cons]; exact Nat.le_max_left _ _

theorem Spec.fixedMs_cons (n : String) (t : Ty) (k : MKind) (r : List Member) :
    Spec.fixedMs (.mk n t k :: r) = true ↔ k.isStatic = true ∧ Spec.fixedTy t = true ∧ Spec.fixedMs r = true := by
  simp [Spec.fixedMs, and_assoc]

mutual
  theorem Spec.dynTy_of_fixed : (t : Ty) → Spec.fixedTy t = true → Spec.dynTy t = false
    | .prim _, _ => rfl
    | .byte, _ => rfl
    | .enum _ _, _ => rfl
    | .union _ _, _ => rfl
    | .struct _ ms, h => by
      simp only [Spec.dynTy]
      exact Spec.dynMs_of_fixed ms (by simpa [Spec.fixedTy] using h)
  theorem Spec.dynMs_of_fixed : (ms : List Member) → Spec.fixedMs ms = true → Spec.dynMs ms = false
    | [], _ => rfl
    | .mk _ t k :: r, h => by
      obtain ⟨hk, ht', hr'⟩ := (Spec.fixedMs_cons _ t k r).1 h
      have hr := Spec.dynMs_of_fixed r hr'
      have ht := Spec.dynTy_of_fixed t ht'
      simp only [Spec.dynMs, hr, Bool.or_false]
      cases k <;> simp_all [MKind.isStatic]
end

theorem Spec.endsBlock_of_fixed (n : String) (t : Ty) (k : MKind) (r : List Member)
    (h : Spec.fixedMs (.mk n t k :: r) = true) : Spec.endsBlock (.mk n t k) = false := by
  obtain ⟨hk, ht', _⟩ := (Spec.fixedMs_cons n t k r).1 h
  have ht := Spec.dynTy_of_fixed t ht'
  unfold Spec.endsBlock
  cases k <;> simp_all [Member.kind, Member.ty, MKind.isStatic]

/-- the `slot` of `Spec.endMs`.  Beside it: prophyc's `byte_size` (`Cpp.mslot`; bridge `PL.memOf_slot_ok`), the bytes of
    the generated raw fields (`Raw.rawSlot`; `rawSlot_eq_slot`), the bytes of a value (`Spec.memberLen`; `PL.LenOk`) -/
def Spec.slot (t : Ty) : MKind → Nat
  | .plain => Spec.sizeTy t
  | .optional => max Spec.flagSize (Spec.alignTy t) + Spec.sizeTy t
  | .fixed c => c * Spec.sizeTy t
  | .limited _ c => c * Spec.sizeTy t
  | .dyn _ _ => 0
  | .greedy => 0

theorem Spec.endMs_cons (n : String) (t : Ty) (k : MKind) (r : List Member) (off : Nat) (ad : Bool) :
    Spec.endMs (.mk n t k :: r) off ad =
      Spec.endMs r (alignUp off (if ad then Spec.blockAlign (.mk n t k :: r) else Spec.alignMember (.mk n t k)) + Spec.slot t k)
        (Spec.endsBlock (.mk n t k)) := by
  simp only [Spec.endMs, Spec.slot]
  cases k <;> rfl

theorem Spec.endMs_alignUp (m : Member) (r : List Member) (x : Nat) :
    Spec.endMs (m :: r) (alignUp x (Spec.alignMember m)) false = Spec.endMs (m :: r) x false := by
  obtain ⟨n, t, k⟩ := m
  rw [Spec.endMs_cons, Spec.endMs_cons]
  simp only [Bool.false_eq_true, if_false]
  rw [alignUp_idem _ _ (Spec.alignMember_pos _)]

theorem Spec.sizeTy_struct (n : String) (ms : List Member) :
    Spec.sizeTy (.struct n ms) = alignUp (Spec.endMs ms 0 false) (Spec.alignMs ms) := rfl

/-- Spec.lean writes `max Spec.flagSize`, Cpp.lean and PLayout `max 4` / `discSize`: equal by `rfl`, not for `rw` -/
theorem Spec.sizeTy_union (n : String) (arms : List Arm) :
    Spec.sizeTy (.union n arms) =
      alignUp (max Spec.flagSize (Spec.alignArms arms) + Spec.maxArm arms) (max Spec.flagSize (Spec.alignArms arms)) := rfl

theorem Spec.sizeTy_union_name (nm nm' : String) (arms : List Arm) :
    Spec.sizeTy (.union nm arms) = Spec.sizeTy (.union nm' arms) := by simp [Spec.sizeTy]

theorem Spec.alignTy_dvd_sizeTy (t : Ty) : Spec.alignTy t ∣ Spec.sizeTy t := by
  cases t with
  | prim p => exact Nat.dvd_refl _
  | byte => exact Nat.dvd_refl _
  | enum _ _ => exact Nat.dvd_refl _
  | struct nm ms => simp only [Spec.sizeTy, Spec.alignTy]; exact dvd_alignUp _ _ (Spec.alignMs_pos ms)
  | union nm arms =>
    simp only [Spec.sizeTy, Spec.alignTy]
    exact dvd_alignUp _ _ (by simp [Spec.flagSize]; omega)

theorem Spec.flag_add_maxArm_le_sizeTy_union (nm : String) (arms : List Arm) :
    max 4 (Spec.alignArms arms) + Spec.maxArm arms ≤ Spec.sizeTy (.union nm arms) := by
  rw [Spec.sizeTy_union]
  exact le_alignUp _ _

theorem Spec.flag_le_sizeTy_union (nm : String) (arms : List Arm) :
    max 4 (Spec.alignArms arms) ≤ Spec.sizeTy (.union nm arms) :=
  Nat.le_trans (Nat.le_add_right _ _) (Spec.flag_add_maxArm_le_sizeTy_union nm arms)

theorem Spec.blockAlign_cons (m : Member) (r : List Member) :
    Spec.blockAlign (m :: r) =
      if Spec.endsBlock m then Spec.alignMember m else max (Spec.alignMember m) (Spec.blockAlign r) := rfl

theorem Spec.blockAlign_single (m : Member) : Spec.blockAlign [m] = Spec.alignMember m := by
  have := Spec.alignMember_pos m
  simp only [Spec.blockAlign]
  split <;> omega

theorem Spec.blockAlign_of_endsBlock (m : Member) (r : List Member) (h : Spec.endsBlock m = true) :
    Spec.blockAlign (m :: r) = Spec.alignMember m := by
  rw [Spec.blockAlign_cons, if_pos h]

theorem Spec.blockAlign_of_not_endsBlock (m : Member) (r : List Member) (h : Spec.endsBlock m = false) :
    Spec.blockAlign (m :: r) = max (Spec.alignMember m) (Spec.blockAlign r) := by
  rw [Spec.blockAlign_cons, h]; rfl

theorem Spec.dynMs_cons (n : String) (t : Ty) (k : MKind) (r : List Member) :
    Spec.dynMs (.mk n t k :: r) = (Spec.endsBlock (.mk n t k) || Spec.dynMs r) := by
  cases k <;> rfl

theorem Spec.dynMs_of_endsBlock (m : Member) (r : List Member) (h : Spec.endsBlock m = true) : Spec.dynMs (m :: r) = true := by
  obtain ⟨n, t, k⟩ := m
  rw [Spec.dynMs_cons, h]; rfl

theorem Spec.dynMs_tail (m : Member) (r : List Member) (h : Spec.dynMs r = true) : Spec.dynMs (m :: r) = true := by
  obtain ⟨n, t, k⟩ := m
  rw [Spec.dynMs_cons, h]; simp

theorem Spec.dynMs_of_mem_endsBlock : (ms : List Member) → ∀ m ∈ ms, Spec.endsBlock m = true → Spec.dynMs ms = true
  | [], _, hm, _ => by cases hm
  | m' :: r, m, hm, he => by
    rcases List.mem_cons.1 hm with rfl | hr
    · exact Spec.dynMs_of_endsBlock m r he
    · exact Spec.dynMs_tail m' r (Spec.dynMs_of_mem_endsBlock r m hr he)

theorem Spec.unlMs_cons (n : String) (t : Ty) (k : MKind) (r : List Member) :
    Spec.unlMs (.mk n t k :: r) = ((match k with
      | .greedy => true
      | .plain => Spec.unlTy t
      | _ => false) || Spec.unlMs r) := by
  cases k <;> rfl

theorem Spec.fixedArms_cons (n : String) (d : Nat) (t : Ty) (r : List Arm) :
    Spec.fixedArms (.mk n d t :: r) = true ↔ Spec.fixedTy t = true ∧ Spec.fixedArms r = true := by
  simp [Spec.fixedArms]

theorem Spec.le_maxArm : (arms : List Arm) → (idx : Nat) → (a : Arm) → arms[idx]? = some a →
    Spec.sizeTy a.ty ≤ Spec.maxArm arms
  | [], idx, a, h => by simp at h
  | .mk n d t :: r, idx, a, h => by
    cases idx with
    | zero => simp at h; subst h; simp only [Spec.maxArm, Arm.ty]; omega
    | succ i =>
      simp at h
      have := Spec.le_maxArm r i a h
      simp only [Spec.maxArm]; omega

theorem Spec.fixedArms_get (arms : List Arm) (hf : Spec.fixedArms arms = true) (idx : Nat) (n : String) (d : Nat)
    (t : Ty) (h : arms[idx]? = some (.mk n d t)) : Spec.fixedTy t = true ∧ Spec.sizeTy t ≤ Spec.maxArm arms :=
  ⟨get_of_cons (P := fun a => Spec.fixedTy a.ty = true) (fun ⟨_, _, _⟩ _ h => Bool.and_eq_true_iff.1 h) hf h,
    Spec.le_maxArm arms idx _ h⟩

mutual
  /-- "Struct which contains greedy array or unlimited struct in the last field" is in particular dynamic -/
  theorem Spec.dynTy_of_unl : (t : Ty) → Spec.unlTy t = true → Spec.dynTy t = true
    | .prim _, h => by simp [Spec.unlTy] at h
    | .byte, h => by simp [Spec.unlTy] at h
    | .enum _ _, h => by simp [Spec.unlTy] at h
    | .union _ _, h => by simp [Spec.unlTy] at h
    | .struct _ ms, h => by
      simp only [Spec.unlTy] at h
      simp only [Spec.dynTy]
      exact Spec.dynMs_of_unl ms h
  theorem Spec.dynMs_of_unl : (ms : List Member) → Spec.unlMs ms = true → Spec.dynMs ms = true
    | [], h => by simp [Spec.unlMs] at h
    | .mk n t k :: r, h => by
      simp only [Spec.unlMs, Bool.or_eq_true] at h
      simp only [Spec.dynMs, Bool.or_eq_true]
      rcases h with h | h
      · left
        cases k with
        | plain => exact Spec.dynTy_of_unl t h
        | greedy => rfl
        | optional => simp at h
        | fixed c => simp at h
        | dyn s sh => rfl
        | limited s c => simp at h
      · right; exact Spec.dynMs_of_unl r h
end

theorem Spec.unlTy_of_fixed (t : Ty) (h : Spec.fixedTy t = true) : Spec.unlTy t = false := by
  cases hu : Spec.unlTy t with
  | false => rfl
  | true => exact absurd (Spec.dynTy_of_unl t hu) (by rw [Spec.dynTy_of_fixed t h]; simp)

theorem Spec.unlMs_of_fixed (ms : List Member) (h : Spec.fixedMs ms = true) : Spec.unlMs ms = false := by
  cases hu : Spec.unlMs ms with
  | false => rfl
  | true => exact absurd (Spec.dynMs_of_unl ms hu) (by rw [Spec.dynMs_of_fixed ms h]; simp)

end Prophy
