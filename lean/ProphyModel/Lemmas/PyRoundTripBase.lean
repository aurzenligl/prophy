/- What the decode-inverts-encode theorem (C02) needs of the Python decoder before its induction: scalars and
   counters read back at a position, the arm `_get_discriminated_field` picks, the range and guard of a struct
   value's counters. -/
import ProphyModel.Lemmas.Counters
import ProphyModel.Lemmas.PyDecodeStep
import ProphyModel.Lemmas.EncLen
import ProphyModel.Lemmas.PyEncode
namespace Prophy
open Prophy WF Accept

theorem Py.decScalar_nat_at (e : Endian) (p : Prim) (n : Nat) (data pre post : Bytes) (pos : Nat)
    (hd : data = pre ++ (scalarBytes e p.size n ++ post)) (hp : pre.length = pos)
    (hr : inRange p (n : Int) = true) : Py.decScalar e p data pos = .ok ((n : Int), p.size) := by
  apply Py.decScalar_at e p n data pre post pos _ hp hr
  rw [toUnsigned_nat p.size n (inRange_nat_lt p n hr)]; exact hd

theorem Py.decSizer_at (e : Endian) (p : Prim) (c sh : Nat) (data pre post : Bytes) (pos : Nat)
    (hd : data = pre ++ (scalarBytes e p.size (c + sh) ++ post)) (hp : pre.length = pos)
    (hr : inRange p ((c + sh : Nat) : Int) = true) (hg : c ≤ guardLimit) :
    Py.decSizer e p sh data pos = .ok (c, p.size) := by
  unfold Py.decSizer
  rw [Py.decScalar_nat_at e p (c + sh) data pre post pos hd hp hr]
  have hg' : ¬ (((c + sh : Nat) : Int) - (sh : Int) > (Py.arrayGuard : Int)) := by
    unfold guardLimit at hg; unfold Py.arrayGuard; omega
  have hs' : ¬ (((c + sh : Nat) : Int) - (sh : Int) < 0) := by omega
  simp only [bind, Except.bind]
  rw [if_neg hg', if_neg hs']
  simp only [pure, Except.pure]
  congr 2
  omega

/-- `_get_discriminated_field` finds the arm that was encoded -/
theorem Py.decArms_pick (e : Endian) (all : List Arm) (data : Bytes) (p : Nat) (d : Nat) (an : String) (t' : Ty) :
    (arms : List Arm) → ∀ (idx0 idx : Nat), arms[idx]? = some (.mk an d t') →
    (∀ (j : Nat) (b : Arm), j < idx → arms[j]? = some b → b.disc ≠ d) →
    Py.decArms e all arms (d : Int) data p idx0 =
      (do let (v, _) ← Py.decTy e t' data p false
          pure (idx0 + idx, v))
  | [], _, idx, h, _ => by simp at h
  | .mk n0 d0 t0 :: r, idx0, idx, h, hne => by
    cases idx with
    | zero =>
      simp at h
      obtain ⟨_, rfl, rfl⟩ := h
      simp [Py.decArms]
    | succ i =>
      simp at h
      have h0 : d0 ≠ d := hne 0 (.mk n0 d0 t0) (by omega) (by simp)
      have h0' : ¬ ((d0 : Int) = (d : Int)) := by omega
      simp only [Py.decArms, if_neg h0']
      rw [Py.decArms_pick e all data p d an t' r (idx0 + 1) i h
        (fun j b hj hb => hne (j + 1) b (by omega) (by simpa using hb))]
      have : idx0 + 1 + i = idx0 + (i + 1) := by omega
      rw [this]

/-- `SizerAt` of every member: a counter with its shift is in its type's range and within the decoder's guard -/
structure SizerDec (all : List Member) (allv : List Val) : Prop where
  dec : ∀ n t k, Member.mk n t k ∈ all → isSizer n all = true →
    ∃ p, t = .prim p ∧ inRange p ((Spec.counter n all allv + sizerShift n all : Nat) : Int) = true ∧
      Spec.counter n all allv ≤ guardLimit

theorem sizerDec (all : List Member) (allv : List Val)
    (hu : WF.uniq (all.map (·.name)) = true) (hw : wfMs all all = true)
    (hh : hasMs all all allv = true) (hg : guardFields all all allv = true) : SizerDec all allv := by
  refine ⟨fun n t k hm hs => ?_⟩
  obtain ⟨p, rfl, hmem, hin⟩ := counter_inRange all allv hu hw hh n t k hm hs
  exact ⟨p, rfl, hin, boundLens_guard all n all allv hg _ hmem⟩

end Prophy
