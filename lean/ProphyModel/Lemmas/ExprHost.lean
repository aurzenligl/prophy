/-
  C14, host languages, values: what Python and C++ compute from the tree they read (`Lemmas/ExprHostTree.lean`), against
  the integer prophyc's calc computed.  The lexers (calc's `\d+` is decimal, C++ reads a leading `0` as octal: finding D63,
  first half) are outside these files.
-/
import ProphyModel.Expr
import ProphyModel.Lemmas.ExprHostTree
namespace Prophy
namespace Expr

theorem evalPy_of_eval (env : String → Option Int) (a : Ast) :
    ∀ v, eval env a = .ok v → evalPy env a = .ok v := by
  induction a with
  | num n => intro v h; exact h
  | name s => intro v h; exact h
  | neg e ih =>
    intro v h
    simp only [eval, evalPy, bind, Except.bind, pure, Except.pure] at h ⊢
    cases he : eval env e with
    | error x => rw [he] at h; cases h
    | ok w => rw [he] at h; rw [ih w he]; exact h
  | bin op x y ihx ihy =>
    intro v h
    simp only [eval, evalPy, bind, Except.bind] at h ⊢
    cases hx : eval env x with
    | error e => rw [hx] at h; cases h
    | ok vx =>
      rw [hx] at h
      cases hy : eval env y with
      | error e => rw [hy] at h; cases h
      | ok vy =>
        rw [hy] at h
        simp only at h
        rw [ihx vx hx, ihy vy hy]
        exact (rawBinop_of_binop h).1

/-- floor = truncation − 1 exactly when `b ∤ a` and the signs differ (core's `Int.fdiv_eq_tdiv`, read by cases) -/
theorem divAgree_iff (a b : Int) (hb : b ≠ 0) : divAgree a b = true ↔ a.fdiv b = a.tdiv b := by
  rw [Int.fdiv_eq_tdiv]
  simp only [divAgree, Bool.or_eq_true, Bool.and_eq_true, beq_iff_eq, decide_eq_true_eq]
  by_cases hd : b ∣ a
  · have : a % b = 0 := Int.dvd_iff_emod_eq_zero.mp hd
    simp [hd, this]
  · have hm : ¬ a % b = 0 := fun h => hd (Int.dvd_iff_emod_eq_zero.mpr h)
    simp only [hd, if_false, hm, false_or]
    have hsign : (0 < b → b.sign = 1) ∧ (b < 0 → b.sign = -1) :=
      ⟨Int.sign_eq_one_of_pos, Int.sign_eq_neg_one_of_neg⟩
    generalize a.tdiv b = q
    by_cases h1 : 0 ≤ a <;> by_cases h2 : 0 ≤ b <;> simp only [h1, h2, if_true, if_false]
    · have : 0 < b := by omega                           -- a ≥ 0, b > 0
      simp [this]
    · have h3 : ¬ (0 < b) := by omega                    -- a ≥ 0, b < 0
      have h4 : ¬ (a < 0) := by omega
      simp only [h3, h4, and_false, false_and, or_self, false_iff]
      omega
    · have := hsign.1 (by omega)                         -- a < 0, b > 0
      have h3 : ¬ (b < 0) := by omega
      simp only [h3, and_false, false_and, or_self, false_iff]
      omega
    · have := hsign.2 (by omega)                         -- a < 0, b < 0
      have h3 : b < 0 := by omega
      have h4 : a < 0 := by omega
      simp only [h3, h4, and_self, or_true, true_iff]
      omega

theorem val32_of_int32Safe (env : String → Option Int) (b : Ast) (h : int32Safe env b = true) :
    val32 env b = true := by
  cases b with
  | num n => exact h
  | name s => exact h
  | neg e => simp only [int32Safe, Bool.and_eq_true] at h; exact h.2
  | bin op x y => simp only [int32Safe, Bool.and_eq_true] at h; exact h.1.2

theorem cppBinop_of_binop {op : BinOp} {x y v : Int} (h : binop op x y = .ok v)
    (h32 : int32 v = true) (hs : opSafe op x y = true) : cppBinop op x y = .ok v := by
  have hr := (rawBinop_of_binop h).1
  cases op <;> simp only [rawBinop, cppBinop, opSafe, Bool.and_eq_true, decide_eq_true_eq] at hr hs ⊢
  · injection hr with hr; subst hr; simp [chk32, h32]   -- add
  · injection hr with hr; subst hr; simp [chk32, h32]   -- sub
  · injection hr with hr; subst hr; simp [chk32, h32]   -- mul
  · split at hr                                         -- div
    · cases hr
    · rename_i hb
      injection hr with hr
      rw [if_neg hb, ← (divAgree_iff x y hb).mp hs, hr]
      simp [chk32, h32]
  · split at hr                                         -- shl
    · cases hr
    · rename_i hb
      injection hr with hr
      have h1 : ¬ (31 < y) := by omega
      have h2 : ¬ (x < 0) := by omega
      simp only [if_neg hb, h1, h2, decide_false, Bool.or_self, Bool.false_eq_true, if_false]
      rw [hr]; simp [chk32, h32]
  · split at hr                                         -- shr
    · cases hr
    · rename_i hb
      injection hr with hr
      have h1 : ¬ (31 < y) := by omega
      simp only [if_neg hb, h1, if_false]
      rw [hr]; simp [chk32, h32]
  · injection hr with hr; subst hr; simp [chk32, h32]   -- bor

theorem evalCpp_of_eval (env : String → Option Int) (a : Ast) :
    ∀ v, eval env a = .ok v → int32Safe env a = true → evalCpp env a = .ok v := by
  induction a with
  | num n =>
    intro v h hs
    simp only [int32Safe, val32, h] at hs
    simp only [eval] at h
    have h := Except.ok.inj h
    subst h
    simp only [evalCpp, chk32, hs, if_true]
  | name s =>
    intro v h hs
    simp only [int32Safe, val32, h] at hs
    simp only [eval] at h
    simp only [evalCpp]
    cases he : env s with
    | none => rw [he] at h; cases h
    | some w =>
      rw [he] at h
      injection h with h
      simp only [chk32, h, hs, if_true]
  | neg e ih =>
    intro v h hs
    simp only [int32Safe, val32, h, Bool.and_eq_true] at hs
    simp only [eval, evalCpp, bind, Except.bind, pure, Except.pure] at h ⊢
    cases he : eval env e with
    | error x => rw [he] at h; cases h
    | ok w =>
      rw [he] at h
      injection h with h
      rw [ih w he hs.1]
      simp only [chk32, h, hs.2, if_true]
  | bin op x y ihx ihy =>
    intro v h hs
    simp only [int32Safe, val32, h, Bool.and_eq_true] at hs
    obtain ⟨⟨⟨hsx, hsy⟩, h32⟩, hop⟩ := hs
    simp only [eval, evalCpp, bind, Except.bind] at h ⊢
    cases hx : eval env x with
    | error e => rw [hx] at h; cases h
    | ok vx =>
      rw [hx] at h
      cases hy : eval env y with
      | error e => rw [hy] at h; cases h
      | ok vy =>
        rw [hy] at h
        simp only at h
        rw [hx, hy] at hop
        rw [ihx vx hx hsx, ihy vy hy hsy]
        exact cppBinop_of_binop h h32 hop

/-- bits of `x` not in `z`, for a submask `z` of `x` -/
theorem testBit_sub_submask : ∀ (i x z : Nat), z &&& x = z →
    (x - z).testBit i = (x.testBit i && !z.testBit i) := by
  intro i
  induction i with
  | zero =>
    intro x z h
    have hle : z ≤ x := by rw [← h]; exact Nat.and_le_right
    have hm : z % 2 = 1 → x % 2 = 1 := by
      intro hz
      have : (z &&& x) % 2 = 1 := by rw [h]; exact hz
      exact (Nat.and_mod_two_eq_one.mp this).2
    simp only [Nat.testBit_zero]
    by_cases h1 : x % 2 = 1 <;> by_cases h2 : z % 2 = 1 <;> simp [h1, h2] <;> omega
  | succ i ih =>
    intro x z h
    have hle : z ≤ x := by rw [← h]; exact Nat.and_le_right
    have hm : z % 2 = 1 → x % 2 = 1 := by
      intro hz
      have : (z &&& x) % 2 = 1 := by rw [h]; exact hz
      exact (Nat.and_mod_two_eq_one.mp this).2
    simp only [Nat.testBit_succ]
    have hd : (x - z) / 2 = x / 2 - z / 2 := by omega
    rw [hd]
    exact ih (x / 2) (z / 2) (by rw [← Nat.and_div_two, h])

/-- and-not on naturals as the model's `lor` writes it -/
def andn (x y : Nat) : Nat := x - (x &&& y)

theorem testBit_andn (x y i : Nat) : (andn x y).testBit i = (x.testBit i && !y.testBit i) := by
  unfold andn
  rw [testBit_sub_submask i x (x &&& y)]
  · simp only [Nat.testBit_and]
    cases x.testBit i <;> cases y.testBit i <;> rfl
  · apply Nat.eq_of_testBit_eq
    intro j
    simp only [Nat.testBit_and]
    cases x.testBit j <;> cases y.testBit j <;> rfl

theorem lor_ofNat_ofNat (m n : Nat) : lor (Int.ofNat m) (Int.ofNat n) = Int.ofNat (m ||| n) := by
  unfold lor
  simp
theorem lor_ofNat_negSucc (m n : Nat) : lor (Int.ofNat m) (Int.negSucc n) = Int.negSucc (andn n m) := by
  unfold lor andn
  have h1 : (0 : Int) ≤ Int.ofNat m := Int.natCast_nonneg m
  have h2 : ¬ (0 : Int) ≤ Int.negSucc n := by omega
  have h3 : (-(Int.negSucc n) - 1).toNat = n := by omega
  simp only [h1, h2, if_true, if_false, h3]
  rfl
theorem lor_negSucc_ofNat (m n : Nat) : lor (Int.negSucc m) (Int.ofNat n) = Int.negSucc (andn m n) := by
  unfold lor andn
  have h1 : (0 : Int) ≤ Int.ofNat n := Int.natCast_nonneg n
  have h2 : ¬ (0 : Int) ≤ Int.negSucc m := by omega
  have h3 : (-(Int.negSucc m) - 1).toNat = m := by omega
  simp only [h1, h2, if_true, if_false, h3]
  rfl
theorem lor_negSucc_negSucc (m n : Nat) : lor (Int.negSucc m) (Int.negSucc n) = Int.negSucc (m &&& n) := by
  unfold lor
  have h2 : ¬ (0 : Int) ≤ Int.negSucc m := by omega
  have h2' : ¬ (0 : Int) ≤ Int.negSucc n := by omega
  have h3 : (-(Int.negSucc m) - 1).toNat = m := by omega
  have h3' : (-(Int.negSucc n) - 1).toNat = n := by omega
  simp only [h2, h2', if_false, h3, h3']

theorem lor_assoc (a b c : Int) : lor (lor a b) c = lor a (lor b c) := by
  cases a <;> cases b <;> cases c <;>
    simp only [lor_ofNat_ofNat, lor_ofNat_negSucc, lor_negSucc_ofNat, lor_negSucc_negSucc] <;>
    congr 1 <;> apply Nat.eq_of_testBit_eq <;> intro i <;>
    simp only [Nat.testBit_and, Nat.testBit_or, testBit_andn] <;>
    (rename_i x y z; cases x.testBit i <;> cases y.testBit i <;> cases z.testBit i <;> rfl)

theorem evalPy_hostTree (env : String → Option Int) (a : Ast) :
    evalPy env (hostTree a) = evalPy env a ∧
    ∀ acc, evalPy env (hostChain acc a) = evalPy env (.bin .bor acc a) := by
  induction a with
  | num n => exact ⟨rfl, fun _ => rfl⟩
  | name s => exact ⟨rfl, fun _ => rfl⟩
  | neg e ih =>
    have h1 : evalPy env (hostTree (.neg e)) = evalPy env (.neg e) := by
      simp only [hostTree, evalPy, ih.1]
    refine ⟨h1, fun acc => ?_⟩
    simp only [hostChain, evalPy, ih.1]
  | bin op x y ihx ihy =>
    have h1 : evalPy env (hostTree (.bin op x y)) = evalPy env (.bin op x y) := by
      by_cases ho : op = .bor
      · subst ho
        rw [hostTree_bor, ihy.2]
        simp only [evalPy, ihx.1]
      · rw [hostTree_notbor ho]
        simp only [evalPy, ihx.1, ihy.1]
    refine ⟨h1, fun acc => ?_⟩
    by_cases ho : op = .bor
    · subst ho
      rw [hostChain_bor, ihy.2]
      simp only [evalPy, ihx.1, bind, Except.bind, rawBinop]
      cases evalPy env acc <;> cases evalPy env x <;> cases evalPy env y <;> simp only [lor_assoc]
    · rw [hostChain_notbor ho]
      simp only [evalPy] at h1 ⊢
      rw [h1]

end Expr
end Prophy

#print axioms Prophy.Expr.evalPy_of_eval
#print axioms Prophy.Expr.divAgree_iff
#print axioms Prophy.Expr.evalCpp_of_eval
#print axioms Prophy.Expr.lor_assoc
