/- the Python runtime's reads of a scalar and of a counter at a position -/
import ProphyModel.Py
import ProphyModel.Lemmas.Scalars
namespace Prophy

namespace Py

theorem slice_at (data pre bs post : Bytes) (pos : Nat) (hd : data = pre ++ (bs ++ post))
    (hp : pre.length = pos) : slice data pos bs.length = bs := by
  subst hd hp; simp [slice]

theorem decScalar_at (e : Endian) (p : Prim) (i : Int) (data pre post : Bytes) (pos : Nat)
    (hd : data = pre ++ (scalarBytes e p.size (toUnsigned p.size i) ++ post)) (hp : pre.length = pos)
    (hr : inRange p i = true) : decScalar e p data pos = .ok (i, p.size) := by
  have hlen : (scalarBytes e p.size (toUnsigned p.size i)).length = p.size := scalarBytes_length _ _ _
  have hs := slice_at data pre _ post pos hd hp
  rw [hlen] at hs
  unfold decScalar
  have hguard : ¬ ((data.length : Int) - (pos : Int) < (p.size : Int)) := by
    subst hd hp; simp [List.length_append, hlen]; omega
  rw [if_neg hguard]
  simp only [bind, Except.bind, hs, unpack, hlen, if_true, scalarVal_scalarBytes, pure, Except.pure]
  rw [Nat.mod_eq_of_lt (toUnsigned_lt _ _)]
  rw [signed_roundtrip p i hr]

theorem slice_length (data : Bytes) (pos n : Nat) (h : pos + n ≤ data.length) : (slice data pos n).length = n := by
  simp [slice]; omega

theorem decScalar_total (e : Endian) (p : Prim) (data : Bytes) (pos : Nat) :
    (∃ r, decScalar e p data pos = .ok r) ∨ decScalar e p data pos = .error .prophy := by
  unfold decScalar
  split
  · right; rfl
  · rename_i h
    left
    have hl : (slice data pos p.size).length = p.size := slice_length data pos p.size (by omega)
    simp [unpack, hl, bind, Except.bind, pure, Except.pure]

theorem unpack_range (e : Endian) (p : Prim) (s : Bytes) (v : Int) (h : unpack e p s = .ok v) :
    inRange p v = true := by
  unfold unpack at h
  split at h
  · rename_i hl
    have hn := scalarVal_lt e s
    rw [hl] at hn
    injection h with h
    subst h
    generalize scalarVal e s = n at hn
    cases p <;>
      simp [inRange, Prophy.primRange, Prim.isFloat, Prim.isSigned, Prim.size, toSigned] at hn ⊢ <;>
      (try split) <;> omega
  · cases h

theorem decScalar_spec {e : Endian} {p : Prim} {data : Bytes} {pos : Nat} {v : Int} {sz : Nat}
    (h : decScalar e p data pos = .ok (v, sz)) :
    inRange p v = true ∧ sz = p.size ∧ pos + p.size ≤ data.length := by
  unfold decScalar at h
  split at h
  · cases h
  · rename_i hg
    cases hu : unpack e p (slice data pos p.size) with
    | error x => simp [hu, bind, Except.bind] at h
    | ok w =>
      simp only [hu, bind, Except.bind, pure, Except.pure] at h
      injection h with h
      injection h with h1 h2
      subst h1
      exact ⟨unpack_range e p _ _ hu, h2.symm, by omega⟩

theorem decSizer_spec {e : Endian} {p : Prim} {shift : Nat} {data : Bytes} {pos : Nat} {c sz : Nat}
    (h : decSizer e p shift data pos = .ok (c, sz)) :
    inRange p ((c : Int) + (shift : Int)) = true ∧ c ≤ arrayGuard ∧ sz = p.size ∧ pos + p.size ≤ data.length := by
  unfold decSizer at h
  cases hd : decScalar e p data pos with
  | error x => simp [hd, bind, Except.bind] at h
  | ok r =>
    obtain ⟨v, s⟩ := r
    obtain ⟨hr, hs, hl⟩ := decScalar_spec hd
    simp only [hd, bind, Except.bind] at h
    split at h
    · simp at h
    · split at h
      · simp at h
      · simp only [pure, Except.pure] at h
        injection h with h
        injection h with h1 h2
        have hv : (c : Int) + (shift : Int) = v := by omega
        rw [hv]
        exact ⟨hr, by omega, by omega, hl⟩

/-- the counter guard (`decSizer_spec`) is tight and is a bound on the element count, not on the raw counter:
    with `shift = 2` the raw counter 65538 gives 65536 elements, 65539 is refused by the guard, 1 is below the shift -/
example : (match decSizer .little .u32 2 [2, 0, 1, 0] 0 with | .ok (c, sz) => c == 65536 && sz == 4 | _ => false) = true := by decide +kernel
example : (match decSizer .little .u32 2 [3, 0, 1, 0] 0 with | .error .prophy => true | _ => false) = true := by decide +kernel
example : (match decSizer .little .u32 2 [1, 0, 0, 0] 0 with | .error .prophy => true | _ => false) = true := by decide +kernel

end Py

end Prophy
