/- What `wfTy`, `hasField`, `agreeTy` and `guardTy` say member by member: unique member names, the equations by
   constructor, the member an array names as its counter (`WF.sizer_prim`), and that the counter of a well-typed
   struct value, with its shift, fits its type (`counter_inRange`). -/
import ProphyModel.Accept
import ProphyModel.WF
import ProphyModel.Lemmas.Scalars
import ProphyModel.Lemmas.TypingLemmas
import ProphyModel.Lemmas.ListLemmas
namespace Prophy
open Prophy WF

/-- `WF.uniq` is core's `List.Nodup`, as a Boolean -/
theorem WF.uniq_iff_nodup : (l : List String) → (WF.uniq l = true ↔ l.Nodup)
  | [] => by simp [WF.uniq]
  | x :: r => by simp [WF.uniq, WF.uniq_iff_nodup r, List.nodup_cons]

theorem uniq_append (l1 l2 : List String) (h : WF.uniq (l1 ++ l2) = true) :
    WF.uniq l1 = true ∧ WF.uniq l2 = true ∧ ∀ x ∈ l1, x ∉ l2 := by
  obtain ⟨h1, h2, h3⟩ := List.nodup_append.1 ((WF.uniq_iff_nodup _).1 h)
  exact ⟨(WF.uniq_iff_nodup _).2 h1, (WF.uniq_iff_nodup _).2 h2, fun x hx hx' => h3 x hx x hx' rfl⟩

theorem names_ne_of_uniq {α : Type} (name : α → String) (before : List α) (m : α) (r : List α)
    (hu : WF.uniq ((before ++ m :: r).map name) = true) : ∀ x ∈ before, name x ≠ name m := by
  intro x hx hn
  rw [List.map_append, List.map_cons] at hu
  exact (uniq_append _ _ hu).2.2 _ (List.mem_map.2 ⟨x, hx, hn⟩) List.mem_cons_self

theorem WF.uniq_find (all : List Member) (h : uniq (all.map (·.name)) = true) (m : Member) (hm : m ∈ all) :
    all.find? (fun x => x.name == m.name) = some m := by
  induction all with
  | nil => cases hm
  | cons a r ih =>
    simp only [List.map, uniq, Bool.and_eq_true, Bool.not_eq_true'] at h
    rcases List.mem_cons.1 hm with rfl | hr
    · simp [List.find?]
    · have hne : (a.name == m.name) = false := by
        cases hc : (a.name == m.name) with
        | false => rfl
        | true =>
          have : a.name = m.name := by simpa using hc
          have hin : (r.map (·.name)).contains a.name = true := by
            rw [this]; simp only [List.contains_iff_mem, List.mem_map]
            exact ⟨m, hr, rfl⟩
          rw [hin] at h; cases h.1
      simp only [List.find?, hne]
      exact ih h.2 hr

theorem WF.uniq_name_inj (all : List Member) (hu : WF.uniq (all.map (·.name)) = true) (m m' : Member)
    (hm : m ∈ all) (hm' : m' ∈ all) (hn : m.name = m'.name) : m = m' := by
  have h1 := WF.uniq_find all hu m hm
  have h2 := WF.uniq_find all hu m' hm'
  rw [hn, h2] at h1
  injection h1 with h1; exact h1.symm

theorem WF.agreeTy_struct (nm : String) (ms : List Member) (vs : List Val) :
    agreeTy (.struct nm ms) (.struct vs) = (agreeMs ms vs && agreeFields ms vs) := rfl

theorem WF.agreeTy_union (nm : String) (arms : List Arm) (idx : Nat) (v : Val) (an : String) (d : Nat) (t : Ty)
    (ha : arms[idx]? = some (.mk an d t)) : agreeTy (.union nm arms) (.union idx v) = agreeTy t v := by
  have e : agreeTy (.union nm arms) (.union idx v) =
      match arms[idx]? with | some (.mk _ _ t) => agreeTy t v | none => true := rfl
  rw [e, ha]

theorem WF.agreeTy_present (t : Ty) (x : Val) : agreeTy t (.present x) = agreeTy t x := by cases t <;> rfl
theorem WF.agreeTy_arr (t : Ty) (xs : List Val) : agreeTy t (.arr xs) = agreeElems t xs := by cases t <;> rfl
theorem WF.agreeFields_cons (n : String) (t : Ty) (k : MKind) (r : List Member) (v : Val) (vs : List Val) :
    agreeFields (.mk n t k :: r) (v :: vs) = (agreeTy t v && agreeFields r vs) := rfl

theorem WF.agreeElems_cons (t : Ty) (x : Val) (xs : List Val) : agreeElems t (x :: xs) = (agreeTy t x && agreeElems t xs) := by
  cases t <;> rfl

theorem WF.guardTy_struct (nm : String) (ms : List Member) (vs : List Val) :
    guardTy (.struct nm ms) (.struct vs) = guardFields ms ms vs := rfl

theorem WF.guardTy_union (nm : String) (arms : List Arm) (idx : Nat) (v : Val) (an : String) (d : Nat) (t : Ty)
    (ha : arms[idx]? = some (.mk an d t)) : guardTy (.union nm arms) (.union idx v) = guardTy t v := by
  have e : guardTy (.union nm arms) (.union idx v) =
      match arms[idx]? with | some (.mk _ _ t) => guardTy t v | none => true := rfl
  rw [e, ha]

theorem WF.guardTy_present (t : Ty) (x : Val) : guardTy t (.present x) = guardTy t x := by cases t <;> rfl
theorem WF.guardTy_arr (t : Ty) (xs : List Val) : guardTy t (.arr xs) = guardElems t xs := by cases t <;> rfl
theorem WF.guardElems_cons (t : Ty) (x : Val) (xs : List Val) : guardElems t (x :: xs) = (guardTy t x && guardElems t xs) := by
  cases t <;> rfl

theorem WF.guardFields_cons (all : List Member) (n : String) (t : Ty) (k : MKind) (r : List Member) (v : Val) (vs : List Val) :
    guardFields all (.mk n t k :: r) (v :: vs) =
      ((match k.sizer? with | some _ => decide (v.len ≤ guardLimit) | none => true) && guardTy t v && guardFields all r vs) := rfl

namespace WF

theorem wfMs_cons (all : List Member) (n : String) (t : Ty) (k : MKind) (r : List Member) :
    wfMs all (.mk n t k :: r) = true ↔
      wfTy t = true ∧ (needsFixed k = true → Spec.fixedTy t = true) ∧
      (∀ s, k.sizer? = some s → sizerOk all s = true) ∧ shiftOk all k = true ∧ wfMs all r = true := by
  simp only [wfMs, Bool.and_eq_true, Bool.or_eq_true, Bool.not_eq_true']
  constructor
  · rintro ⟨⟨⟨⟨h1, h2⟩, h3⟩, h4⟩, h5⟩
    refine ⟨h1, ?_, ?_, h4, h5⟩
    · intro hk; rcases h2 with h2 | h2
      · rw [hk] at h2; cases h2
      · exact h2
    · intro s hs; rw [hs] at h3; exact h3
  · rintro ⟨h1, h2, h3, h4, h5⟩
    refine ⟨⟨⟨⟨h1, ?_⟩, ?_⟩, h4⟩, h5⟩
    · cases hk : needsFixed k
      · exact Or.inl rfl
      · exact Or.inr (h2 hk)
    · cases hs : k.sizer? with
      | none => rfl
      | some s => exact h3 s hs

theorem wfArms_cons (n : String) (d : Nat) (t : Ty) (r : List Arm) :
    wfArms (.mk n d t :: r) = true ↔ wfTy t = true ∧ Spec.fixedTy t = true ∧ wfArms r = true := by
  simp [wfArms, and_assoc]

end WF

theorem WF.wfTy_struct (nm : String) (ms : List Member) : wfTy (.struct nm ms) = (uniq (ms.map (·.name)) && wfMs ms ms) := rfl
theorem WF.wfTy_union (nm : String) (arms : List Arm) :
    wfTy (.union nm arms) = (arms.all (fun a => decide (a.disc < 2 ^ 32)) && wfArms arms) := rfl

theorem WF.wfTy_enum (nm : String) (es : List (String × Nat)) :
    wfTy (.enum nm es) = es.all (fun en => decide (en.2 < 2 ^ 32)) := rfl

/-- a value without parts (bytes, an absent optional, a counter) is coherent and guarded at any type -/
theorem agreeTy_flat (t : Ty) (v : Val) (h : match v with | .bytes _ => True | .absent => True | .sizer => True | _ => False) :
    agreeTy t v = true ∧ guardTy t v = true := by
  cases v <;> first | exact h.elim | (cases t <;> exact ⟨rfl, rfl⟩)

theorem WF.wfMs_mem (all : List Member) (ms : List Member) (h : wfMs all ms = true) : ∀ m ∈ ms,
    wfTy m.ty = true ∧ (needsFixed m.kind = true → Spec.fixedTy m.ty = true) ∧
    (∀ s, m.kind.sizer? = some s → sizerOk all s = true) ∧ shiftOk all m.kind = true :=
  forall_mem_of_cons (fun ⟨n, t, k⟩ r h =>
    let ⟨h1, h2, h3, h4, h5⟩ := (wfMs_cons all n t k r).1 h; ⟨⟨h1, h2, h3, h4⟩, h5⟩) h

theorem WF.wfArms_get (arms : List Arm) (hw : wfArms arms = true) (idx : Nat) (a : Arm) (h : arms[idx]? = some a) :
    wfTy a.ty = true ∧ Spec.fixedTy a.ty = true :=
  get_of_cons (P := fun a => wfTy a.ty = true ∧ Spec.fixedTy a.ty = true)
    (fun ⟨n, d, t⟩ r h => let ⟨h1, h2, h3⟩ := (wfArms_cons n d t r).1 h; ⟨⟨h1, h2⟩, h3⟩) hw h

theorem WF.fixedArms_of_wf : (arms : List Arm) → wfArms arms = true → Spec.fixedArms arms = true
  | [], _ => rfl
  | .mk n d t :: r, hw => by
    obtain ⟨_, h2, h3⟩ := (wfArms_cons n d t r).1 hw
    simp [Spec.fixedArms, h2, WF.fixedArms_of_wf r h3]

theorem Spec.fixedTy_union_of_wf (nm : String) (arms : List Arm) (hw : wfTy (.union nm arms) = true) :
    Spec.fixedTy (.union nm arms) = true := by
  simp only [wfTy, Bool.and_eq_true] at hw
  simpa [Spec.fixedTy] using WF.fixedArms_of_wf arms hw.2

theorem isSizer_iff (n : String) (all : List Member) :
    isSizer n all = true ↔ ∃ m ∈ all, m.kind.sizer? = some n := by
  simp [isSizer, List.any_eq_true]

theorem WF.sizer_prim (all : List Member) (hu : uniq (all.map (·.name)) = true) (hw : wfMs all all = true)
    (n : String) (t : Ty) (k : MKind) (hm : Member.mk n t k ∈ all) (hs : isSizer n all = true) :
    ∃ p, t = .prim p ∧ k = .plain ∧ p.isFloat = false ∧ sizerMax n all = (primRange p).2 := by
  obtain ⟨m', hm', hs'⟩ := (isSizer_iff n all).1 hs
  have hok := (WF.wfMs_mem all all hw m' hm').2.2.1 n hs'
  have hf : all.find? (fun x => x.name == n) = some (.mk n t k) := WF.uniq_find all hu _ hm
  unfold sizerOk at hok
  rw [hf] at hok
  unfold sizerMax
  rw [hf]
  cases t <;> cases k <;> simp_all

theorem hasField_len (all : List Member) (k : MKind) (t : Ty) (v : Val) (s : String)
    (hk : k.sizer? = some s) (h : hasField all k t v = true) : (v.len : Int) ≤ sizerMax s all - (k.shift : Int) := by
  have key : ∀ len, lenFits all k len = true → (len : Int) ≤ sizerMax s all - (k.shift : Int) := by
    intro len hl
    cases k with
    | dyn s' sh => cases hk; exact (lenFits_dyn all _ sh len).1 hl
    | limited s' c =>
      cases hk
      have := ((lenFits_limited all _ c len).1 hl).2
      simp only [MKind.shift]; omega
    | _ => cases hk
  rcases hasField_array_shape all k t v (by rintro rfl; cases hk) (by rintro rfl; cases hk) h with ⟨xs, rfl, _⟩ | ⟨_, b, rfl⟩
  · exact key _ ((hasField_arr_iff all k t xs).1 h).2.1
  · exact key _ ((hasField_bytes_iff all k t b).1 h).2

theorem boundLens_bound (all : List Member) (s : String) : (ms : List Member) → (vs : List Val) →
    wfMs all ms = true → hasMs all ms vs = true →
    ∀ x ∈ boundLens s ms vs, (x : Int) + (sizerShift s all : Int) ≤ sizerMax s all
  | [], _, _, _, x, hx => by simp [boundLens] at hx
  | _ :: _, [], _, _, x, hx => by simp [boundLens] at hx
  | .mk n t k :: r, v :: vs, hw, hh, x, hx => by
    obtain ⟨_, _, _, hsh, hwr⟩ := (wfMs_cons all n t k r).1 hw
    obtain ⟨_, hf, hhr⟩ := (hasMs_cons all n t k r v vs).1 hh
    simp only [boundLens] at hx
    by_cases hk : (Member.mk n t k).kind.sizer? = some s
    · rw [if_pos hk] at hx
      replace hk : k.sizer? = some s := hk
      rcases List.mem_cons.1 hx with rfl | hx'
      · have := hasField_len all k t v s hk hf
        unfold shiftOk at hsh
        rw [hk] at hsh
        simp only [Bool.and_eq_true, decide_eq_true_eq, beq_iff_eq] at hsh
        rw [← hsh.2]; omega
      · exact boundLens_bound all s r vs hwr hhr x hx'
    · rw [if_neg hk] at hx
      exact boundLens_bound all s r vs hwr hhr x hx

theorem boundLens_ne_nil (all : List Member) (s : String) : (ms : List Member) → (vs : List Val) →
    hasMs all ms vs = true → (∃ m ∈ ms, m.kind.sizer? = some s) → boundLens s ms vs ≠ []
  | [], _, _, ⟨m, hm, _⟩ => by cases hm
  | _ :: _, [], hh, _ => by simp [hasMs] at hh
  | .mk n t k :: r, v :: vs, hh, ⟨m, hm, hs⟩ => by
    obtain ⟨_, _, hhr⟩ := (hasMs_cons all n t k r v vs).1 hh
    simp only [boundLens]
    by_cases hk : (Member.mk n t k).kind.sizer? = some s
    · rw [if_pos hk]; simp
    · rw [if_neg hk]
      rcases List.mem_cons.1 hm with rfl | hr
      · exact absurd hs hk
      · exact boundLens_ne_nil all s r vs hhr ⟨m, hr, hs⟩

theorem boundLens_guard (all : List Member) (s : String) : (ms : List Member) → (vs : List Val) →
    guardFields all ms vs = true → ∀ x ∈ boundLens s ms vs, x ≤ guardLimit
  | [], _, _, x, hx => by simp [boundLens] at hx
  | _ :: _, [], _, x, hx => by simp [boundLens] at hx
  | .mk n t k :: r, v :: vs, hg, x, hx => by
    simp only [guardFields, Bool.and_eq_true] at hg
    simp only [boundLens] at hx
    by_cases hk : (Member.mk n t k).kind.sizer? = some s
    · rw [if_pos hk] at hx
      replace hk : k.sizer? = some s := hk
      rcases List.mem_cons.1 hx with rfl | hx'
      · have := hg.1.1
        rw [hk] at this
        simpa using this
      · exact boundLens_guard all s r vs hg.2 x hx'
    · rw [if_neg hk] at hx
      exact boundLens_guard all s r vs hg.2 x hx

theorem counter_inRange (all : List Member) (allv : List Val)
    (hu : uniq (all.map (·.name)) = true) (hw : wfMs all all = true) (hh : hasMs all all allv = true)
    (n : String) (t : Ty) (k : MKind) (hm : Member.mk n t k ∈ all) (hs : isSizer n all = true) :
    ∃ p, t = .prim p ∧ Spec.counter n all allv ∈ boundLens n all allv ∧
      inRange p ((Spec.counter n all allv + sizerShift n all : Nat) : Int) = true := by
  obtain ⟨p, rfl, _, hfl, hmax⟩ := WF.sizer_prim all hu hw n t k hm hs
  obtain ⟨m', hm', hs'⟩ := (isSizer_iff n all).1 hs
  have hne := boundLens_ne_nil all n all allv hh ⟨m', hm', hs'⟩
  have hmem : Spec.counter n all allv ∈ boundLens n all allv := by
    unfold Spec.counter
    cases hb : boundLens n all allv with
    | nil => exact absurd hb hne
    | cons a r => simp
  have hb := boundLens_bound all n all allv hw hh _ hmem
  obtain ⟨hlo, hhi⟩ := primRange_nonfloat p hfl
  refine ⟨p, rfl, hmem, ?_⟩
  simp only [inRange, Bool.and_eq_true, decide_eq_true_eq]
  rw [hmax] at hb
  constructor <;> omega

theorem isArrayKind_of_lenFits {all : List Member} {k : MKind} {n : Nat} (h : lenFits all k n = true) :
    Accept.isArrayKind k = true := by
  cases k <;> first | rfl | cases h

end Prophy
