/- C04's walk over `Cpp.lay`: `PL.lengthByPaddings` ends at the canonical length -/
import ProphyModel.Lemmas.Lay
import ProphyModel.Lemmas.MemberLen
namespace Prophy

namespace PL

theorem lengthByPaddings_cons (s : Nat) (ss : List Nat) (p : Int) (ps : List Int) (off : Nat) :
    lengthByPaddings (s :: ss) (p :: ps) off =
      lengthByPaddings ss ps (if p < 0 then off + s + padTo (off + s) p.natAbs else off + s + p.toNat) := rfl

theorem lengthByPaddings_applyPad (s : Nat) (ss : List Nat) (p : Int) (ps : List Int) (off : Nat) :
    lengthByPaddings (s :: ss) (p :: ps) off = lengthByPaddings ss ps (applyPad p (off + s)) := rfl

end PL

/-- end offset of the canonical layout of members with own byte lengths `ls`, from offset `off` (`ad` as in `Cpp.aN`) -/
def Spec.endLens : List Member → List Nat → Nat → Bool → Nat
  | m :: r, l :: ls, off, ad =>
    Spec.endLens r ls (alignUp off (if ad then Spec.blockAlign (m :: r) else Spec.alignMember m) + l) (Spec.endsBlock m)
  | _, _, off, _ => off

theorem PL.clen_chunksMs_ok : (ms : List Member) → ∀ (vs : List Val) (all : List Member) (allv : List Val),
    Cpp.okMs ms = true → hasMs all ms vs = true → ∀ (off : Nat) (ad : Bool),
    off + Spec.clen (Spec.chunksMs all allv ms vs off ad) = Spec.endLens ms (Spec.memberLens all allv ms vs) off ad
  | [], vs, all, allv, hf, hh, off, ad => by
    cases vs <;> simp [Spec.chunksMs, Spec.endLens, Spec.clen]
  | .mk n t k :: r, vs, all, allv, hf, hh, off, ad => by
    cases vs with
    | nil => simp [hasMs] at hh
    | cons v vs =>
      obtain ⟨_, hfd, hhr⟩ := (hasMs_cons all n t k r v vs).1 hh
      have h1 := clen_fieldChunks_ok all allv n t k v (.of_okMs hf) hfd
      rw [Spec.chunksMs_cons, Spec.memberLens_cons]
      simp only [Spec.endLens, Spec.clen_cons, Spec.clen_append, Spec.Chunk.len, h1]
      rw [← clen_chunksMs_ok r vs all allv (Cpp.okMs_tail hf) hhr]
      unfold alignUp
      omega

theorem PL.lengthByPaddings_lay (all : List Member) (allv : List Val) {S : Nat} {any : Bool} (hS : IsAl S) :
    (ms : List Member) → ∀ (vs : List Val) (ad : Bool) (off0 bs A : Nat), Cpp.okMs ms = true → hasMs all ms vs = true →
    Cpp.LayInv S any ms ad off0 bs A →
    PL.lengthByPaddings (Spec.memberLens all allv ms vs) ((Cpp.lay S any ms ad bs).map (·.2.2))
        (alignUp off0 (Cpp.aN S ad ms))
      = alignUp (Spec.endLens ms (Spec.memberLens all allv ms vs) off0 ad) S
  | [], vs, _, _, _, _, _, _, _ => by cases vs <;> rfl
  | .mk n t k :: r, [], _, _, _, _, _, hh, _ => by simp [hasMs] at hh
  | .mk n t k :: r, v :: vs, ad, off0, bs, A, hf, hh, inv => by
    obtain ⟨_, hfd, hhr⟩ := (hasMs_cons all n t k r v vs).1 hh
    obtain ⟨hpad, A', inv'⟩ := inv.step hS (PL.lenOk_memberLen_ok all n t k v (.of_okMs hf) hfd)
    have hp := hpad 0 (Nat.dvd_zero _)
    rw [Nat.zero_add] at hp
    rw [Spec.memberLens_cons, Cpp.lay_cons, List.map_cons, PL.lengthByPaddings_applyPad, Cpp.applyPad_eq, hp]
    exact PL.lengthByPaddings_lay all allv hS r vs _ _ _ A' (Cpp.okMs_tail hf) hhr inv'

/-- for a struct type and a value of it, emitting each member's own bytes and then applying its signed
    padding (`>= 0`: that many bytes, `< 0`: align to `|p|`) yields the canonical length -/
theorem PL.lengthByPaddings_spec (n : String) (ms : List Member) (vs : List Val)
    (hf : Accept.front (.struct n ms) = true) (hv : hasType (.struct n ms) (.struct vs) = true) :
    PL.lengthByPaddings (Spec.memberLens ms vs ms vs) ((PL.structMembers ms).map (·.2.2)) 0
      = Spec.clen (Spec.chunksTy (.struct n ms) (.struct vs)) := by
  have hok : Cpp.okMs ms = true := Cpp.ok_of_front _ hf
  have hhm : hasMs ms ms vs = true := by
    simpa [hasType, Val.isCounter, hasField] using hv
  have hbody := PL.clen_chunksMs_ok ms vs ms vs hok hhm 0 false
  have hw := PL.lengthByPaddings_lay ms vs (Spec.alignMs_isAl ms) ms vs false 0 0 _ hok hhm (Cpp.LayInv.init ms)
  rw [alignUp_zero] at hw
  rw [Nat.zero_add] at hbody
  rw [Spec.chunksTy_struct, Spec.clen_append, Spec.clen_singleton, Spec.Chunk.len_pad, hbody,
    Cpp.structMembers_eq_lay ms hok, hw]
  rfl

end Prophy

#print axioms Prophy.PL.lengthByPaddings_spec
