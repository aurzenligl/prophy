/- the generated C++ full decoder reads the canonical encoding back (property C03) -/
import ProphyModel.Lemmas.CppRoundTripBase
namespace Prophy
open WF Accept

/-- `decTy` reads the canonical encoding of every typed, coherent value of `t` back, at any aligned position of any buffer
    (to the end of the buffer when `t` ends in a greedy array) -/
def Cpp.DecodesCanon (e : Endian) (t : Ty) : Prop :=
  ∀ (v : Val) (data pre post : Bytes) (pos : Nat) (rs : List Nat),
    v.isCounter = false → hasField [] .plain t v = true → agreeTy t v = true → Cpp.resizeOkTy t v = true →
    ((Py.stTy t).unl = true → Spec.galTy t v = true ∧ post = []) → Spec.alignTy t ∣ pos →
    data = pre ++ (Spec.render e (Spec.chunksTy t v) ++ post) → pre.length = pos →
    ∃ rs' p, Cpp.decTy e t data pos rs = (.ok v (pos + Spec.clen (Spec.chunksTy t v)) rs', p)

theorem Cpp.decodesCanon_scalar (e : Endian) (t : Ty) (hw : wfTy t = true) (hs : ∀ nm ms, t ≠ .struct nm ms)
    (hu : ∀ nm arms, t ≠ .union nm arms) : Cpp.DecodesCanon e t := by
  intro v data pre post pos rs hc hh _ _ _ _ hd hpos
  obtain ⟨i, rfl⟩ : ∃ i, v = .int i := by
    rcases hasField_plain_val [] t v hc hh with hi | ⟨nm, ms, _, ht, _⟩ | ⟨nm, arms, _, _, _, _, _, ht, _⟩
    · exact hi                       -- scalar
    · exact absurd ht (hs nm ms)      -- struct
    · exact absurd ht (hu nm arms)    -- union
  refine ⟨rs, pos, ?_⟩
  rcases (hasField_int [] .plain t i hh).2 with ⟨p, rfl, hr⟩ | ⟨rfl, hr⟩ | ⟨nm, es, rfl, hany⟩
  · rw [Cpp.decTy_prim, Cpp.decScalar_chunk e p.size i p.isSigned data pre post pos rs hd hpos
      (signed_roundtrip p i hr)]
    rfl
  · rw [Cpp.decTy_byte, Cpp.decScalar_chunk e 1 i false data pre post pos rs hd hpos
      (signed_roundtrip .u8 i hr)]
    rfl
  · have hr : inRange .u32 i = true := inRange_enum es i hw hany
    rw [Cpp.decTy_enum, Cpp.decScalar_chunk e 4 i false data pre post pos rs hd hpos
      (signed_roundtrip .u32 i hr)]
    rfl

theorem Cpp.dec_elems (e : Endian) (t : Ty) (hE : Cpp.DecodesCanon e t) (hft : front t = true) (hpt : pyRt t = true)
    (hnu : (Py.stTy t).unl = false) (hnu2 : Spec.unlTy t = false) :
    (xs : List Val) → ∀ (data pre post : Bytes) (pos : Nat) (rs : List Nat),
      hasElems t xs = true → agreeElems t xs = true → Cpp.resizeOkElems t xs = true → Spec.alignTy t ∣ pos →
      data = pre ++ (Spec.render e (Spec.chunksElems t xs) ++ post) → pre.length = pos →
      (∃ rs' p, Cpp.decN (fun q r => Cpp.decTy e t data q r) xs.length pos rs =
          (.ok xs (pos + Spec.clen (Spec.chunksElems t xs)) rs', p)) ∧
        (post = [] → ∀ fuel, xs.length < fuel → ∃ rs',
          Cpp.decGreedyDyn (fun q r => Cpp.decTy e t data q r) fuel pos rs =
            .ok xs (pos + Spec.clen (Spec.chunksElems t xs)) rs')
  | [], data, pre, post, pos, rs, _, _, _, _, hd, hpos => by
    refine ⟨⟨rs, pos, rfl⟩, ?_⟩
    intro hp fuel hfu
    subst hp
    have hlen : data.length = pos := by rw [hd, ← hpos]; simp [Spec.chunksElems_nil, Spec.render]
    subst hlen
    obtain ⟨rs', p, hfail⟩ := Cpp.decTy_fail_end e t hft hpt hnu2 data rs
    obtain ⟨fuel, rfl⟩ : ∃ f, fuel = f + 1 := ⟨fuel - 1, by omega⟩
    exact ⟨rs', by rw [Cpp.decGreedyDyn_succ, hfail]; rfl⟩
  | x :: xs, data, pre, post, pos, rs, hh, hag, hrz, hal, hd, hpos => by
    obtain ⟨hc, hx, hhr⟩ := (hasElems_cons t x xs).1 hh
    have hag' : (agreeTy t x && agreeElems t xs) = true := hag
    have hrz' : (Cpp.resizeOkTy t x && Cpp.resizeOkElems t xs) = true := hrz
    rw [Bool.and_eq_true] at hag' hrz'
    rw [Spec.chunksElems_cons, Spec.render_append, List.append_assoc] at hd
    obtain ⟨rs1, p1, h1⟩ := hE x data pre _ pos rs hc hx hag'.1 hrz'.1 (fun h => by rw [hnu] at h; cases h) hal hd hpos
    have hdv := Spec.align_dvd_clen t x (Accept.wf_of_accept t hft hpt) hc hx
    obtain ⟨⟨rs2, p2, h2⟩, h2g⟩ := Cpp.dec_elems e t hE hft hpt hnu hnu2 xs data
      (pre ++ Spec.render e (Spec.chunksTy t x)) post
      (pos + Spec.clen (Spec.chunksTy t x)) rs1 hhr hag'.2 hrz'.2 ((Nat.dvd_add_right hal).2 hdv)
      (by rw [hd, List.append_assoc]) (by rw [List.length_append, Spec.render_length, hpos])
    rw [Spec.chunksElems_cons, Spec.clen_append, ← Nat.add_assoc]
    refine ⟨⟨rs2, p2, ?_⟩, ?_⟩
    · rw [List.length_cons, Cpp.decN_succ, h1]
      simp only [Cpp.andThen_ok]
      rw [h2]; rfl
    · intro hp fuel hfu
      obtain ⟨fuel, rfl⟩ : ∃ f, fuel = f + 1 := ⟨fuel - 1, by omega⟩
      obtain ⟨rs3, h3⟩ := h2g hp fuel (by simpa using hfu)
      exact ⟨rs3, by rw [Cpp.decGreedyDyn_succ, h1]; simp only; rw [h3]; rfl⟩

/-- the elements `xs` of an array member decode one after another from `pos`, `L` bytes in all -/
structure Cpp.ElemRun (e : Endian) (t : Ty) (data : Bytes) (pos : Nat) (xs : List Val) (L : Nat) : Prop where
  loop : ∀ rs, ∃ rs' p, Cpp.decN (fun q r => Cpp.decTy e t data q r) xs.length pos rs = (.ok xs (pos + L) rs', p)
  greedy : Cpp.codecSize t < 0 → pos + L = data.length → ∀ rs, ∃ rs',
    Cpp.decGreedyDyn (fun q r => Cpp.decTy e t data q r) (data.length + 1) pos rs = .ok xs (pos + L) rs'
  flat : Cpp.codecSize t ≥ 0 → L = xs.length * (Cpp.codecSize t).toNat
  le : xs.length ≤ L

theorem Cpp.elemRun_bytes (e : Endian) (data pre post b : Bytes) (pos : Nat) (hd : data = pre ++ (b ++ post))
    (hp : pre.length = pos) : Cpp.ElemRun e .byte data pos (b.map fun x => Val.int x.toNat) b.length where
  loop rs := by
    obtain ⟨p, h⟩ := Cpp.decN_bytes e data b pre post pos rs hd hp
    exact ⟨rs, p, by rw [List.length_map]; exact h⟩
  greedy h := absurd h (by decide)
  flat _ := by rw [List.length_map]; exact (Nat.mul_one _).symm
  le := by rw [List.length_map]; exact Nat.le_refl _

theorem Cpp.elemRun_arr (e : Endian) (t : Ty) (hE : Cpp.DecodesCanon e t) (hft : front t = true) (hpt : pyRt t = true)
    (hnu : (Py.stTy t).unl = false) (hnu2 : Spec.unlTy t = false) (xs : List Val) (data pre post : Bytes) (pos : Nat)
    (hel : hasElems t xs = true) (hag : agreeElems t xs = true) (hrz : Cpp.resizeOkElems t xs = true)
    (hal : Spec.alignTy t ∣ pos) (hd : data = pre ++ (Spec.render e (Spec.chunksElems t xs) ++ post))
    (hp : pre.length = pos) : Cpp.ElemRun e t data pos xs (Spec.clen (Spec.chunksElems t xs)) := by
  have hle : xs.length ≤ Spec.clen (Spec.chunksElems t xs) :=
    Spec.length_le_clen_elems t xs fun x hx =>
      Spec.clen_pos t x hft hpt hnu (hasElems_mem t xs hel x hx).1 (hasElems_mem t xs hel x hx).2
  have hlen : data.length = pos + Spec.clen (Spec.chunksElems t xs) + post.length := by
    rw [hd, ← hp]; simp only [List.length_append, Spec.render_length]; omega
  refine ⟨fun rs => (Cpp.dec_elems e t hE hft hpt hnu hnu2 xs data pre post pos rs hel hag hrz hal hd hp).1,
    fun _ hend rs => ?_, fun hcs => ?_, hle⟩
  · have hpost : post = [] := List.eq_nil_of_length_eq_zero (by omega)
    exact (Cpp.dec_elems e t hE hft hpt hnu hnu2 xs data pre post pos rs hel hag hrz hal hd hp).2 hpost _ (by omega)
  · have hkind := Cpp.kind0_of_codecSize t hcs
    rw [Cpp.codecSize_kind0 t hft hkind, Int.toNat_natCast]
    exact fsz_elems xs t (PL.fixed_of_kind_ok t (Cpp.ok_of_front t hft) hkind) hel

theorem Cpp.decArray_run (e : Endian) (t : Ty) (data : Bytes) (pos : Nat) (xs : List Val) (L : Nat)
    (hrun : Cpp.ElemRun e t data pos xs L) (hfit : pos + L ≤ data.length) (rs : List Nat) :
    ∃ rs' p, Cpp.decArray (fun q r => Cpp.decTy e t data q r) t xs.length data.length pos rs =
      (.ok (Cpp.arrVal t xs) (pos + L) rs', p) := by
  obtain ⟨rs', p, h⟩ := hrun.loop rs
  refine ⟨rs', p, ?_⟩
  rw [Cpp.decArray_eq, if_neg, Cpp.retag_ok _ h]
  rintro ⟨hm, hlt⟩
  have hL := hrun.flat (Cpp.codecSize_nonneg_of_not_message t hm)
  have hmod := Nat.mod_le (xs.length * (Cpp.codecSize t).toNat) Cpp.sizeMax
  rw [Cpp.remaining_of_le (by omega)] at hlt
  omega

/-- `pad` is the unused rest of a limited array's slot -/
theorem Cpp.memberStep_run (e : Endian) (all : List Member) (n : String) (t : Ty) (k : MKind) (msize : Nat)
    (data : Bytes) (pos : Nat) (rs : List Nat) (lens : List (String × Nat)) (xs : List Val) (L pad : Nat)
    (hrun : Cpp.ElemRun e t data pos xs L) (hka : isArrayKind k = true)
    (hfix : ∀ c, k = .fixed c → xs.length = c)
    (hlook : ∀ s, k.sizer? = some s → lens.lookup n = some xs.length)
    (hlim : ∀ s c, k = .limited s c → msize = L + pad)
    (hpad : (∀ s c, k ≠ .limited s c) → pad = 0)
    (hgr : k = .greedy → pos + L = data.length ∧ (Cpp.codecSize t ≥ 0 → xs.length ≤ Cpp.resizeLimit))
    (hfit : pos + L + pad ≤ data.length) :
    ∃ rs' p, Cpp.memberStep e all n t k msize data pos rs lens (fun q r => Cpp.decTy e t data q r) =
      (.ok (Cpp.arrVal t xs, lens) (pos + L + pad) rs', p) := by
  have hA := Cpp.decArray_run e t data pos xs L hrun (by omega)
  cases k with
  | plain => cases hka
  | optional => cases hka
  | fixed c =>
    obtain ⟨rs', p, h⟩ := hA rs
    rw [hpad (fun _ _ => MKind.noConfusion), Nat.add_zero]
    exact ⟨rs', p, by rw [Cpp.memberStep_fixed, ← hfix c rfl, Cpp.retag_ok _ h]⟩
  | dyn s sh =>
    obtain ⟨rs', p, h⟩ := hA rs
    rw [hpad (fun _ _ => MKind.noConfusion), Nat.add_zero]
    exact ⟨rs', p, by rw [Cpp.memberStep_dyn, hlook s rfl, Option.getD_some, Cpp.retag_ok _ h]⟩
  | limited s c =>
    obtain ⟨rs', p, h⟩ := hA rs
    refine ⟨rs', pos + L + pad, ?_⟩
    rw [Cpp.memberStep_limited, hlook s rfl, Option.getD_some, h]
    simp only [Cpp.andThen_ok]
    rw [Cpp.advance_eq _ _ _ _ (by omega), hlim s c rfl, if_pos (by omega)]
    simp only [Cpp.andThen_ok, Nat.add_assoc]
  | greedy =>
    obtain ⟨hend, hrl⟩ := hgr rfl
    rw [hpad (fun _ _ => MKind.noConfusion), Nat.add_zero]
    rw [Cpp.memberStep_greedy]
    by_cases hcs : Cpp.codecSize t ≥ 0
    · have hcnt : Cpp.remaining data.length pos / (Cpp.codecSize t).toNat = xs.length := by
        rw [Cpp.remaining_of_le (by omega), ← hend, Nat.add_sub_cancel_left, hrun.flat hcs]
        by_cases hz : (Cpp.codecSize t).toNat = 0
        · have := hrun.le
          rw [hrun.flat hcs, hz, Nat.mul_zero] at this
          rw [hz, Nat.div_zero]; omega
        · exact Nat.mul_div_cancel _ (by omega)
      obtain ⟨rs', p, h⟩ := hA (xs.length :: rs)
      rw [if_pos hcs, hcnt, if_neg (by have := hrl hcs; omega)]
      exact ⟨rs', p, by rw [Cpp.retag_ok _ h]⟩
    · obtain ⟨rs', h⟩ := hrun.greedy (by omega) hend rs
      have hb : t ≠ .byte := by rintro rfl; exact hcs (by decide)
      exact ⟨rs', pos + L, by rw [if_neg hcs, h, Cpp.arrVal_of_ne_byte hb]; rfl⟩

/-- an array member, of bytes or of elements: `own` are the bytes of its `xs` -/
theorem Cpp.dec_member_array (e : Endian) (all : List Member) (allv : List Val) (n : String) (t : Ty) (k : MKind)
    (v : Val) (data pre post own : Bytes) (pos : Nat) (rs : List Nat) (lens : List (String × Nat)) (xs : List Val)
    (hft : front t = true) (hka : isArrayKind k = true) (hv : v = Cpp.arrVal t xs) (hvl : v.len = xs.length)
    (hrun : Cpp.ElemRun e t data pos xs own.length)
    (hren : Spec.render e (Spec.fieldChunks all allv n t k v) = own ++ zeros (Spec.slack t k own.length))
    (hfit : lenFits all k xs.length = true) (hslot : ∀ s c, k = .limited s c → own.length ≤ c * Spec.sizeTy t)
    (hrg : k = .greedy → Cpp.codecSize t ≥ 0 → v.len ≤ Cpp.resizeLimit)
    (hpost : k = .greedy → post = [])
    (hhint : ∀ s, k.sizer? = some s → lens.lookup n = some v.len)
    (hd : data = pre ++ (Spec.render e (Spec.fieldChunks all allv n t k v) ++ post)) (hpos : pre.length = pos) :
    ∃ rs' p, Cpp.memberStep e all n t k (PL.memOf (PL.nodeTy t) k).size data pos rs lens
        (fun q r => Cpp.decTy e t data q r) =
      (.ok (v, lens) (pos + Spec.clen (Spec.fieldChunks all allv n t k v)) rs', p) := by
  have hcl : Spec.clen (Spec.fieldChunks all allv n t k v) = own.length + Spec.slack t k own.length := by
    rw [← Spec.render_length e, hren, List.length_append, zeros_length]
  have hlen : data.length = pos + own.length + Spec.slack t k own.length + post.length := by
    rw [hd, hren, ← hpos]; simp only [List.length_append, zeros_length]; omega
  rw [hcl, hv, ← Nat.add_assoc]
  refine Cpp.memberStep_run e all n t k _ data pos rs lens xs own.length _ hrun hka ?_ ?_ ?_ ?_ ?_ (by omega)
  · intro c hk; subst hk; exact (lenFits_fixed all c _).1 hfit
  · intro s hs; rw [← hvl]; exact hhint s hs
  · intro s c hk
    subst hk
    have := hslot s c rfl
    rw [PL.memOf_size, PL.nodeTy_size t hft]
    simp only [Spec.slack]
    omega
  · intro hk
    cases k <;> first | rfl | exact absurd rfl (hk _ _)
  · intro hk
    subst hk
    have hp := hpost rfl
    subst hp
    exact ⟨by rw [hlen]; simp [Spec.slack], fun hcs => by rw [← hvl]; exact hrg rfl hcs⟩

theorem Cpp.dec_member_arrayKind (e : Endian) (all : List Member) (allv : List Val) (n : String) (t : Ty) (k : MKind)
    (v : Val) (data pre post : Bytes) (pos : Nat) (rs : List Nat) (lens : List (String × Nat))
    (hE : Cpp.DecodesCanon e t) (hft : front t = true) (hpt : pyRt t = true) (hka : isArrayKind k = true)
    (hk0 : needsFixed k = true → (PL.nodeTy t).kind = 0) (hnu : (Py.stTy t).unl = false) (hnu2 : Spec.unlTy t = false)
    (hh : hasField all k t v = true) (hag : agreeTy t v = true) (hrz : Cpp.resizeOkTy t v = true)
    (hrg : k = .greedy → Cpp.codecSize t ≥ 0 → v.len ≤ Cpp.resizeLimit)
    (hpost : k = .greedy → post = [])
    (hhint : ∀ s, k.sizer? = some s → lens.lookup n = some v.len)
    (hd : data = pre ++ (Spec.render e (Spec.fieldChunks all allv n t k v) ++ post)) (hpos : pre.length = pos)
    (hal : Spec.alignMember (.mk n t k) ∣ pos) :
    ∃ rs' p, Cpp.memberStep e all n t k (PL.memOf (PL.nodeTy t) k).size data pos rs lens
        (fun q r => Cpp.decTy e t data q r) =
      (.ok (v, lens) (pos + Spec.clen (Spec.fieldChunks all allv n t k v)) rs', p) := by
  have halT : Spec.alignTy t ∣ pos := by
    rw [← Spec.alignMember_of_ne_optional n t k (by rintro rfl; cases hka)]; exact hal
  rcases hasField_array_shape all k t v (by rintro rfl; cases hka) (by rintro rfl; cases hka) hh with
    ⟨xs, rfl, hel⟩ | ⟨rfl, b, rfl⟩
  · obtain ⟨htb, hl, _⟩ := (hasField_arr_iff all k t xs).1 hh
    have hren := Spec.render_fieldChunks_arr e all allv n t k xs hka
    have hagE : agreeElems t xs = true := by cases t <;> exact hag
    have hrzE : Cpp.resizeOkElems t xs = true := by cases t <;> exact hrz
    refine Cpp.dec_member_array e all allv n t k _ data pre post (Spec.render e (Spec.chunksElems t xs)) pos rs lens xs
      hft hka (Cpp.arrVal_of_ne_byte htb xs).symm rfl ?_ (by rw [Spec.render_length]; exact hren) hl ?_ hrg hpost
      hhint hd hpos
    · rw [Spec.render_length]
      exact Cpp.elemRun_arr e t hE hft hpt hnu hnu2 xs data pre _ pos hel hagE hrzE halT
        (by rw [hd, hren, List.append_assoc]) hpos
    · intro s c hk
      subst hk
      have hfx : Spec.fixedTy t = true := PL.fixed_of_kind_ok t (Cpp.ok_of_front t hft) (hk0 rfl)
      rw [Spec.render_length, fsz_elems xs t hfx hel]
      exact Nat.mul_le_mul_right _ ((lenFits_limited all s c _).1 hl).1
  · have hl := ((hasField_bytes_iff all k .byte b).1 hh).2
    have hren := Spec.render_fieldChunks_bytes e all allv n k b hka
    have hv : Val.bytes b = Cpp.arrVal .byte (b.map fun x => Val.int x.toNat) := (Cpp.toBytesVal_map b).symm
    refine Cpp.dec_member_array e all allv n .byte k _ data pre post b pos rs lens (b.map fun x => Val.int x.toNat)
      hft hka hv (List.length_map _).symm
      (Cpp.elemRun_bytes e data pre _ b pos (by rw [hd, hren, List.append_assoc]) hpos) hren
      (by rw [List.length_map]; exact hl) ?_ hrg hpost hhint hd hpos
    intro s c hk
    subst hk
    have := (lenFits_limited all s c _).1 hl
    rw [show Spec.sizeTy .byte = 1 from rfl]; omega

/-- The statement of one member reads the member's own bytes back.  `hE`: the decoder of its type does;
    `hoa`: the flag of an optional is padded as the document says (no D4); `hk0`: optionals and sized arrays have fixed
    types; `hnu`, `hnu2`: array elements are not unlimited; `hrz`, `hrg`: no `resize` beyond `resizeLimit`;
    `hgl`, `hpost`: an unlimited member ends aligned and nothing follows it (`post = []`);
    `hsd`, `hfit`: a counter is in range, within the limit, and its array fits the bytes that follow (`post`);
    `hhint`: the table holds the length of a counted array. -/
theorem Cpp.dec_member (e : Endian) (all : List Member) (allv : List Val) (n : String) (t : Ty) (k : MKind) (v : Val)
    (data pre post : Bytes) (pos : Nat) (rs : List Nat) (lens : List (String × Nat))
    (hE : Cpp.DecodesCanon e t) (hft : front t = true) (hpt : pyRt t = true)
    (hoa : k = .optional → max 4 (Cpp.cppAlign t) = max 4 (PL.nodeTy t).align)
    (hk0 : needsFixed k = true → (PL.nodeTy t).kind = 0)
    (hnu : isArrayKind k = true → (Py.stTy t).unl = false)
    (hnu2 : isArrayKind k = true → Spec.unlTy t = false)
    (hh : hasField all k t v = true) (hag : agreeTy t v = true) (hrz : Cpp.resizeOkTy t v = true)
    (hrg : k = .greedy → Cpp.codecSize t ≥ 0 → v.len ≤ Cpp.resizeLimit)
    (hgl : (Py.stTy t).unl = true → Spec.galTy t v = true)
    (hpost : (Py.fieldSt (Py.stTy t) k).unl = true → post = [])
    (hal : Spec.alignMember (.mk n t k) ∣ pos)
    (hc : v.isCounter = isSizer n all) (hsd : SizerDecC all allv) (hmem : Member.mk n t k ∈ all)
    (hfit : isSizer n all = true → Spec.counter n all allv * Cpp.resizeElem n all ≤ post.length)
    (hhint : ∀ s, k.sizer? = some s → lens.lookup n = some v.len)
    (hd : data = pre ++ (Spec.render e (Spec.fieldChunks all allv n t k v) ++ post)) (hpos : pre.length = pos) :
    ∃ rs' p, Cpp.memberStep e all n t k (PL.memOf (PL.nodeTy t) k).size data pos rs lens
        (fun q r => Cpp.decTy e t data q r) =
      (.ok (v, if isSizer n all then Py.boundHints all n (Spec.counter n all allv) ++ lens else lens)
        (pos + Spec.clen (Spec.fieldChunks all allv n t k v)) rs', p) := by
  cases hs : isSizer n all with
  | true =>
    rw [hs] at hc
    obtain rfl := (Val.isCounter_eq_true_iff v).1 hc
    obtain rfl := (hasField_sizer all k t).1 hh
    obtain ⟨p, rfl, hsp, hr, hsh, hrl, hlim⟩ := hsd.dec n t .plain hmem hs
    have hrem := hfit hs
    have hch : Spec.fieldChunks all allv n (.prim p) .plain .sizer = [.scalar p.size (Spec.counter n all allv)] := by
      show [Spec.Chunk.scalar p.size (Spec.counter n all allv + sizerShift n all)] = _
      rw [hsh, Nat.add_zero]
    rw [hch] at hd ⊢
    rw [render_scalar] at hd
    have hlt := inRange_nat_lt p _ hr
    have h1 := Cpp.decScalar_at e p.size (Spec.counter n all allv) p.isSigned data pre post pos rs hd hpos hlt
    have hval : (if p.isSigned = true then toSigned p.size (Spec.counter n all allv)
        else ((Spec.counter n all allv : Nat) : Int)) = ((Spec.counter n all allv : Nat) : Int) := by
      have := signed_roundtrip p ((Spec.counter n all allv : Nat) : Int) hr
      rwa [toUnsigned_nat p.size _ hlt] at this
    rw [hval] at h1
    have hlen : data.length = pos + p.size + post.length := by
      rw [hd, ← hpos]; simp only [List.length_append, scalarBytes_length]; omega
    refine ⟨Spec.counter n all allv :: rs, pos + p.size, ?_⟩
    rw [Cpp.memberStep_sizer_ok e all n (.prim p) _ data pos rs lens _ hs (Spec.counter n all allv) (pos + p.size)
      (by rw [hsp]; exact h1) hlim (by rw [Cpp.remaining_of_le (by omega)]; omega) hrl]
    rfl
  | false =>
    rw [hs] at hc
    simp only [Bool.false_eq_true, if_false]
    by_cases hka : isArrayKind k = true
    · exact Cpp.dec_member_arrayKind e all allv n t k v data pre post pos rs lens hE hft hpt hka hk0 (hnu hka) (hnu2 hka)
        hh hag hrz hrg (fun hk => hpost (by subst hk; rfl)) hhint hd hpos hal
    cases k with
    | plain =>
      rw [Spec.fieldChunks_plain all allv n t v hc] at hd ⊢
      obtain ⟨rs', p, h⟩ := hE v data pre post pos rs hc (by rw [hasField_plain_indep [] all]; exact hh) hag hrz
        (fun hu => ⟨hgl hu, hpost hu⟩) hal hd hpos
      exact ⟨rs', p, by rw [Cpp.memberStep_plain _ _ _ _ _ _ _ _ _ _ hs, Cpp.retag_ok _ h]⟩
    | optional =>
      have hkind := hk0 rfl
      have hfxt := PL.fixed_of_kind_ok t (Cpp.ok_of_front t hft) hkind
      have hcs := Cpp.codecSize_kind0 t hft hkind
      have hM : max 4 (Cpp.cppAlign t) = max 4 (Spec.alignTy t) := by rw [hoa rfl, PL.nodeTy_align' t]
      have hap : (if Cpp.cppAlign t > 4 then Cpp.cppAlign t - 4 else 0) = max 4 (Spec.alignTy t) - 4 := by
        rw [Cpp.gap_eq, hM]
      have halm : max 4 (Spec.alignTy t) ∣ pos := hal
      rcases hasField_optional_shape all t v hh with rfl | ⟨x, rfl, hcx, hx⟩
      · have hch : Spec.fieldChunks all allv n t .optional .absent =
            [.pad (max 4 (Spec.alignTy t) + Spec.sizeTy t)] := rfl
        rw [hch] at hd ⊢
        have hz : zeros (max 4 (Spec.alignTy t) + Spec.sizeTy t) =
            scalarBytes e 4 0 ++ zeros (max 4 (Spec.alignTy t) + Spec.sizeTy t - 4) := by
          rw [scalarBytes_zero, ← zeros_add]; congr 1; omega
        have hd' : data = pre ++ (scalarBytes e 4 0 ++ (zeros (max 4 (Spec.alignTy t) + Spec.sizeTy t - 4) ++ post)) := by
          rw [hd, show Spec.render e [.pad (max 4 (Spec.alignTy t) + Spec.sizeTy t)] =
            zeros (max 4 (Spec.alignTy t) + Spec.sizeTy t) ++ [] from rfl, hz]
          simp only [List.append_assoc, List.nil_append]
        have h1 := Cpp.decScalar_at e 4 0 false data pre _ pos rs hd' hpos (by decide)
        have hlen : data.length = pos + (max 4 (Spec.alignTy t) + Spec.sizeTy t) + post.length := by
          rw [hd, ← hpos]
          simp only [List.length_append, Spec.render_length, Spec.clen_singleton, Spec.Chunk.len_pad]; omega
        refine ⟨rs, pos + 4 + (max 4 (Spec.alignTy t) - 4) + Spec.sizeTy t, ?_⟩
        rw [Cpp.memberStep_absent_ok e all n t _ data pos rs lens _ (max 4 (Spec.alignTy t) - 4) (Spec.sizeTy t) h1
          hap hcs (by omega)]
        have hp : pos + 4 + (max 4 (Spec.alignTy t) - 4) + Spec.sizeTy t =
            pos + Spec.clen [Spec.Chunk.pad (max 4 (Spec.alignTy t) + Spec.sizeTy t)] := by
          rw [Spec.clen_singleton, Spec.Chunk.len_pad]; omega
        rw [hp]
      · have hun := Accept.not_unl_of_fixed t hft hpt hfxt
        have hch : Spec.fieldChunks all allv n t .optional (.present x) =
            [.scalar 4 1, .pad (max 4 (Spec.alignTy t) - 4)] ++ Spec.chunksTy t x := rfl
        rw [hch] at hd ⊢
        have hd0 : data = pre ++ (scalarBytes e 4 1 ++ (zeros (max 4 (Spec.alignTy t) - 4) ++
            (Spec.render e (Spec.chunksTy t x) ++ post))) := by
          rw [hd, Spec.render_append]
          simp only [Spec.render, Spec.Chunk.render, List.append_assoc, List.append_nil]
        have h0 := Cpp.decScalar_at e 4 1 false data pre _ pos rs hd0 hpos (by decide)
        have hlen : data.length = pos + 4 + (max 4 (Spec.alignTy t) - 4) + Spec.clen (Spec.chunksTy t x) + post.length := by
          rw [hd0, ← hpos]
          simp only [List.length_append, Spec.render_length, scalarBytes_length, zeros_length]; omega
        obtain ⟨rs1, p1, h1⟩ := hE x data (pre ++ scalarBytes e 4 1 ++ zeros (max 4 (Spec.alignTy t) - 4)) post
          (pos + 4 + (max 4 (Spec.alignTy t) - 4)) rs hcx (by rw [hasField_plain_indep [] all]; exact hx) hag hrz
          (fun h => by rw [hun] at h; cases h)
          (by
            rw [show pos + 4 + (max 4 (Spec.alignTy t) - 4) = pos + max 4 (Spec.alignTy t) by omega]
            exact Spec.alignTy_dvd_add_gap t halm)
          (by rw [hd0]; simp only [List.append_assoc])
          (by simp only [List.length_append, scalarBytes_length, zeros_length, hpos])
        refine ⟨rs1, p1, ?_⟩
        rw [Cpp.memberStep_present e all n t _ data pos rs lens _ (max 4 (Spec.alignTy t) - 4) h0 hap (by omega),
          Cpp.retag_ok _ h1]
        have hp : pos + 4 + (max 4 (Spec.alignTy t) - 4) + Spec.clen (Spec.chunksTy t x) =
            pos + Spec.clen ([Spec.Chunk.scalar 4 1, .pad (max 4 (Spec.alignTy t) - 4)] ++ Spec.chunksTy t x) := by
          rw [Spec.clen_append, Spec.clen_cons, Spec.clen_singleton, Spec.Chunk.len_pad, Spec.Chunk.len_scalar]; omega
        rw [hp]
    | _ => exact absurd rfl hka

/-- `Cpp.dec_member` for a member of an accepted struct, the rest of the struct behind it.  `off` only names where the
    rest starts in `hd`; `hbef`: the counter of every array in `before` is in `before` too, so the array of counter `n`
    lies behind `n` and its bytes are in the rest (`hfit`); `hgl`, `hpost`: as there, for the struct. -/
theorem Cpp.dec_member_of_struct (e : Endian) (all : List Member) (allv : List Val) (before : List Member) (n : String)
    (t : Ty) (k : MKind) (r : List Member) (v : Val) (vs : List Val) (data pre post : Bytes) (pos off : Nat)
    (rs : List Nat) (lens : List (String × Nat))
    (hall : all = before ++ .mk n t k :: r) (huq : WF.uniq (all.map (·.name)) = true)
    (hfm : frontMs all (.mk n t k :: r) before = true) (hpm : pyRtMs all (.mk n t k :: r) before = true)
    (hom : Cpp.optMisalignedMs (.mk n t k :: r) = false) (hE : Cpp.DecodesCanon e t)
    (hh : hasMs all (.mk n t k :: r) (v :: vs) = true) (hag : agreeTy t v = true)
    (hrz : Cpp.resizeOkFields (.mk n t k :: r) (v :: vs) = true)
    (hgl : (Py.stMs all).any (·.unl) = true → Spec.galMs (.mk n t k :: r) (v :: vs) = true)
    (hpost : (Py.stMs all).any (·.unl) = true → post = [])
    (hlens : lensOk all allv (.mk n t k :: r) (v :: vs)) (hinv : HintInv all allv lens before (.mk n t k :: r))
    (hsd : SizerDecC all allv) (hbef : ∀ m ∈ before, ∀ s, m.kind.sizer? = some s → ∃ x ∈ before, x.name = s)
    (hal : Spec.alignMember (.mk n t k) ∣ pos)
    (hd : data = pre ++ (Spec.render e (Spec.fieldChunks all allv n t k v) ++
      (Spec.render e (Spec.chunksMs all allv r vs (off + Spec.clen (Spec.fieldChunks all allv n t k v))
        (Spec.endsBlock (.mk n t k))) ++ post))) (hpre : pre.length = pos) :
    ∃ rs' p, Cpp.memberStep e all n t k (PL.memOf (PL.nodeTy t) k).size data pos rs lens
        (fun q r => Cpp.decTy e t data q r) =
      (.ok (v, if isSizer n all then Py.boundHints all n (Spec.counter n all allv) ++ lens else lens)
        (pos + Spec.clen (Spec.fieldChunks all allv n t k v)) rs', p) := by
  obtain ⟨hft, ho, hs, ha, _, _, _, _, hfr⟩ := (Accept.frontMs_cons_iff all n t k r before).1 hfm
  obtain ⟨hpt, _, _, h4, _, _, _, hpr⟩ := (Accept.pyRtMs_cons all n t k r before).1 hpm
  obtain ⟨hcnt, hf, hhr⟩ := (hasMs_cons all n t k r v vs).1 hh
  obtain ⟨hoa, _, _⟩ := (Cpp.optMisalignedMs_cons n t k r).1 hom
  obtain ⟨⟨_, hrz2⟩, hrzt, _⟩ := (Cpp.resizeOkFields_cons n t k r v vs).1 hrz
  have hmem : Member.mk n t k ∈ all := by rw [hall]; simp
  have hk0 : needsFixed k = true → (PL.nodeTy t).kind = 0 := fun h =>
    ((Accept.needsFixed_iff k).1 h).elim ho hs
  obtain ⟨hgal, hlast, hhint, _⟩ := HintInv.member hall huq hpm hhr hgl hlens hinv
  have hfit : isSizer n all = true → Spec.counter n all allv * Cpp.resizeElem n all ≤
      (Spec.render e (Spec.chunksMs all allv r vs (off + Spec.clen (Spec.fieldChunks all allv n t k v))
        (Spec.endsBlock (.mk n t k))) ++ post).length := by
    intro his
    obtain ⟨m', hm', hs', hre⟩ := Cpp.resizeElem_mem n all his
    have hmr : m' ∈ r := by
      rw [hall] at hm'
      rcases List.mem_append.1 hm' with hb | hc
      · exfalso
        obtain ⟨x, hx, hxn⟩ := hbef m' hb n hs'
        exact names_ne_of_uniq (·.name) before (.mk n t k) r (by rw [← hall]; exact huq) x hx hxn
      · rcases List.mem_cons.1 hc with rfl | hr
        · rw [his] at hcnt
          obtain rfl := (Val.isCounter_eq_true_iff v).1 hcnt
          obtain rfl := (hasField_sizer all k t).1 hf
          cases hs'
        · exact hr
    have := Cpp.counter_mul_le_clen all allv n r vs (before ++ [Member.mk n t k])
      (off + Spec.clen (Spec.fieldChunks all allv n t k v)) (Spec.endsBlock (.mk n t k)) hfr hpr hhr hlens.2
      m' hmr hs'
    rw [hre, List.length_append, Spec.render_length]
    omega
  refine Cpp.dec_member e all allv n t k v data pre _ pos rs lens hE hft hpt hoa hk0 h4
    (fun h => PL.unl_of_kind t hft (ha h)) hf hag hrzt hrz2 hgal ?_ hal hcnt hsd hmem hfit hhint hd hpre
  intro hu
  obtain ⟨rfl, rfl, hany⟩ := hlast hu
  rw [hpost hany]
  rfl

namespace Cpp

theorem padded_end_le {base x c p R q post L : Nat} (hL : L = base + x + (c + (R + post)))
    (hfit : x + c + p ≤ x + c + R + q) (hq : q ≤ post) : base + x + c + p ≤ L := by omega

/-- generate_struct_decode in front of the remaining members `ms`, at offset `off` (before the padding to their place) of a
    struct that starts at `base`, on their canonical bytes followed by the struct's end padding -/
theorem decMs_lay (e : Endian) (all : List Member) (allv : List Val) (data post : Bytes) (base S : Nat) (any : Bool)
    (huq : WF.uniq (all.map (·.name)) = true) (hS : S = Spec.alignMs all) (hbase : S ∣ base)
    (hsd : SizerDecC all allv)
    (hpost : (Py.stMs all).any (·.unl) = true → post = []) :
    (ms : List Member) → ∀ (vs : List Val) (before : List Member) (pre : Bytes)
      (lens : List (String × Nat)) (rs : List Nat) (ad : Bool) (off bs A : Nat),
    (hall : all = before ++ ms) →
    (hfm : frontMs all ms before = true) → (hpm : pyRtMs all ms before = true) →
    (hom : optMisalignedMs ms = false) →
    (hE : ∀ m ∈ ms, DecodesCanon e m.ty) →
    (hh : hasMs all ms vs = true) → (hag : agreeFields ms vs = true) →
    (hrz : resizeOkFields ms vs = true) →
    (hgl : (Py.stMs all).any (·.unl) = true → Spec.galMs ms vs = true) →
    (hpre : pre.length = base + off) →
    (hd : data = pre ++ (Spec.render e (Spec.chunksMs all allv ms vs off ad) ++ post)) →
    (hfin : padTo (off + Spec.clen (Spec.chunksMs all allv ms vs off ad)) S ≤ post.length) →
    (hlens : lensOk all allv ms vs) → (hinv : HintInv all allv lens before ms) →
    (hbef : ∀ m ∈ before, ∀ s, m.kind.sizer? = some s → ∃ x ∈ before, x.name = s) →
    (inv : LayInv S any ms ad off bs A) →
    ∃ rs' p, decMs e all ms (lay S any ms ad bs) data (base + alignUp off (aN S ad ms)) rs lens =
      (.ok vs (base + alignUp (off + Spec.clen (Spec.chunksMs all allv ms vs off ad)) S) rs', p)
  -- no member left: the cursor stands at the struct's end
  | [] => by
    intro vs before pre lens rs ad off bs A _ _ _ _ _ hh
    intros
    obtain rfl := (hasMs_nil_left all vs).1 hh
    exact ⟨rs, _, by rw [decMs_nil, Spec.chunksMs_nil]; rfl⟩
  -- the member's statement on its own bytes, its padding statement, the remaining members
  | .mk n t k :: r => by
    intro vs before pre lens rs ad off bs A hall hfm hpm hom hE hh hag hrz hgl hpre hd hfin hlens hinv hbef inv
    obtain ⟨v, vs', rfl⟩ := hasMs_cons_vals hh
    have hSal : IsAl S := by rw [hS]; exact Spec.alignMs_isAl all
    have hfr := (Accept.frontMs_head_tail hfm).2
    have hM := Cpp.MemberOk.of_frontMs hfm
    have hpr := (Accept.pyRtMs_head_tail hpm).2
    obtain ⟨_, hf, hhr⟩ := (hasMs_cons all n t k r v vs').1 hh
    obtain ⟨_, _, homr⟩ := (optMisalignedMs_cons n t k r).1 hom
    obtain ⟨_, _, hrzr⟩ := (resizeOkFields_cons n t k r v vs').1 hrz
    have hag' : (agreeTy t v && agreeFields r vs') = true := hag
    rw [Bool.and_eq_true] at hag'
    have hL : PL.LenOk (.mk n t k) (Spec.clen (Spec.fieldChunks all allv n t k v)) (mslot (.mk n t k)) :=
      PL.lenOk_fieldChunks all allv n t k v hM hf
    obtain ⟨hpad, A', inv'⟩ := inv.step hSal hL
    replace hpad := hpad base hbase
    have hal := inv.dvd_pos hSal hbase
    have hfit := place_le_end S all allv r vs' (alignUp off (aN S ad (.mk n t k :: r)) +
      Spec.clen (Spec.fieldChunks all allv n t k v)) (Spec.endsBlock (.mk n t k)) (hasMs_length all r vs' hhr)
    have hE0 : off + Spec.clen (Spec.chunksMs all allv (.mk n t k :: r) (v :: vs') off ad) =
        alignUp off (aN S ad (.mk n t k :: r)) + Spec.clen (Spec.fieldChunks all allv n t k v) +
          Spec.clen (Spec.chunksMs all allv r vs' (alignUp off (aN S ad (.mk n t k :: r)) +
            Spec.clen (Spec.fieldChunks all allv n t k v)) (Spec.endsBlock (.mk n t k))) := by
      rw [Spec.chunksMs_cons, Spec.clen_cons, Spec.clen_append, Spec.Chunk.len_pad]
      simp only [aN, alignUp]; omega
    rw [hE0] at hfin ⊢
    have hd0 : data = (pre ++ zeros (padTo off (aN S ad (.mk n t k :: r)))) ++
        (Spec.render e (Spec.fieldChunks all allv n t k v) ++ (Spec.render e (Spec.chunksMs all allv r vs'
          (alignUp off (aN S ad (.mk n t k :: r)) + Spec.clen (Spec.fieldChunks all allv n t k v))
          (Spec.endsBlock (.mk n t k))) ++ post)) := by
      rw [hd, Spec.chunksMs_cons]
      simp only [render_cons, Spec.Chunk.render, Spec.render_append, List.append_assoc, aN, alignUp]
    generalize aN S ad (.mk n t k :: r) = a at *
    generalize hfc : Spec.fieldChunks all allv n t k v = fc at *
    generalize ha' : aN S (Spec.endsBlock (.mk n t k)) r = a' at *
    generalize hrest : Spec.chunksMs all allv r vs' (alignUp off a + Spec.clen fc) (Spec.endsBlock (.mk n t k)) = rest at *
    have hpre1 : (pre ++ zeros (padTo off a)).length = base + alignUp off a := by
      rw [List.length_append, zeros_length, hpre, alignUp, Nat.add_assoc]
    have hlenD := congrArg List.length hd0
    simp only [List.length_append, Spec.render_length, hpre1] at hlenD
    obtain ⟨rs1, p1, hbody⟩ := dec_member_of_struct e all allv before n t k r v vs' data _ post (base + alignUp off a)
      (alignUp off a) rs lens hall huq hfm hpm hom (hE _ (List.mem_cons_self ..)) hh hag'.1 hrz hgl hpost hlens hinv hsd
      hbef hal (by rw [hfc, hrest]; exact hd0) hpre1
    rw [hfc] at hbody
    have hinv' := (HintInv.member hall huq hpm hhr hgl hlens hinv).2.2.2
    have hbef' : ∀ m ∈ before ++ [Member.mk n t k], ∀ s, m.kind.sizer? = some s →
        ∃ x ∈ before ++ [Member.mk n t k], x.name = s := by
      intro m hm s hs'
      rcases List.mem_append.1 hm with hb | hc
      · obtain ⟨x, hx, hxn⟩ := hbef m hb s hs'
        exact ⟨x, List.mem_append_left _ hx, hxn⟩
      · obtain rfl : m = .mk n t k := by simpa using hc
        obtain ⟨y, hy, hyn, -⟩ := Accept.sizer_before hpm hs'
        exact ⟨y, List.mem_append_left _ hy, hyn⟩
    obtain ⟨rs2, p2, hIH⟩ := decMs_lay e all allv data post base S any huq hS hbase hsd hpost r vs'
      (before ++ [Member.mk n t k]) (pre ++ zeros (padTo off a) ++ Spec.render e fc)
      (if isSizer n all then Py.boundHints all n (Spec.counter n all allv) ++ lens else lens) rs1
      (Spec.endsBlock (.mk n t k)) (alignUp off a + Spec.clen fc) (alignUp (bs + mslot (.mk n t k)) a') A'
      (by simp [hall]) hfr hpr homr (fun m hm => hE m (List.mem_cons_of_mem _ hm)) hhr hag'.2 hrzr
      (fun hu => Spec.galMs_tail _ _ v _ (hgl hu))
      (by rw [List.length_append, Spec.render_length, hpre1, Nat.add_assoc])
      (by rw [hd0, hrest]; simp only [List.append_assoc]) (by rw [hrest]; exact hfin) hlens.2 hinv' hbef' inv'
    rw [hrest, ha'] at hIH
    refine ⟨rs2, p2, ?_⟩
    have hms : mslot (.mk n t k) = (PL.memOf (PL.nodeTy t) k).size := rfl
    rw [← hms] at hbody
    rw [lay_cons, ha', decMs_cons, hbody]
    simp only [andThen_ok]
    have hau : alignUp (alignUp off a + Spec.clen fc) a' =
        alignUp off a + Spec.clen fc + padTo (alignUp off a + Spec.clen fc) a' := rfl
    have hnext := padded_end_le hlenD hfit hfin
    rw [padStep_eq _ _ _ _ (Nat.le_trans (Nat.le_add_right ..) hnext), applyPad_eq, hpad, if_pos hnext,
      show base + alignUp off a + Spec.clen fc + padTo (alignUp off a + Spec.clen fc) a' =
        base + alignUp (alignUp off a + Spec.clen fc) a' by rw [hau]; omega]
    simp only [andThen_ok]
    rw [hIH]
    rfl

theorem decodesCanon_struct (e : Endian) (nm : String) (ms : List Member) (hft : front (.struct nm ms) = true)
    (hpt : pyRt (.struct nm ms) = true) (hns : noShiftMs ms = true) (hom : optMisalignedMs ms = false)
    (hE : ∀ m ∈ ms, DecodesCanon e m.ty) : DecodesCanon e (.struct nm ms) := by
  intro v data pre post pos rs hc hh hag hrz hgl hal hd hpos
  obtain ⟨vs, rfl, hhm⟩ : ∃ vs, v = .struct vs ∧ hasMs ms ms vs = true := by
    rcases hasField_plain_val [] _ v hc hh with ⟨i, rfl⟩ | ⟨_, _, vs, ht, hv, hm⟩ | ⟨_, _, _, _, _, _, _, ht, _⟩
    · rcases (hasField_int [] .plain _ i hh).2 with ⟨p, h, _⟩ | ⟨h, _⟩ | ⟨_, _, h, _⟩ <;> cases h  -- scalar
    · cases ht; exact ⟨vs, hv, hm⟩  -- struct
    · cases ht                      -- union
  obtain ⟨_, huq, hw, hfm, hpm⟩ := Accept.struct_facts nm ms hft hpt
  have hag' : (agreeMs ms vs && agreeFields ms vs) = true := hag
  rw [Bool.and_eq_true] at hag'
  have hunl : (Py.stMs ms).any (·.unl) = true → (Py.stTy (.struct nm ms)).unl = true := by
    intro h; simpa [Py.stTy, Py.structSt] using h
  rw [Spec.chunksTy_struct] at hd ⊢
  rw [Spec.render_append, List.append_assoc] at hd
  obtain ⟨rs', p, h⟩ := decMs_lay e ms vs data
    (Spec.render e [.pad (padTo (Spec.clen (Spec.chunksMs ms vs ms vs 0 false)) (Spec.alignMs ms))] ++ post) pos
    (Spec.alignMs ms) (Spec.dynMs ms) huq rfl hal
    (sizerDecC ms vs huq hw hhm hns hrz)
    (fun hu => by rw [(Accept.gal_of_unl_struct nm ms vs hpt (hunl hu) (hgl (hunl hu)).1).1, (hgl (hunl hu)).2]; rfl)
    ms vs [] pre [] rs false 0 0 (Spec.alignMs ms) rfl hfm hpm hom hE hhm hag'.2 hrz
    (fun hu => (Accept.gal_of_unl_struct nm ms vs hpt (hunl hu) (hgl (hunl hu)).1).2)
    (by omega) hd (by simp [Spec.render, Spec.Chunk.render, zeros_length]) (lensOk_of_agree _ _ hag'.1) (HintInv.nil _ _ _)
    (by intro m hm; cases hm) (LayInv.init ms)
  rw [alignUp_zero, Nat.add_zero, Nat.zero_add] at h
  refine ⟨rs', p, ?_⟩
  rw [decTy_struct, structMembers_eq_lay ms (okMs_of_front ms ms [] hfm), h, Spec.clen_append, Spec.clen_singleton,
    Spec.Chunk.len_pad]
  rfl

end Cpp

theorem Cpp.decodesCanon_union (e : Endian) (nm : String) (arms : List Arm) (hft : front (.union nm arms) = true)
    (hpt : pyRt (.union nm arms) = true)
    (hE : ∀ (idx : Nat) (an : String) (d : Nat) (t' : Ty), arms[idx]? = some (Arm.mk an d t') → Cpp.DecodesCanon e t') :
    Cpp.DecodesCanon e (.union nm arms) := by
  intro v data pre post pos rs hc hh hag hrz _ hal hd hpos
  obtain ⟨idx, x, an, d, t', rfl, ha, hcx, hx⟩ : ∃ idx x an d t', v = .union idx x ∧
      arms[idx]? = some (.mk an d t') ∧ x.isCounter = false ∧ hasField [] .plain t' x = true := by
    rcases hasField_plain_val [] _ v hc hh with ⟨i, rfl⟩ | ⟨_, _, _, ht, _⟩ | ⟨_, _, idx, x, an, d, t', ht, hv, h⟩
    · rcases (hasField_int [] .plain _ i hh).2 with ⟨p, h, _⟩ | ⟨h, _⟩ | ⟨_, _, h, _⟩ <;> cases h  -- scalar
    · cases ht                                    -- struct
    · cases ht; exact ⟨idx, x, an, d, t', hv, h⟩  -- union
  obtain ⟨hft', hpt', hun, hd32, hdisc, halt, hcl, pad, hren⟩ := Accept.union_canon e nm arms idx an d t' x hft hpt ha hcx hx
  have hszM := Spec.flag_le_sizeTy_union nm arms
  have hd0 : data = pre ++ (scalarBytes e 4 d ++ (zeros (max 4 (Spec.alignArms arms) - 4) ++
      (Spec.render e (Spec.chunksTy t' x) ++ (zeros pad ++ post)))) := by
    rw [hd, hren]; simp only [List.append_assoc]
  have h0 := Cpp.decScalar_at e 4 d false data pre _ pos rs hd0 hpos (by omega)
  have hpick := Cpp.decArms_pick e data (pos + 4 + (max 4 (Spec.alignArms arms) - 4)) rs d an t' arms 0 idx ha hdisc
  have halU : max 4 (Spec.alignArms arms) ∣ pos := hal
  obtain ⟨rs1, p1, h1⟩ := hE idx an d t' ha x data (pre ++ scalarBytes e 4 d ++ zeros (max 4 (Spec.alignArms arms) - 4))
    (zeros pad ++ post)
    (pos + 4 + (max 4 (Spec.alignArms arms) - 4)) rs hcx hx (by simpa [agreeTy, ha] using hag)
    (by simpa [Cpp.resizeOkTy, ha] using hrz) (fun h => by rw [hun] at h; cases h)
    (by
      rw [show pos + 4 + (max 4 (Spec.alignArms arms) - 4) = pos + max 4 (Spec.alignArms arms) by omega]
      exact (Nat.dvd_add_right (Nat.dvd_trans halt halU)).2 halt)
    (by rw [hd0]; simp only [List.append_assoc])
    (by simp only [List.length_append, scalarBytes_length, zeros_length, hpos])
  have hlen : data.length = pos + Spec.sizeTy (.union nm arms) + post.length := by
    rw [hd, ← hpos]; simp only [List.length_append, Spec.render_length, hcl]; omega
  refine ⟨rs1, pos + Spec.sizeTy (.union nm arms), ?_⟩
  have h2 : pos + 4 + (max 4 (Spec.alignArms arms) - 4) = pos + max 4 (Spec.alignArms arms) := by omega
  rw [h2] at hpick h1
  rw [Cpp.decTy_union_ok e nm arms data pos rs d idx x rs1
    (pos + max 4 (Spec.alignArms arms) + Spec.clen (Spec.chunksTy t' x)) hft h0 (by rw [hpick, h1]; simp) (by omega), hcl]

mutual
  theorem Cpp.dec_ty (e : Endian) : (t : Ty) → front t = true → pyRt t = true → Cpp.noShift t = true →
      Cpp.optMisaligned t = false → Cpp.DecodesCanon e t
    | .prim p, hf, hp, _, _ => Cpp.decodesCanon_scalar e _ (Accept.wf_of_accept _ hf hp) (fun _ _ => Ty.noConfusion)
        (fun _ _ => Ty.noConfusion)
    | .byte, hf, hp, _, _ => Cpp.decodesCanon_scalar e _ (Accept.wf_of_accept _ hf hp) (fun _ _ => Ty.noConfusion)
        (fun _ _ => Ty.noConfusion)
    | .enum nm es, hf, hp, _, _ => Cpp.decodesCanon_scalar e _ (Accept.wf_of_accept _ hf hp)
        (fun _ _ => Ty.noConfusion) (fun _ _ => Ty.noConfusion)
    | .struct nm ms, hf, hp, hns, hom => by
      obtain ⟨_, _, _, hfm, hpm⟩ := Accept.struct_facts nm ms hf hp
      exact Cpp.decodesCanon_struct e nm ms hf hp hns hom (Cpp.dec_mems e ms ms [] hfm hpm hns hom)
    | .union nm arms, hf, hp, hns, hom => by
      have hf' := hf
      have hp' := hp
      simp only [front, Bool.and_eq_true] at hf'
      simp only [pyRt, Bool.and_eq_true] at hp'
      exact Cpp.decodesCanon_union e nm arms hf hp (Cpp.dec_arms e arms hf'.2 hp'.2 hns hom)
  theorem Cpp.dec_arms (e : Endian) : (arms : List Arm) → frontArms arms = true → pyRtArms arms = true →
      Cpp.noShiftArms arms = true → Cpp.optMisalignedArms arms = false →
      ∀ (idx : Nat) (an : String) (d : Nat) (t' : Ty), arms[idx]? = some (Arm.mk an d t') → Cpp.DecodesCanon e t'
    | [], _, _, _, _, idx, _, _, _, h => by simp at h
    | .mk n0 d0 t0 :: r, hf, hp, hns, hom, idx, an, d, t', h => by
      obtain ⟨hft, _, _, hfr⟩ := (Accept.frontArms_cons_iff n0 d0 t0 r).1 hf
      obtain ⟨hpt, _, hpr⟩ := (Accept.pyRtArms_cons n0 d0 t0 r).1 hp
      have hns' : (Cpp.noShift t0 && Cpp.noShiftArms r) = true := hns
      have hom' : (Cpp.optMisaligned t0 || Cpp.optMisalignedArms r) = false := hom
      simp only [Bool.and_eq_true] at hns'
      rw [Bool.or_eq_false_iff] at hom'
      cases idx with
      | zero =>
        obtain ⟨_, _, rfl⟩ : n0 = an ∧ d0 = d ∧ t0 = t' := by simpa using h
        exact Cpp.dec_ty e t0 hft hpt hns'.1 hom'.1
      | succ i => exact Cpp.dec_arms e r hfr hpr hns'.2 hom'.2 i an d t' (by simpa using h)
  theorem Cpp.dec_mems (e : Endian) : (ms : List Member) → ∀ (all before : List Member),
      frontMs all ms before = true → pyRtMs all ms before = true →
      Cpp.noShiftMs ms = true → Cpp.optMisalignedMs ms = false →
      ∀ m ∈ ms, Cpp.DecodesCanon e m.ty
    | [], _, _, _, _, _, _, m, hm => by cases hm
    | .mk n t k :: r, all, before, hf, hp, hns, hom, m, hm => by
      obtain ⟨hft, hfr⟩ := Accept.frontMs_head_tail hf
      obtain ⟨hpt, hpr⟩ := Accept.pyRtMs_head_tail hp
      obtain ⟨_, hnst, hnsr⟩ := (Cpp.noShiftMs_cons n t k r).1 hns
      obtain ⟨_, homt, homr⟩ := (Cpp.optMisalignedMs_cons n t k r).1 hom
      rcases List.mem_cons.1 hm with rfl | hr
      · exact Cpp.dec_ty e t hft hpt hnst homt
      · exact Cpp.dec_mems e r all (before ++ [Member.mk n t k]) hfr hpr hnsr homr m hr
end

/-- the chunks of a struct from the own bytes of member `n` on (no padding in front); only the statement of
    `dec_ms_p10` uses it -/
def Spec.bodyMs (all : List Member) (allv : List Val) (n : String) (t : Ty) (k : MKind) (r : List Member) :
    List Val → Nat → List Spec.Chunk
  | v :: vs, off =>
    Spec.fieldChunks all allv n t k v ++
      Spec.chunksMs all allv r vs (off + Spec.clen (Spec.fieldChunks all allv n t k v)) (Spec.endsBlock (.mk n t k))
  | [], _ => []

namespace Cpp
open Accept

/-- a second way to start the invariant, at any member: the walk AT a member (`off` the offset of its own bytes, `st`
    its static offset, `pd`: a dynamic member has been passed) is the walk in front of it -/
theorem LayInv.of_at {S : Nat} {any first pd : Bool} {m : Member} {r : List Member} {off st : Nat} (hS : IsAl S)
    (hmem : ∀ x ∈ m :: r, Spec.alignMember x ∣ S) (hd : any = (pd || Spec.dynMs (m :: r)))
    (heq : pd = false → off = st) (hcong : off % Spec.blockAlign (m :: r) = st % Spec.blockAlign (m :: r))
    (ha : aN S first (m :: r) ∣ off) (hst : aN S first (m :: r) ∣ st) :
    ∃ A, LayInv S any (m :: r) first off st A := by
  have hB := Spec.blockAlign_dvd S hS _ hmem
  have hanyd : Spec.dynMs (m :: r) = true → any = true := fun h => by rw [hd, h, Bool.or_true]
  rw [← alignUp_of_dvd off _ ha] at hcong heq
  cases hpd : pd with
  | false => exact ⟨S, hst, by rw [heq hpd], hB, fun _ => Nat.dvd_refl _, hanyd, hmem⟩
  | true => exact ⟨_, hst, hcong, Nat.dvd_refl _, fun h => by rw [hd, hpd] at h; exact Bool.noConfusion h, hanyd, hmem⟩

end Cpp

/-- `Cpp.decMs_lay` stated in prophyc's own terms (`lsFrom`, `curMem`, `bump`; at a member, with `pd`, `first`, `st`);
    proved from `LayInv.of_at`, `decMs_lay` and `lsFrom_eq_lay` -/
theorem dec_ms_p10 (e : Endian) : (vs : List Val) → ∀ (n : String) (t : Ty) (k : MKind) (r : List Member)
    (all : List Member) (allv : List Val) (before : List Member) (data pre post : Bytes)
    (lens : List (String × Nat)) (rs : List Nat) (first pd : Bool) (off st base A : Nat) (d : Bool),
    all = before ++ .mk n t k :: r → WF.uniq (all.map (·.name)) = true →
    frontMs all (.mk n t k :: r) before = true → pyRtMs all (.mk n t k :: r) before = true →
    Cpp.noShiftMs (.mk n t k :: r) = true → Cpp.optMisalignedMs (.mk n t k :: r) = false →
    hasMs all (.mk n t k :: r) vs = true → agreeFields (.mk n t k :: r) vs = true →
    Cpp.resizeOkFields (.mk n t k :: r) vs = true →
    ((Py.stMs all).any (·.unl) = true → Spec.galMs (.mk n t k :: r) vs = true) →
    ((Py.stMs all).any (·.unl) = true → post = []) →
    A = Spec.alignMs all → A ∣ base → pre.length = base + off →
    data = pre ++ (Spec.render e (Spec.bodyMs all allv n t k r vs off) ++ post) →
    alignUp (off + Spec.clen (Spec.bodyMs all allv n t k r vs off)) A
      - (off + Spec.clen (Spec.bodyMs all allv n t k r vs off)) ≤ post.length →
    lensOk all allv (.mk n t k :: r) vs → HintInv all allv lens before (.mk n t k :: r) → SizerDecC all allv →
    (∀ m ∈ before, ∀ s, m.kind.sizer? = some s → ∃ x ∈ before, x.name = s) →
    d = (pd || (PL.memsOf (.mk n t k :: r)).any PL.isMemberDynamic) →
    (pd = false → off = st) →
    off % Spec.blockAlign (.mk n t k :: r) = st % Spec.blockAlign (.mk n t k :: r) →
    Spec.alignMember (.mk n t k) ∣ off →
    (PL.curMem first n t k r).align ∣ st →
    ∃ rs' p, Cpp.decMs e all (.mk n t k :: r)
        (PL.lsFrom A d (PL.curMem first n t k r) (PL.bump (PL.memsOf r) (PL.endsPart (PL.memOf (PL.nodeTy t) k)))
          (st + (PL.memOf (PL.nodeTy t) k).size)) data (base + off) rs lens =
      (.ok vs (base + alignUp (off + Spec.clen (Spec.bodyMs all allv n t k r vs off)) A) rs', p) := by
  intro vs n t k r all allv before data pre post lens rs first pd off st base A d hall huq hfm hpm hns hom hh hag hrz hgl
    hpost hA hbase hpre hd hfin hlens hinv hsd hbef hdd hi1 hi2 hi3 hi4
  obtain ⟨v, vs', rfl⟩ := hasMs_cons_vals hh
  have hok := Cpp.okMs_of_front all _ before hfm
  have hAal : IsAl A := by rw [hA]; exact Spec.alignMs_isAl all
  have hmemS : ∀ m ∈ Member.mk n t k :: r, Spec.alignMember m ∣ A := fun m hm => by
    rw [hA]; exact Spec.alignMember_dvd_alignMs m all (by rw [hall]; exact List.mem_append_right _ hm)
  have ha : Cpp.aN A first (.mk n t k :: r) ∣ off := by
    cases first
    · exact hi3
    · exact Nat.dvd_of_mod_eq_zero (hi2.trans (Nat.mod_eq_zero_of_dvd hi4))
  have hau := alignUp_of_dvd _ _ ha
  -- at a member whose place has been reached, the chunks in front of it are its body
  have hbody : Spec.chunksMs all allv (.mk n t k :: r) (v :: vs') off first =
      .pad 0 :: Spec.bodyMs all allv n t k r (v :: vs') off := by
    rw [Spec.chunksMs_cons, show (if first = true then Spec.blockAlign (.mk n t k :: r) else
      Spec.alignMember (.mk n t k)) = Cpp.aN A first (.mk n t k :: r) from rfl, padTo_eq_zero_of_dvd off _ ha]
    rfl
  have hdyn : d = (pd || Spec.dynMs (.mk n t k :: r)) := by rw [hdd, PL.any_isMemberDynamic_memsOf _ hok]
  obtain ⟨A', inv⟩ := Cpp.LayInv.of_at hAal hmemS hdyn hi1 hi2 ha hi4
  obtain ⟨rs', p, h⟩ := Cpp.decMs_lay e all allv data post base A d huq hA hbase hsd hpost _ (v :: vs') before pre lens
    rs first off st A' hall hfm hpm hom (Cpp.dec_mems e _ all before hfm hpm hns hom) hh hag hrz hgl hpre
    (by rw [hbody, hd]; simp [Spec.render, Spec.Chunk.render, zeros])
    (by rw [hbody, Spec.clen_cons, Spec.Chunk.len_pad, Nat.zero_add]; unfold alignUp at hfin; omega)
    hlens hinv hbef inv
  rw [hau, hbody, Spec.clen_cons, Spec.Chunk.len_pad, Nat.zero_add] at h
  exact ⟨rs', p, by rw [Cpp.lsFrom_eq_lay A d r n t k first st hok, h]⟩

theorem dec_elems_p10 (e : Endian) : (xs : List Val) → ∀ (t : Ty) (data pre post : Bytes) (pos : Nat) (rs : List Nat),
    front t = true → pyRt t = true → Cpp.noShift t = true → Cpp.optMisaligned t = false →
    (Py.stTy t).unl = false → Spec.unlTy t = false →
    hasElems t xs = true → agreeElems t xs = true → Cpp.resizeOkElems t xs = true →
    Spec.alignTy t ∣ pos →
    data = pre ++ (Spec.render e (Spec.chunksElems t xs) ++ post) → pre.length = pos →
    (∃ rs' p, Cpp.decN (fun q r => Cpp.decTy e t data q r) xs.length pos rs =
        (.ok xs (pos + Spec.clen (Spec.chunksElems t xs)) rs', p)) ∧
      (post = [] → ∀ fuel, xs.length < fuel → ∃ rs',
        Cpp.decGreedyDyn (fun q r => Cpp.decTy e t data q r) fuel pos rs =
          .ok xs (pos + Spec.clen (Spec.chunksElems t xs)) rs') := by
  intro xs t data pre post pos rs hft hpt hns hom hnu hnu2 hh hag hrz hal hd hpos
  exact Cpp.dec_elems e t (Cpp.dec_ty e t hft hpt hns hom) hft hpt hnu hnu2 xs data pre post pos rs hh hag hrz hal hd hpos

/-- C03 (decode half): the generated C++ full decoder accepts the canonical encoding of every
    well-typed, coherent value of an accepted schema, returns that value (the model value itself: counters as
    `Val.sizer`, bytes fields as `Val.bytes`, enums and floats as their integer images), and consumes all bytes.
    `Cpp.noShift t`: the canonical encoding of `MKind.dyn s shift` stores `count + shift`, the generated C++ takes the raw
    counter as the element count (`Cpp.decode_canonical_needs_noShift`); `Cpp.resizeOkTy t v`: every array that makes the
    decoder call `resize` has at most `Cpp.resizeLimit = 2^28` elements, beyond it the model's `resize` throws. -/
theorem Cpp.decode_canonical (t : Ty) (v : Val) (e : Endian)
    (hf : Accept.front t = true) (hp : Accept.pyRt t = true) (hm : Cpp.optMisaligned t = false)
    (hns : Cpp.noShift t = true) (hrz : Cpp.resizeOkTy t v = true)
    (hv : hasType t v = true) (ha : WF.agreeTy t v = true) (hg : Spec.galTy t v = true) :
    ∃ rs, Cpp.decode t (Spec.enc t v e) e = .accepted v rs := by
  obtain ⟨hc, hh⟩ := (hasType_iff t v).1 hv
  obtain ⟨rs', p, h⟩ := Cpp.dec_ty e t hf hp hns hm v (Spec.enc t v e) [] [] 0 [] hc hh ha hrz (fun _ => ⟨hg, rfl⟩)
    (Nat.dvd_zero _) (by simp [Spec.enc]) rfl
  refine ⟨rs', ?_⟩
  unfold Cpp.decode
  rw [h]
  simp [Spec.enc]

namespace CppRoundTripExamples
def T : Ty := .struct "X" [.mk "n" (.prim .u8) .plain, .mk "a" (.prim .u8) (.dyn "n" 1)]
def V : Val := .struct [.sizer, .arr []]

/-- all other hypotheses hold for `T`, `V` (an empty array whose counter holds the
    shift 1), its canonical encoding is the single byte `01`, and the C++ decoder rejects it -/
example : Accept.front T = true ∧ Accept.pyRt T = true ∧ Cpp.optMisaligned T = false ∧ hasType T V = true ∧
    WF.agreeTy T V = true ∧ Spec.galTy T V = true ∧ Cpp.resizeOkTy T V = true ∧ Cpp.noShift T = false ∧
    Spec.enc T V .little = [1] := by decide

theorem rejected : Cpp.decode T (Spec.enc T V .little) .little = .rejected [] := by rfl
end CppRoundTripExamples

/-- without `noShift` the statement is false -/
theorem Cpp.decode_canonical_needs_noShift :
    ∃ (t : Ty) (v : Val) (e : Endian), Accept.front t = true ∧ Accept.pyRt t = true ∧ Cpp.optMisaligned t = false ∧
      hasType t v = true ∧ WF.agreeTy t v = true ∧ Spec.galTy t v = true ∧
      ¬ ∃ rs, Cpp.decode t (Spec.enc t v e) e = .accepted v rs := by
  refine ⟨CppRoundTripExamples.T, CppRoundTripExamples.V, .little, by decide, by decide, by decide, by decide,
    by decide, by decide, ?_⟩
  rintro ⟨rs, h⟩
  rw [CppRoundTripExamples.rejected] at h
  cases h

end Prophy

#print axioms Prophy.Cpp.decode_canonical
#print axioms Prophy.Cpp.decode_canonical_needs_noShift

