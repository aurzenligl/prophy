/- The token printer `Tok.text` and its round trip through the lexer (`tokenize_spaced`, `lex_valid`), for Properties/C14Lex.lean. -/
import ProphyModel.Lemmas.ExprLex
namespace Prophy
namespace Expr

/-- the characters of a token: numbers in decimal (`Nat.repr`), identifiers as they are -/
def Tok.chars : Tok → List Char
  | .num n => Nat.toDigits 10 n
  | .ident s => s.toList
  | .plus => ['+'] | .minus => ['-'] | .star => ['*'] | .slash => ['/']
  | .shl => ['<', '<'] | .shr => ['>', '>'] | .bar => ['|'] | .lpar => ['('] | .rpar => [')']

def Tok.text (t : Tok) : String := String.ofList t.chars

/-- an identifier token holds an identifier: a letter or `_`, then letters, digits, `_` -/
def Tok.valid : Tok → Prop
  | .ident s => ∃ c r, s.toList = c :: r ∧ isIdStart c = true ∧ ∀ x ∈ r, isIdChar x = true
  | _ => True

/-- the tokens' characters with one blank between -/
def spaced : List Tok → List Char
  | [] => []
  | [t] => t.chars
  | t :: t' :: ts => t.chars ++ ' ' :: spaced (t' :: ts)

/-- what may follow a token printed by `spaced` -/
def BlankOrEnd (rest : List Char) : Prop := rest = [] ∨ ∃ rest', rest = ' ' :: rest'

theorem spaced_blankOrEnd (ts : List Tok) :
    BlankOrEnd (match ts with
      | [] => []
      | t' :: ts' => ' ' :: spaced (t' :: ts')) := by
  cases ts with
  | nil => exact Or.inl rfl
  | cons t' ts' => exact Or.inr ⟨_, rfl⟩

theorem spaced_cons (t : Tok) (ts : List Tok) :
    spaced (t :: ts) = t.chars ++ (match ts with
      | [] => []
      | t' :: ts' => ' ' :: spaced (t' :: ts')) := by
  cases ts with
  | nil => simp [spaced]
  | cons t' ts' => rfl

theorem blank_head (p : Char → Bool) (hp : p ' ' = false) (rest : List Char) (h : BlankOrEnd rest) :
    ∀ x, rest.head? = some x → p x = false := by
  intro x hx
  rcases h with rfl | ⟨rest', rfl⟩
  · cases hx
  · simp at hx; subst hx; exact hp

theorem digitsVal_ten : ∀ (ds : List Char) (init : Nat), (∀ d ∈ ds, d.isDigit = true) →
    ds.foldl (fun acc c => acc * 10 + (hexVal? c).getD 0) init = Nat.ofDigitChars 10 ds init
  | [], _, _ => by simp
  | d :: ds, init, h => by
    have hd : d.isDigit = true := h d (List.mem_cons_self ..)
    have hv : (hexVal? d).getD 0 = d.toNat - '0'.toNat := by
      rw [hexVal?_eq, if_pos ((isDigit_iff d).mp hd)]; rfl
    rw [List.foldl_cons, Nat.ofDigitChars_cons, hv, Nat.mul_comm init 10]
    exact digitsVal_ten ds _ (fun x hx => h x (List.mem_cons_of_mem _ hx))

theorem digitsVal_toDigits (n : Nat) : digitsVal 10 (Nat.toDigits 10 n) = n := by
  unfold digitsVal
  rw [digitsVal_ten _ _ (fun d hd => Nat.isDigit_of_mem_toDigits (by decide) (by decide) hd)]
  exact Nat.ofDigitChars_ten_toDigits

/-- decimal printing has no leading zero: the first character is `'0'` only for `0` itself -/
theorem toDigits_head (n : Nat) : ∀ r, Nat.toDigits 10 n = '0' :: r → r = [] := by
  induction n using Nat.base_induction 10 (by decide) with
  | single m hm =>
    intro r h
    rw [Nat.toDigits_of_lt_base hm] at h
    simp only [List.cons.injEq] at h
    exact h.2.symm
  | digit m k hk hm ih =>
    intro r h
    rw [← Nat.toDigits_append_toDigits (by decide) hm hk, Nat.toDigits_of_lt_base hk] at h
    cases hm' : Nat.toDigits 10 m with
    | nil => exact (Nat.toDigits_ne_nil hm').elim
    | cons c r' =>
      rw [hm'] at h
      simp only [List.cons_append, List.cons.injEq] at h
      obtain ⟨rfl, -⟩ := h
      have := ih r' hm'
      subst this
      have : m < 10 := by
        have := (Nat.length_toDigits_le_iff (b := 10) (n := m) (k := 1) (by decide) (by decide)).mp
          (by rw [hm']; simp)
        simpa using this
      rw [Nat.toDigits_of_lt_base this] at hm'
      have hz : m = 0 := Nat.digitChar_eq_zero.mp (List.cons.inj hm').1
      omega

theorem lexHead_token (octal : Bool) (t : Tok) (ht : t.valid) (rest : List Char) (hr : BlankOrEnd rest) :
    ∃ c r, t.chars = c :: r ∧ lexHead octal c (r ++ rest) = some (some t, rest) := by
  cases t with
  | plus => exact ⟨'+', [], rfl, lexHead_punct octal _ rfl⟩
  | minus => exact ⟨'-', [], rfl, lexHead_punct octal _ rfl⟩
  | star => exact ⟨'*', [], rfl, lexHead_punct octal _ rfl⟩
  | slash => exact ⟨'/', [], rfl, lexHead_punct octal _ rfl⟩
  | bar => exact ⟨'|', [], rfl, lexHead_punct octal _ rfl⟩
  | lpar => exact ⟨'(', [], rfl, lexHead_punct octal _ rfl⟩
  | rpar => exact ⟨')', [], rfl, lexHead_punct octal _ rfl⟩
  | shl => exact ⟨'<', ['<'], rfl, by unfold lexHead; rfl⟩
  | shr => exact ⟨'>', ['>'], rfl, by unfold lexHead; rfl⟩
  | num n =>
    have hall : ∀ d ∈ Nat.toDigits 10 n, d.isDigit = true :=
      fun d hd => Nat.isDigit_of_mem_toDigits (by decide) (by decide) hd
    have hval := digitsVal_toDigits n
    have hhead := toDigits_head n
    cases hd : Nat.toDigits 10 n with
    | nil => exact (Nat.toDigits_ne_nil hd).elim
    | cons c r =>
      rw [hd] at hall hval hhead
      refine ⟨c, r, by simp [Tok.chars, hd], ?_⟩
      have hc : c.isDigit = true := hall c (List.mem_cons_self ..)
      have hx : ¬ ∃ r', c = '0' ∧ r ++ rest = 'x' :: r' := by
        rintro ⟨r', rfl, e⟩
        have := hhead r rfl
        subst this
        rcases hr with rfl | ⟨rest', rfl⟩
        · cases e
        · simp at e
      rw [lexHead_digit octal c (r ++ rest) hc hx,
        numDec_run octal hc (fun x hx => hall x (List.mem_cons_of_mem _ hx)) (blank_head _ (by decide) rest hr),
        decVal_no_lz (fun e => hhead r (e ▸ rfl)), hval]
      rfl
  | ident s =>
    obtain ⟨c, r, hs, hc, hall⟩ := ht
    refine ⟨c, r, hs, ?_⟩
    rw [lexHead_ident octal c (r ++ rest) hc]
    have hall' : ∀ x ∈ c :: r, isIdChar x = true := by
      intro x hx
      rcases List.mem_cons.mp hx with hx | hx
      · subst hx; exact isIdStart_isIdChar x hc
      · exact hall x hx
    have hrun : takeWhileAcc isIdChar (c :: (r ++ rest)) [] = (c :: r, rest) :=
      run_exact isIdChar (c :: r) rest hall' (blank_head _ (by decide) rest hr)
    rw [hrun]
    dsimp only
    rw [← hs, String.ofList_toList]

theorem lex_spaced_exists (octal : Bool) : ∀ (ts : List Tok), (∀ t ∈ ts, t.valid) →
    ∃ n, lex octal n (spaced ts) = some ts
  | [], _ => ⟨1, lex_succ_nil octal 0⟩
  | t :: ts, hv => by
    have hvt : t.valid := hv t (List.mem_cons_self ..)
    have hvs : ∀ t' ∈ ts, t'.valid := fun t' h => hv t' (List.mem_cons_of_mem _ h)
    obtain ⟨n, hn⟩ := lex_spaced_exists octal ts hvs
    obtain ⟨c, r, hc, hh⟩ := lexHead_token octal t hvt _ (spaced_blankOrEnd ts)
    refine ⟨n + 2, ?_⟩
    rw [spaced_cons, hc, List.cons_append, lex_succ_cons, hh]
    cases ts with
    | nil =>
      show Option.map _ (lex octal (n + 1) []) = _
      rw [lex_succ_nil]; rfl
    | cons t' ts' =>
      show Option.map _ (lex octal (n + 1) (' ' :: spaced (t' :: ts'))) = _
      rw [lex_blank_succ octal n ' ' _ (Or.inl rfl), hn]; rfl

theorem lex_spaced (octal : Bool) (ts : List Tok) (hv : ∀ t ∈ ts, t.valid) (n : Nat)
    (hn : (spaced ts).length < n) : lex octal n (spaced ts) = some ts := by
  obtain ⟨n0, h0⟩ := lex_spaced_exists octal ts hv
  exact lex_sufficient octal h0 n hn

theorem spaced_eq_intercalate : ∀ (ts : List Tok),
    (" ".intercalate (ts.map Tok.text)).toList = spaced ts := by
  intro ts
  rw [String.toList_intercalate]
  have e : " ".toList = [' '] := rfl
  rw [e]
  induction ts with
  | nil => rfl
  | cons t ts ih =>
    cases ts with
    | nil => simp [spaced, Tok.text, List.intercalate]
    | cons t' ts' =>
      simp only [List.map_cons] at ih ⊢
      simp only [spaced]
      rw [← ih]
      simp [List.intercalate, Tok.text]

theorem tokenize_spaced (octal : Bool) (ts : List Tok) (hv : ∀ t ∈ ts, t.valid) :
    tokenize octal (" ".intercalate (ts.map Tok.text)) = some ts := by
  unfold tokenize
  rw [spaced_eq_intercalate]
  apply lex_spaced octal ts hv
  rw [← spaced_eq_intercalate, String.length_toList]
  omega

theorem Step.valid {octal : Bool} {c : Char} {r : List Char} {t : Tok} {rest : List Char}
    (h : Step octal c r (some t) rest) : t.valid := by
  cases h with
  | punct t hp =>
    have := (punct_spec hp).notIdent
    cases t with
    | ident s => exact absurd rfl (this s)
    | _ => trivial
  | ident cs _ hs _ hall _ => exact ⟨c, cs, String.toList_ofList, hs, hall⟩
  | _ => trivial

theorem lex_valid (octal : Bool) (n : Nat) (cs : List Char) (ts : List Tok) (h : lex octal n cs = some ts) :
    ∀ t ∈ ts, t.valid := by
  refine lex_induction (P := fun _ ts => ∀ t ∈ ts, t.valid) (fun t ht => by cases ht) ?_ h
  intro c r ot rest ts hh _ ih t ht
  rcases List.mem_append.mp ht with ht | ht
  · cases ot with
    | none => cases ht
    | some t' =>
      rw [Option.toList_some, List.mem_singleton] at ht
      subst ht
      exact (lexHead_step hh).valid
  · exact ih t ht

end Expr
end Prophy

#print axioms Prophy.Expr.lex_spaced
