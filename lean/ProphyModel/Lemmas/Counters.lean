/- The arrays bound to one counter have one length.  On canonical input (the round trips, Python and C++): in a coherent
   value every bound array has the length `Spec.counter` (`lensOk`), and a decoder that has read the counters so far
   holds that length in its table (`HintInv`).  On any input (whatever decode returns): a loop that hands each decoded
   count to the arrays bound to it (`Run`) returns a coherent value (`run_agree`). -/
import ProphyModel.Lemmas.Hints
import ProphyModel.Lemmas.WFLemmas
import ProphyModel.Lemmas.WFAccept
import ProphyModel.Lemmas.Chunks
namespace Prophy
open Prophy WF Accept

/-- the hints cover every array whose counter has been read.  By unfolding it is
    `Hinted (fun s => ∃ x ∈ before, x.name = s) ms hints (fun _ s o => o = some (Spec.counter s all allv))`: that is
    how its two steps call `Hinted.other` / `Hinted.counter` -/
def HintInv (all : List Member) (allv : List Val) (hints : List (String × Nat)) (before ms : List Member) : Prop :=
  ∀ m ∈ ms, ∀ s, m.kind.sizer? = some s → (∃ x ∈ before, x.name = s) →
    hints.lookup m.name = some (Spec.counter s all allv)

theorem HintInv.nil (all : List Member) (allv : List Val) (ms : List Member) : HintInv all allv [] [] ms := by
  intro m _ s _ ⟨x, hx, _⟩; cases hx

/-- every bound array among `vs` has the length `Spec.counter` gives its sizer -/
def lensOk (all : List Member) (allv : List Val) : List Member → List Val → Prop
  | m :: r, v :: vs => (∀ s, m.kind.sizer? = some s → v.len = Spec.counter s all allv) ∧ lensOk all allv r vs
  | _, _ => True

theorem lensOk_of_bound (all : List Member) (allv : List Val) : (ms : List Member) → (vs : List Val) →
    (∀ s, ∀ x ∈ boundLens s ms vs, x = Spec.counter s all allv) → lensOk all allv ms vs
  | [], _, _ => by simp [lensOk]
  | _ :: _, [], _ => by simp [lensOk]
  | m :: r, v :: vs, h => by
    refine ⟨?_, lensOk_of_bound all allv r vs ?_⟩
    · intro s hs
      apply h s
      simp [boundLens, hs]
    · intro s x hx
      apply h s
      simp only [boundLens]
      split
      · exact List.mem_cons_of_mem _ hx
      · exact hx

theorem boundLens_mem_sizer (s : String) : (ms : List Member) → (vs : List Val) → ∀ x ∈ boundLens s ms vs,
    ∃ m ∈ ms, m.kind.sizer? = some s
  | [], _, x, hx => by simp [boundLens] at hx
  | _ :: _, [], x, hx => by simp [boundLens] at hx
  | m :: r, v :: vs, x, hx => by
    simp only [boundLens] at hx
    by_cases hk : m.kind.sizer? = some s
    · exact ⟨m, List.mem_cons_self .., hk⟩
    · rw [if_neg hk] at hx
      obtain ⟨m', hm', hs'⟩ := boundLens_mem_sizer s r vs x hx
      exact ⟨m', List.mem_cons_of_mem _ hm', hs'⟩

theorem lensOk_of_agree (all : List Member) (allv : List Val) (ha : agreeMs all allv = true) :
    lensOk all allv all allv := by
  apply lensOk_of_bound
  intro s x hx
  obtain ⟨m, hm, hs⟩ := boundLens_mem_sizer s all allv x hx
  have := (List.all_eq_true.1 ha) m hm
  rw [hs] at this
  have := (List.all_eq_true.1 this) x hx
  simpa using this

theorem HintInv.step_plain (all : List Member) (allv : List Val) (hints : List (String × Nat))
    (before : List Member) (m0 : Member) (r : List Member) (hall : all = before ++ m0 :: r)
    (hns : isSizer m0.name all = false) (h : HintInv all allv hints before (m0 :: r)) :
    HintInv all allv hints (before ++ [m0]) r :=
  Hinted.other (Q := fun _ s o => o = some (Spec.counter s all allv)) h
    (fun m hm => ⟨List.mem_cons_of_mem _ hm, by rw [hall]; simp [hm]⟩) (fun _ => named_snoc) hns

theorem HintInv.step_sizer (all : List Member) (allv : List Val) (hints : List (String × Nat))
    (before : List Member) (m0 : Member) (r : List Member) (hall : all = before ++ m0 :: r)
    (hu : WF.uniq (all.map (·.name)) = true) (h : HintInv all allv hints before (m0 :: r)) :
    HintInv all allv (Py.boundHints all m0.name (Spec.counter m0.name all allv) ++ hints) (before ++ [m0]) r :=
  Hinted.counter (Q := fun _ s o => o = some (Spec.counter s all allv)) (fun m hm m' hm' => WF.uniq_name_inj all hu m m' hm hm') h
    (fun m hm => ⟨List.mem_cons_of_mem _ hm, by rw [hall]; simp [hm]⟩) (fun _ => named_snoc) (fun _ _ _ => rfl)

/-- What both decoders take, at the member `n t k` of an accepted struct with `r` behind it, from the hypotheses of the
    round trip about the remaining members: a greedy tail only in the last member (and then nothing follows), the hint of
    a counted array is its length, and the hints after the member cover `r`. -/
theorem HintInv.member {all : List Member} {allv : List Val} {before : List Member} {n : String} {t : Ty} {k : MKind}
    {r : List Member} {v : Val} {vs : List Val} {hints : List (String × Nat)}
    (hall : all = before ++ .mk n t k :: r) (huq : WF.uniq (all.map (·.name)) = true)
    (hpm : pyRtMs all (.mk n t k :: r) before = true) (hhr : hasMs all r vs = true)
    (hgl : (Py.stMs all).any (·.unl) = true → Spec.galMs (.mk n t k :: r) (v :: vs) = true)
    (hlens : lensOk all allv (.mk n t k :: r) (v :: vs)) (hinv : HintInv all allv hints before (.mk n t k :: r)) :
    ((Py.stTy t).unl = true → Spec.galTy t v = true) ∧
    ((Py.fieldSt (Py.stTy t) k).unl = true → r = [] ∧ vs = [] ∧ (Py.stMs all).any (·.unl) = true) ∧
    (∀ s, k.sizer? = some s → hints.lookup n = some v.len) ∧
    HintInv all allv (if isSizer n all then Py.boundHints all n (Spec.counter n all allv) ++ hints else hints)
      (before ++ [Member.mk n t k]) r := by
  obtain ⟨_, hopt, _, harr, hlast, _, _, _⟩ := (Accept.pyRtMs_cons all n t k r before).1 hpm
  have hend : (Py.fieldSt (Py.stTy t) k).unl = true → r = [] ∧ vs = [] ∧ (Py.stMs all).any (·.unl) = true := by
    intro hu
    obtain rfl : r = [] := by
      rcases hlast with hlast | hlast
      · simpa using hlast
      · rw [hlast] at hu; cases hu
    exact ⟨rfl, (hasMs_nil_left all vs).1 hhr, Py.stMs_any_unl_mem all n t k (by rw [hall]; simp) hu⟩
  refine ⟨fun hu => ?_, hend, fun s hs => ?_, ?_⟩
  · cases k with
    | plain =>
      obtain ⟨rfl, rfl, hany⟩ := hend hu
      exact Spec.galMs_single n t v (hgl hany)
    | optional => have := Py.stTy_unl_dyn t hu; rw [hopt rfl] at this; cases this
    | fixed c => rw [harr rfl] at hu; cases hu
    | dyn s sh => rw [harr rfl] at hu; cases hu
    | limited s c => rw [harr rfl] at hu; cases hu
    | greedy => rw [harr rfl] at hu; cases hu
  · obtain ⟨y, hy, hyn, -⟩ := Accept.sizer_before hpm hs
    rw [hlens.1 s hs]
    exact hinv (.mk n t k) (List.mem_cons_self ..) s hs ⟨y, hy, hyn⟩
  · cases hs : isSizer n all with
    | true => exact HintInv.step_sizer all allv hints before (.mk n t k) r hall huq hinv
    | false => exact HintInv.step_plain all allv hints before (.mk n t k) r hall hs hinv

/-- `Run all ms hints vs`: the loop over `ms`, started with the length hints `hints`, produced `vs`.
    Only what matters for the agreement of bound arrays is kept: a counter hands its count to the arrays
    bound to it; a bound array has the length of its hint. -/
inductive Run (all : List Member) : List Member → List (String × Nat) → List Val → Prop
  | nil (hints : List (String × Nat)) : Run all [] hints []
  | sizer (n : String) (t : Ty) (r : List Member) (hints : List (String × Nat)) (c : Nat) (vs : List Val) :
      isSizer n all = true →
      Run all r (Py.boundHints all n c ++ hints) vs →
      Run all (.mk n t .plain :: r) hints (.sizer :: vs)
  | other (n : String) (t : Ty) (k : MKind) (r : List Member) (hints : List (String × Nat))
      (v : Val) (vs : List Val) :
      (k = .plain → isSizer n all = false) →
      (∀ s, k.sizer? = some s → hints.lookup n = some v.len) →
      Run all r hints vs → Run all (.mk n t k :: r) hints (v :: vs)

/-- every counted array stands after the member it names as its counter -/
def SizerBefore (all : List Member) : Prop :=
  ∀ (before : List Member) (m : Member) (after : List Member), all = before ++ m :: after →
    ∀ s, m.kind.sizer? = some s → ∃ m' ∈ before, m'.name = s

theorem boundLens_cons_bound (s : String) (n : String) (t : Ty) (k : MKind) (r : List Member) (v : Val) (vs : List Val)
    (h : k.sizer? = some s) : boundLens s (.mk n t k :: r) (v :: vs) = v.len :: boundLens s r vs := by
  simp [boundLens, Member.kind, h]

theorem boundLens_cons_skip (s : String) (n : String) (t : Ty) (k : MKind) (r : List Member) (v : Val) (vs : List Val)
    (h : k.sizer? ≠ some s) : boundLens s (.mk n t k :: r) (v :: vs) = boundLens s r vs := by
  simp [boundLens, Member.kind, h]

/-- The decoded lengths follow one table of counts: entered with a table that holds `cnt s` for the arrays whose
    counter `s` has been read, the loop leaves every array bound to `s` with `cnt' s` elements, where `cnt'` extends
    `cnt` by the counters read on the way. -/
theorem Run.lens (all : List Member) (UQ : ∀ m ∈ all, ∀ m' ∈ all, m.name = m'.name → m = m') (SB : SizerBefore all)
    (SP : ∀ n t k, Member.mk n t k ∈ all → isSizer n all = true → k = .plain)
    {ms : List Member} {hints : List (String × Nat)} {vs : List Val} (hrun : Run all ms hints vs) :
    ∀ before, all = before ++ ms → WF.uniq (ms.map (·.name)) = true →
      (∀ m ∈ ms, ¬ ∃ x ∈ before, x.name = m.name) → ∀ cnt : String → Nat,
      Hinted (fun s => ∃ x ∈ before, x.name = s) ms hints (fun _ s o => o = some (cnt s)) →
      ∃ cnt' : String → Nat, (∀ s, (∃ x ∈ before, x.name = s) → cnt' s = cnt s) ∧
        ∀ s, ∀ x ∈ boundLens s ms vs, x = cnt' s := by
  have step : ∀ {before : List Member} {m0 : Member} {r : List Member}, all = before ++ m0 :: r →
      WF.uniq ((m0 :: r).map (·.name)) = true → (∀ m ∈ m0 :: r, ¬ ∃ x ∈ before, x.name = m.name) →
      (∀ m ∈ r, m ∈ m0 :: r ∧ m ∈ all) ∧ WF.uniq (r.map (·.name)) = true ∧
        (∀ m ∈ r, ¬ ∃ x ∈ before ++ [m0], x.name = m.name) ∧
        ∀ s, (∃ x ∈ before, x.name = s) → ∃ x ∈ before ++ [m0], x.name = s := by
    intro before m0 r hall hu hfr
    simp only [List.map, WF.uniq, Bool.and_eq_true, Bool.not_eq_true'] at hu
    refine ⟨fun m hm => ⟨List.mem_cons_of_mem _ hm, by rw [hall]; simp [hm]⟩, hu.2, fun m hm hx => ?_,
      fun s ⟨x, hx, hxn⟩ => ⟨x, List.mem_append_left _ hx, hxn⟩⟩
    rcases named_snoc hx with hx | hx
    · exact hfr m (List.mem_cons_of_mem _ hm) hx
    · have : (r.map (·.name)).contains m0.name = true := by
        simp only [List.contains_iff_mem, List.mem_map]; exact ⟨m, hm, hx⟩
      rw [hu.1] at this; cases this
  induction hrun with
  | nil hints => exact fun _ _ _ _ cnt _ => ⟨cnt, fun _ _ => rfl, fun s x hx => by simp [boundLens] at hx⟩
  | sizer n t r hints c vs hs hr ih =>
    intro before hall hu hfr cnt h
    obtain ⟨hsub, hu', hfr', hmono⟩ := step hall hu hfr
    have hn : ∀ s, (∃ x ∈ before, x.name = s) → s ≠ n := fun s hs hsn => hfr _ (List.mem_cons_self ..) (hsn ▸ hs)
    obtain ⟨cnt', hag, hl⟩ := ih (before ++ [Member.mk n t .plain]) (by simp [hall]) hu' hfr'
      (fun s => if s = n then c else cnt s)
      (Hinted.counter UQ (fun m hm s hs hseen => by rw [h m hm s hs hseen, if_neg (hn s hseen)]) hsub
        (fun _ => named_snoc) (fun _ _ _ => by simp))
    refine ⟨cnt', fun s hseen => by rw [hag s (hmono s hseen), if_neg (hn s hseen)], fun s x hx => ?_⟩
    rw [boundLens_cons_skip s n t .plain r _ vs (by simp [MKind.sizer?])] at hx
    exact hl s x hx
  | other n t k r hints v vs hns hb hr ih =>
    intro before hall hu hfr cnt h
    obtain ⟨hsub, hu', hfr', hmono⟩ := step hall hu hfr
    have hnot : isSizer n all = false := by
      cases hs : isSizer n all with
      | false => rfl
      | true => rw [hns (SP n t k (by rw [hall]; simp) hs)] at hs; cases hs
    obtain ⟨cnt', hag, hl⟩ := ih (before ++ [Member.mk n t k]) (by simp [hall]) hu' hfr' cnt
      (Hinted.other h hsub (fun _ => named_snoc) hnot)
    refine ⟨cnt', fun s hseen => hag s (hmono s hseen), fun s x hx => ?_⟩
    by_cases hk : k.sizer? = some s
    · rw [boundLens_cons_bound s n t k r v vs hk] at hx
      rcases List.mem_cons.1 hx with rfl | hx
      · -- the array's own length is its hint, and the hint is the count of its counter, read before
        have hseen := SB before (.mk n t k) r hall s hk
        have := (hb s hk).symm.trans (h _ (List.mem_cons_self ..) s hk hseen)
        rw [hag s (hmono s hseen)]; exact Option.some.inj this
      · exact hl s x hx
    · rw [boundLens_cons_skip s n t k r v vs hk] at hx
      exact hl s x hx

theorem run_agree (all : List Member) (vs : List Val)
    (hu : WF.uniq (all.map (·.name)) = true)
    (SP : ∀ n t k, Member.mk n t k ∈ all → isSizer n all = true → k = .plain)
    (SB : SizerBefore all)
    (hrun : Run all all [] vs) : agreeMs all vs = true := by
  obtain ⟨cnt, _, hl⟩ := Run.lens all (fun m hm m' hm' hn => WF.uniq_name_inj all hu m m' hm hm' hn) SB SP hrun [] rfl hu
    (fun _ _ ⟨_, hx, _⟩ => nomatch hx) (fun _ => 0) (fun _ _ _ _ ⟨_, hx, _⟩ => nomatch hx)
  unfold agreeMs
  rw [List.all_eq_true]
  intro m hm
  cases hs : m.kind.sizer? with
  | none => rfl
  | some s =>
    simp only
    rw [List.all_eq_true]
    intro x hx
    simp only [beq_iff_eq]
    unfold Spec.counter
    cases hb : boundLens s all vs with
    | nil => rw [hb] at hx; cases hx
    | cons a l =>
      rw [List.headD_cons, hl s x hx, hl s a (by rw [hb]; exact List.mem_cons_self ..)]

theorem sizerBefore_aux (all : List Member) : (ms before : List Member) → pyRtMs all ms before = true →
    ∀ (b : List Member) (m : Member) (a : List Member), ms = b ++ m :: a →
    ∀ s, m.kind.sizer? = some s → ∃ m' ∈ before ++ b, m'.name = s
  | [], _, _, b, m, a, h, _, _ => by simp at h
  | .mk n t k :: r, before, hp, b, m, a, h, s, hs => by
    have hpr := (Accept.pyRtMs_head_tail hp).2
    cases b with
    | nil =>
      simp only [List.nil_append, List.cons.injEq] at h
      obtain ⟨rfl, rfl⟩ := h
      obtain ⟨y, hy, hyn, -⟩ := Accept.sizer_before hp hs
      exact ⟨y, by simpa using hy, hyn⟩
    | cons x b' =>
      simp only [List.cons_append, List.cons.injEq] at h
      obtain ⟨rfl, rfl⟩ := h
      obtain ⟨m', hm', hn⟩ := sizerBefore_aux all _ (before ++ [Member.mk n t k]) hpr b' m a rfl s hs
      exact ⟨m', by simpa using hm', hn⟩

theorem sizerBefore_of_pyRt (all : List Member) (hp : pyRtMs all all [] = true) : SizerBefore all := by
  intro before m after h s hs
  simpa using sizerBefore_aux all all [] hp before m after h s hs

end Prophy
