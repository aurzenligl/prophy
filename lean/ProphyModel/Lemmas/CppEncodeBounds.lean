/-
  C03 (encode half) and C05 for the schemas prophyc emits (accepted, no shifted counter: `Cpp.tyOk_of_front`).
  C05 for every C++ object: `message::encode<E>()` stays inside the `get_byte_size()` bytes it allocates, also for
  objects that are not values of the schema; and the counterexample to `size == ptr_written` without `countsFit`.
-/
import ProphyModel.Lemmas.CppEncode
import ProphyModel.Lemmas.NoShift

namespace Prophy
open WF

/-- the hypotheses `front ∧ pyRt ∧ noShift` of the C++ theorems reduce to `front ∧ noShift` -/
theorem Cpp.tyOk_of_front (t : Ty) (hf : Accept.front t = true) (hns : Accept.noShift t = true)
    (hm : Cpp.optMisaligned t = false) : Cpp.TyOk t :=
  Cpp.tyOk_of_accept t hf (Accept.pyRt_of_front t hf hns) hm (by rw [Cpp.noShift_cppenc_eq_accept]; exact hns)

/-- C05: `get_byte_size()` is the length of the canonical encoding.  `hns`: the C++ generator knows no shifted
    counters (prophyc never emits one); `hlen`: `get_byte_size()` is a `size_t`.  Without either the statement is
    false: `Counterexamples` below. -/
theorem Cpp.getByteSize_spec (t : Ty) (v : Val) (e : Endian)
    (hf : Accept.front t = true) (hns : Accept.noShift t = true) (hm : Cpp.optMisaligned t = false)
    (hv : hasType t v = true) (_ha : WF.agreeTy t v = true)
    (hlen : (Spec.enc t v e).length < 2 ^ 64) :
    Cpp.getByteSize t v = (Spec.enc t v e).length :=
  Cpp.getByteSize_of_tyOk t v e (Cpp.tyOk_of_front t hf hns hm) hv hlen

/-- C03 (encode half) / C05: `message::encode<E>()` returns the canonical encoding: the pointer
    encoder stays within `get_byte_size()` bytes and the bytes it leaves untouched are the zero
    padding of the canonical form.  `_ha` is idle: coherence of the counters plays no part (CppEncoder, `enc_cases`). -/
theorem Cpp.encodeVec_canonical (t : Ty) (v : Val) (e : Endian)
    (hf : Accept.front t = true) (hns : Accept.noShift t = true) (hm : Cpp.optMisaligned t = false)
    (hv : hasType t v = true) (_ha : WF.agreeTy t v = true)
    (hlen : (Spec.enc t v e).length < 2 ^ 64) :
    Cpp.encodeVec t v e = .ok (Spec.enc t v e) := by
  have hT := Cpp.tyOk_of_front t hf hns hm
  have h1 := Cpp.encodePtr_canonical t v e hT hv
  have h2 := Cpp.getByteSize_of_tyOk t v e hT hv hlen
  have h3 : (Cpp.encodePtr t v e).length = (Spec.enc t v e).length := by rw [← h1, Cpp.fill_length]
  unfold Cpp.encodeVec
  simp only [h2, h3, Nat.le_refl, if_true, Nat.sub_self]
  have : (Cpp.encodePtr t v e).map (·.getD 0) = Spec.enc t v e := h1
  rw [this]
  simp [zeros]

theorem Cpp.encodePtr_le_getByteSize (t : Ty) (v : Val) (e : Endian)
    (hf : Accept.front t = true) (hns : Accept.noShift t = true) (hm : Cpp.optMisaligned t = false)
    (ho : Cpp.objOk t v = true) (hlen : Cpp.byteSizeTy t v < 2 ^ 64) :
    (Cpp.encodePtr t v e).length ≤ Cpp.getByteSize t v := by
  obtain ⟨hle, _⟩ := Cpp.encodePtr_len t v e (Cpp.tyOk_of_front t hf hns hm) ho
  unfold Cpp.getByteSize; omega

/-- C05, every object: `message::encode<E>()` never writes outside the vector of `get_byte_size()` bytes it
    allocates, whatever the object holds (over-full limited arrays, bound arrays longer than their counter
    can say, any enum value).  `hlen`: `get_byte_size()` fits `size_t`. -/
theorem Cpp.encodeVec_in_bounds (t : Ty) (v : Val) (e : Endian)
    (hf : Accept.front t = true) (hns : Accept.noShift t = true) (hm : Cpp.optMisaligned t = false)
    (ho : Cpp.objOk t v = true) (hlen : Cpp.byteSizeTy t v < 2 ^ 64) :
    Cpp.encodeVec t v e ≠ .fault ∧ ∃ b, Cpp.encodeVec t v e = .ok b ∧ b.length = Cpp.getByteSize t v := by
  have hn := Cpp.encodePtr_le_getByteSize t v e hf hns hm ho hlen
  unfold Cpp.encodeVec
  simp only [hn, if_true]
  refine ⟨by simp, _, rfl, ?_⟩
  simp [zeros]
  omega

/-- `size == ptr_written`: the pointer encoder advances by exactly `get_byte_size()`, provided every array bound to
    a counter has a length the counter's C++ type holds (`hc`; false without it: `Cpp.Bounds.wrap_counterexample`). -/
theorem Cpp.encodePtr_length (t : Ty) (v : Val) (e : Endian)
    (hf : Accept.front t = true) (hns : Accept.noShift t = true) (hm : Cpp.optMisaligned t = false)
    (ho : Cpp.objOk t v = true) (hc : Cpp.countsFit t v = true) (hlen : Cpp.byteSizeTy t v < 2 ^ 64) :
    (Cpp.encodePtr t v e).length = Cpp.getByteSize t v := by
  obtain ⟨_, heq⟩ := Cpp.encodePtr_len t v e (Cpp.tyOk_of_front t hf hns hm) ho
  have := heq hc
  unfold Cpp.getByteSize; omega

namespace Cpp.Bounds
open Cpp

/-! Without `countsFit`, `Cpp.encodePtr_length` is false: a vector of 256 elements bound to a `u8` counter.
    `get_byte_size()` counts all of them (257 bytes); the encoder writes the counter `uint8_t(256) = 0` and no element
    (1 byte).  Nothing is written out of bounds, but the 257 bytes `encode<E>()` returns do not encode the object. -/
def wrapT : Ty := .struct "X" [.mk "n" (.prim .u8) .plain, .mk "x" (.prim .u8) (.dyn "n" 0)]
def wrapV : Val := .struct [.sizer, .arr (List.replicate 256 (.int 0))]

theorem wrap_counterexample :
    Accept.front wrapT = true ∧ Accept.noShift wrapT = true ∧ optMisaligned wrapT = false ∧
    objOk wrapT wrapV = true ∧ byteSizeTy wrapT wrapV < 2 ^ 64 ∧ countsFit wrapT wrapV = false ∧
    (encodePtr wrapT wrapV .little).length = 1 ∧ getByteSize wrapT wrapV = 257 := by decide +kernel

theorem encodePtr_length_unrestricted_false :
    ¬ (∀ (t : Ty) (v : Val) (e : Endian), Accept.front t = true → Accept.noShift t = true →
        optMisaligned t = false → objOk t v = true → byteSizeTy t v < 2 ^ 64 →
        (encodePtr t v e).length = getByteSize t v) := by
  intro h
  obtain ⟨h1, h2, h3, h4, h5, _, h7, h8⟩ := wrap_counterexample
  have := h wrapT wrapV .little h1 h2 h3 h4 h5
  rw [h7, h8] at this
  exact absurd this (by decide)

/-! ### an over-full limited array: `u16 x<2>` holding 4 elements -/
def overT : Ty :=
  .struct "X" [.mk "n" (.prim .u8) .plain, .mk "x" (.prim .u16) (.limited "n" 2), .mk "y" (.prim .u64) .plain]
def overV : Val := .struct [.sizer, .arr [.int 1, .int 2, .int 3, .int 4], .int 7]

theorem over_example :
    Accept.front overT = true ∧ Accept.noShift overT = true ∧ optMisaligned overT = false ∧
    objOk overT overV = true ∧ hasType overT overV = false ∧ countsFit overT overV = true ∧
    encodeVec overT overV .little = .ok [2, 0, 1, 0, 2, 0, 0, 0, 7, 0, 0, 0, 0, 0, 0, 0] := by decide +kernel

end Cpp.Bounds

namespace Cpp.Counterexamples
open Cpp

/-- a shifted counter (`prophy.array(..., bound="n", shift=1)`, hand-written Python classes only): the document
    stores `count + shift`, the generated C++ stores `count` -/
def shiftT : Ty := .struct "X" [.mk "n" (.prim .u8) .plain, .mk "x" (.prim .u8) (.dyn "n" 1)]
def shiftV : Val := .struct [.sizer, .arr [.int 5]]

theorem shift_counterexample :
    Accept.front shiftT = true ∧ Accept.pyRt shiftT = true ∧ optMisaligned shiftT = false ∧
    hasType shiftT shiftV = true ∧ WF.agreeTy shiftT shiftV = true ∧
    encodeVec shiftT shiftV .little = .ok [1, 5] ∧ Spec.enc shiftT shiftV .little = [2, 5] ∧
    noShift_cppenc shiftT = false := by decide +kernel

/-- a message of 2^64 bytes: `get_byte_size()` wraps to 0, `encode<E>()` allocates an empty vector and the pointer
    encoder writes outside it -/
def bigT : Ty := .struct "X" [.mk "x" .byte .greedy]
def bigVof (b : Bytes) : Val := .struct [.bytes b]
def bigV : Val := bigVof (List.replicate (2 ^ 64) 0)

theorem big_hyps (b : Bytes) : Accept.front bigT = true ∧ Accept.pyRt bigT = true ∧ optMisaligned bigT = false ∧
    noShift_cppenc bigT = true ∧ hasType bigT (bigVof b) = true ∧ WF.agreeTy bigT (bigVof b) = true := by
  refine ⟨by decide, by decide, by decide, by decide, ?_, ?_⟩
  · simp [bigT, bigVof, hasType, hasField, hasMs, Val.isCounter, isSizer, MKind.sizer?, Member.kind]
  · simp [bigT, bigVof, WF.agreeTy, WF.agreeMs, WF.agreeFields, MKind.sizer?, Member.kind]

theorem big_length (b : Bytes) (e : Endian) : (Spec.enc bigT (bigVof b) e).length = b.length := by
  have ha : Spec.alignMs [Member.mk "x" Ty.byte MKind.greedy] = 1 := by decide
  simp [Spec.enc, bigT, bigVof, Spec.chunksTy, Spec.chunksMs, Spec.clen, Spec.Chunk.len, padTo, ha, Nat.mod_one]

theorem big_getByteSize (b : Bytes) (hb : b.length = 2 ^ 64) : getByteSize bigT (bigVof b) = 0 := by
  obtain ⟨hf, hp, hm, hns, hv, _⟩ := big_hyps b
  have h := byteSizeTy_ok bigT (bigVof b) (tyOk_of_accept bigT hf hp hm hns) hv
  have hl := big_length b .little
  simp only [Spec.enc, Spec.render_length] at hl
  unfold getByteSize
  rw [h, hl, hb]
  decide

theorem big_counterexample_of (b : Bytes) (hb : b.length = 2 ^ 64) (e : Endian) :
    getByteSize bigT (bigVof b) ≠ (Spec.enc bigT (bigVof b) e).length ∧
      encodeVec bigT (bigVof b) e ≠ .ok (Spec.enc bigT (bigVof b) e) := by
  have h1 := big_getByteSize b hb
  have h2 := big_length b e
  rw [hb] at h2
  refine ⟨by rw [h1, h2]; decide, fun h => ?_⟩
  have := encodeVec_length _ _ _ _ h
  rw [h1, h2] at this
  exact absurd this (by decide)

theorem big_counterexample (e : Endian) :
    (Accept.front bigT = true ∧ Accept.pyRt bigT = true ∧ optMisaligned bigT = false ∧
      noShift_cppenc bigT = true ∧ hasType bigT bigV = true ∧ WF.agreeTy bigT bigV = true) ∧
    getByteSize bigT bigV ≠ (Spec.enc bigT bigV e).length ∧ encodeVec bigT bigV e ≠ .ok (Spec.enc bigT bigV e) :=
  ⟨big_hyps _, big_counterexample_of _ (List.length_replicate ..) e⟩

end Cpp.Counterexamples
end Prophy

#print axioms Prophy.Cpp.objOk_of_hasType
#print axioms Prophy.Cpp.Bounds.encodePtr_length_unrestricted_false
#print axioms Prophy.Cpp.encodeVec_in_bounds
#print axioms Prophy.Cpp.encodePtr_le_getByteSize
#print axioms Prophy.Cpp.encodePtr_length
#print axioms Prophy.Cpp.getByteSize_spec
#print axioms Prophy.Cpp.encodeVec_canonical
#print axioms Prophy.Cpp.Counterexamples.shift_counterexample
#print axioms Prophy.Cpp.Counterexamples.big_counterexample
