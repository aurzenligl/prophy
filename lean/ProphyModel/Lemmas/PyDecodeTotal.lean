/- C06: the Python decoder is total (returns or raises ProphyError) on every accepted schema -/
import ProphyModel.Lemmas.PyDecodeProgress
namespace Prophy
open Prophy Accept
namespace Py

/-- "returns, or raises ProphyError" -/
def Tot {α : Type} (x : M α) : Prop := (∃ r, x = .ok r) ∨ x = .error .prophy

theorem Tot.pure {α : Type} (r : α) : Tot (pure r : M α) := Or.inl ⟨r, rfl⟩
theorem Tot.err {α : Type} : Tot (Except.error .prophy : M α) := Or.inr rfl

theorem Tot.bind {α β : Type} {x : M α} {f : α → M β} (hx : Tot x) (hf : ∀ r, x = .ok r → Tot (f r)) :
    Tot (x >>= f) := by
  rcases hx with ⟨r, hr⟩ | hr
  · subst hr; exact hf r rfl
  · subst hr; exact Or.inr rfl

theorem decN_tot (f : Bytes → Nat → M (Val × Nat)) (hf : ∀ d q, Tot (f d q)) :
    ∀ (n : Nat) (data : Bytes) (pos cursor : Nat), Tot (decN f n data pos cursor)
  | 0, _, _, _ => Tot.pure _
  | n + 1, data, pos, cursor => by
    simp only [decN]
    refine Tot.bind (hf _ _) ?_
    rintro ⟨v, sz⟩ _
    refine Tot.bind (decN_tot f hf n data pos (cursor + sz)) ?_
    rintro ⟨vs, c⟩ _
    exact Tot.pure _

theorem decWhile_tot (f : Bytes → Nat → M (Val × Nat)) (hf : ∀ d q, Tot (f d q))
    (hpos : ∀ d q v sz, f d q = .ok (v, sz) → 1 ≤ sz) :
    ∀ (fuel : Nat) (data : Bytes) (pos cursor : Nat), data.length - (pos + cursor) ≤ fuel →
      Tot (decWhile f fuel data pos cursor)
  | 0, data, pos, cursor, h => by
    simp only [decWhile]
    rw [if_neg (by omega)]
    exact Tot.pure _
  | fuel + 1, data, pos, cursor, h => by
    simp only [decWhile]
    split
    · refine Tot.bind (hf _ _) ?_
      rintro ⟨v, sz⟩ hx
      have := hpos _ _ _ _ hx
      refine Tot.bind (decWhile_tot f hf hpos fuel data pos (cursor + sz) (by omega)) ?_
      rintro ⟨vs, c⟩ _
      exact Tot.pure _
    · exact Tot.pure _

theorem Tot.guard {c : Prop} [Decidable c] :
    Tot (if c then (Except.error .prophy : M PUnit) else Pure.pure PUnit.unit) := by
  split
  · exact Tot.err
  · exact Tot.pure _

theorem Tot.guardErr {α β : Type} {c : Prop} [Decidable c] {g : α → M β} {y : M β} (hy : Tot y) :
    Tot (if c then ((Except.error .prophy : M α) >>= g) else y) := by
  split
  · exact Tot.err
  · exact hy

theorem decSizer_tot (e : Endian) (p : Prim) (shift : Nat) (data : Bytes) (pos : Nat) :
    Tot (decSizer e p shift data pos) := by
  unfold decSizer
  refine Tot.bind (decScalar_total e p data pos) ?_
  rintro ⟨v, sz⟩ _
  simp only []
  split
  · exact Tot.err
  · split
    · exact Tot.err
    · exact Tot.pure _

theorem fieldDec_tot (e : Endian) (all : List Member) (n : String) (t : Ty) (k : MKind) (f : St)
    (data : Bytes) (pos0 : Nat) (hints : List (String × Nat))
    (ht : ∀ d q b, Tot (decTy e t d q b))
    (hpos : k = .greedy → ∀ d q v sz, decTy e t d q false = .ok (v, sz) → 1 ≤ sz)
    (hh : ∀ s, k.sizer? = some s → (hints.lookup n).isSome = true) :
    Tot (fieldDec e all n t k f data pos0 hints false) := by
  cases k with
  | plain =>
    simp only [fieldDec]
    split
    · refine Tot.bind (decSizer_tot _ _ _ _ _) ?_
      rintro ⟨c, sz⟩ _
      exact Tot.pure _
    · refine Tot.bind (ht _ _ _) ?_
      rintro ⟨v, sz⟩ _
      exact Tot.pure _
  | optional =>
    simp only [fieldDec]
    refine Tot.bind (decScalar_total _ _ _ _) ?_
    rintro ⟨flag, x⟩ _
    simp only []
    split
    · refine Tot.bind (ht _ _ _) ?_
      rintro ⟨v, sz⟩ _
      exact Tot.pure _
    · exact Tot.pure _
  | fixed c =>
    simp only [fieldDec]
    split
    · split
      · exact Tot.err
      · exact Tot.pure _
    · refine Tot.guardErr ?_
      refine Tot.bind (decN_tot _ (fun d q => ht d q false) _ _ _ _) ?_
      rintro ⟨vs, cur⟩ _
      exact Tot.pure _
  | dyn s sh =>
    have hl := hh s rfl
    obtain ⟨c, hc⟩ := Option.isSome_iff_exists.1 hl
    simp only [fieldDec, lookupHint, hc]
    refine Tot.bind (Tot.pure c) ?_
    intro c _
    split
    · split
      · exact Tot.err
      · exact Tot.pure _
    · refine Tot.guardErr ?_
      refine Tot.bind (decN_tot _ (fun d q => ht d q false) _ _ _ _) ?_
      rintro ⟨vs, cur⟩ _
      exact Tot.pure _
  | limited s lim =>
    have hl := hh s rfl
    obtain ⟨c, hc⟩ := Option.isSome_iff_exists.1 hl
    simp only [fieldDec, lookupHint, hc]
    refine Tot.bind (Tot.pure c) ?_
    intro c _
    split
    · split
      · exact Tot.err          -- input shorter than the slot
      · split
        · exact Tot.err        -- hint above the limit
        · split
          · exact Tot.err      -- `_check`
          · exact Tot.pure _
    · refine Tot.guardErr ?_
      refine Tot.bind (decN_tot _ (fun d q => ht d q false) _ _ _ _) ?_
      rintro ⟨vs, cur⟩ _
      refine Tot.guardErr ?_
      exact Tot.pure _
  | greedy =>
    simp only [fieldDec]
    split
    · -- bytes
      split
      · exact Tot.err
      · exact Tot.pure _
    · -- structs
      refine Tot.guardErr ?_
      refine Tot.bind (decWhile_tot _ (fun d q => ht d q false) (hpos rfl) _ _ _ _ (by omega)) ?_
      rintro ⟨vs, cur⟩ _
      exact Tot.pure _
    · -- unions
      refine Tot.guardErr ?_
      refine Tot.bind (decWhile_tot _ (fun d q => ht d q false) (hpos rfl) _ _ _ _ (by omega)) ?_
      rintro ⟨vs, cur⟩ _
      exact Tot.pure _
    · -- scalars
      refine Tot.guardErr ?_
      refine Tot.bind (decN_tot _ (fun d q => ht d q false) _ _ _ _) ?_
      rintro ⟨vs, cur⟩ _
      exact Tot.pure _

/-- `Hinted` by unfolding; its counter step is its own: `Hinted.counter` needs unique names, `decMs_tot` has none -/
def HintsOk (all before : List Member) (hints : List (String × Nat)) : Prop :=
  ∀ m ∈ all, ∀ s, m.kind.sizer? = some s → (∃ b ∈ before, b.name = s ∧ b.kind = .plain) →
    (hints.lookup m.name).isSome = true

theorem HintsOk.nil (all : List Member) : HintsOk all [] [] := by
  intro m _ s _ h
  obtain ⟨b, hb, _⟩ := h
  cases hb

theorem HintsOk.step {e : Endian} {all before : List Member} {n : String} {t : Ty} {k : MKind} {f : St}
    {data : Bytes} {pos0 : Nat} {hints : List (String × Nat)} {v : Val} {sz : Nat} {hints' : List (String × Nat)}
    (h : fieldDec e all n t k f data pos0 hints false = .ok (v, sz, hints')) (hok : HintsOk all before hints) :
    HintsOk all (before ++ [Member.mk n t k]) hints' := by
  intro m hm s hs hb
  obtain ⟨b, hb, hbn, hbk⟩ := hb
  rcases List.mem_append.1 hb with hb | hb
  · have := hok m hm s hs ⟨b, hb, hbn, hbk⟩
    rcases (fieldDec_ok h).hints_eq with ⟨h1, _⟩ | ⟨_, _, _, c, _, h1⟩
    · rw [h1]; exact this
    · rw [h1, List.lookup_append, Option.isSome_or, this, Bool.or_true]
  · have hb' : b = .mk n t k := by simpa using hb
    subst hb'
    simp only [Member.name, Member.kind] at hbn hbk
    subst hbn
    rcases (fieldDec_ok h).hints_eq with ⟨_, hns⟩ | ⟨_, _, _, c, _, h1⟩
    · have h0 := hns hbk
      have h1 : isSizer n all = true := by
        simp only [isSizer, List.any_eq_true, decide_eq_true_eq]
        exact ⟨m, hm, hs⟩
      rw [h0] at h1; cases h1
    · rw [h1, lookup_bound_hit n c hints hm hs]
      rfl

theorem checkEnum_tot (es : List (String × Nat)) (v : Int) : Tot (checkEnum es v) := by
  unfold checkEnum
  split
  · exact Tot.pure _
  · exact Tot.err

mutual
  theorem decTy_tot (e : Endian) : (t : Ty) → front t = true → pyRt t = true →
      ∀ (data : Bytes) (pos : Nat) (term : Bool), Tot (decTy e t data pos term)
    | .prim p, _, _, data, pos, term => by
      rw [decTy_prim]
      refine Tot.bind (decScalar_total _ _ _ _) ?_
      rintro ⟨v, sz⟩ _
      exact Tot.pure _
    | .byte, _, _, data, pos, term => by
      rw [decTy_byte]
      refine Tot.bind (decScalar_total _ _ _ _) ?_
      rintro ⟨v, sz⟩ _
      exact Tot.pure _
    | .enum _ es, _, _, data, pos, term => by
      rw [decTy_enum]
      refine Tot.bind (decScalar_total _ _ _ _) ?_
      rintro ⟨v, sz⟩ _
      refine Tot.bind (checkEnum_tot _ _) ?_
      intro w _
      exact Tot.pure _
    | .struct _ ms, hf, hp, data, pos, term => by
      simp only [front, Bool.and_eq_true] at hf
      simp only [pyRt] at hp
      rw [decTy_struct]
      refine Tot.bind (decMs_tot e ms ms [] (by simp) hf.2 hp (stMs ms) (partials (stMs ms))
        (stMs_length ms) (by rw [partials_length, stMs_length]) data pos [] (HintsOk.nil ms)) ?_
      rintro ⟨vs, pos1⟩ _
      simp only []
      split
      · exact Tot.err
      · exact Tot.pure _
    | .union _ arms, hf, hp, data, pos, term => by
      simp only [front, Bool.and_eq_true] at hf
      simp only [pyRt, Bool.and_eq_true] at hp
      rw [decTy_union]
      refine Tot.bind (decScalar_total _ _ _ _) ?_
      rintro ⟨d, x⟩ _
      refine Tot.bind (decArms_tot e arms arms hf.2 hp.2 _ _ _ _) ?_
      rintro ⟨idx, v⟩ _
      simp only []
      split
      · exact Tot.err
      · split
        · exact Tot.err
        · exact Tot.pure _
  theorem decMs_tot (e : Endian) (all : List Member) : (ms : List Member) → (before : List Member) →
      all = before ++ ms → frontMs all ms before = true → pyRtMs all ms before = true →
      ∀ (fs : List St) (ps : List (Option Nat)), fs.length = ms.length → ps.length = ms.length →
      ∀ (data : Bytes) (pos : Nat) (hints : List (String × Nat)), HintsOk all before hints →
        Tot (decMs e all ms fs ps data pos hints)
    | [], _, _, _, _, _, _, _, _, _, _, _, _ => Tot.pure _
    | .mk n t k :: r, before, hall, hf, hp, fs, ps, hfl, hpl, data, pos, hints, hok => by
      cases fs with
      | nil => simp at hfl
      | cons f fs =>
      cases ps with
      | nil => simp at hpl
      | cons p ps =>
      obtain ⟨hft, hfr⟩ := Accept.frontMs_head_tail hf
      obtain ⟨hpt, _, _, harr, _, _, _, hpr⟩ := (Accept.pyRtMs_cons all n t k r before).1 hp
      rw [decMs_cons]
      have hmem : Member.mk n t k ∈ all := by rw [hall]; simp
      refine Tot.bind (fieldDec_tot e all n t k f data _ hints (decTy_tot e t hft hpt)
        (fun hk d q v sz hd => decTy_pos e t hft hpt (harr (by rw [hk]; rfl)) d q false v sz hd) ?_) ?_
      · intro s hs
        obtain ⟨y, hy, hyn, hyk, -⟩ := Accept.sizer_before hp hs
        exact hok _ hmem s hs ⟨y, hy, hyn, hyk⟩
      · rintro ⟨v, sz, hints'⟩ hx
        refine Tot.bind (decMs_tot e all r (before ++ [Member.mk n t k]) (by simp [hall]) hfr hpr fs ps
          (by simpa using hfl) (by simpa using hpl) data _ hints' (HintsOk.step hx hok)) ?_
        rintro ⟨vs, pe⟩ _
        exact Tot.pure _
  theorem decArms_tot (e : Endian) (all : List Arm) : (arms : List Arm) →
      frontArms arms = true → pyRtArms arms = true →
      ∀ (disc : Int) (data : Bytes) (pos idx : Nat), Tot (decArms e all arms disc data pos idx)
    | [], _, _, _, _, _, _ => Tot.err
    | .mk n d t :: r, hf, hp, disc, data, pos, idx => by
      obtain ⟨hft, _, _, hfr⟩ := (Accept.frontArms_cons_iff n d t r).1 hf
      obtain ⟨hpt, _, hpr⟩ := (Accept.pyRtArms_cons n d t r).1 hp
      rw [decArms_cons]
      split
      · refine Tot.bind (decTy_tot e t hft hpt _ _ _) ?_
        rintro ⟨v, x⟩ _
        exact Tot.pure _
      · exact decArms_tot e all r hfr hpr _ _ _ _
end

end Py

/-- C06, first clause: `Message.decode` of an accepted schema returns or raises ProphyError on
    EVERY byte string: no `struct.error`, no `TypeError`, no endless `while` loop. -/
theorem Py.decode_total (t : Ty) (data : Bytes) (e : Endian)
    (hf : Accept.front t = true) (hp : Accept.pyRt t = true) :
    (∃ r, Py.decode t data e = .ok r) ∨ Py.decode t data e = .error .prophy :=
  Py.decTy_tot e t hf hp data 0 true

namespace Py

def excOf {α : Type} : M α → Option Exc
  | .ok _ => none
  | .error x => some x

/-- `front` is needed: an (unparsable) empty element struct is accepted by the Python runtime and makes
    the `while` loop of a greedy composite array spin forever on any non-empty input -/
example : Accept.pyRt (.struct "O" [.mk "x" (.struct "E" []) .greedy]) = true ∧
    excOf (decode (.struct "O" [.mk "x" (.struct "E" []) .greedy]) [0] .little) = some .hang := by
  decide

/-- the sizer-before-array check is needed: an array decoded before its counter raises TypeError -/
example : excOf (decode (.struct "O" [.mk "x" (.prim .u8) (.dyn "n" 0), .mk "n" (.prim .u32) .plain])
    [0] .little) = some .type := by
  decide

end Py
end Prophy

#print axioms Prophy.Py.decode_total
