/- The model of topological_sort permutes its input, orders it (`Ordered`), its rotation bound never cuts a loop
   short that would end (`settle_fuel`), and Include nodes written first are inert (`sortFrom_incs`). -/
import ProphyModel.Topo
namespace Prophy.C15
open Prophy Prophy.Topo

theorem settle_succ (known available : List String) (fuel : Nat) (s : List TNode) :
    settle known available (fuel + 1) s =
      match rotate s known available with
      | .done => some s
      | .moved s' => settle known available fuel s'
      | .stuck => settle known available fuel s := rfl

theorem sortFrom_succ (total : Nat) (available : List String) (k : Nat) (s : List TNode) (known : List String) :
    sortFrom total available (k + 1) s known =
      match settle known available (total + 1) s with
      | none => none
      | some [] => some []
      | some (m :: r) => (sortFrom total available k r (if m.incl then known else m.name :: known)).map (m :: ·) := rfl

/-- the dependency `model_sort_rotate` acts on -/
def pick (known available : List String) (h : TNode) : Option String :=
  h.deps.find? (fun d => !known.contains d && available.contains d)

/-- what `find_first_dep` accepts -/
def isD (d : String) (y : TNode) : Bool := decide (y.name = d ∧ y.incl = false)

theorem rotate_cons (node : TNode) (rest : List TNode) (known available : List String) :
    rotate (node :: rest) known available =
      match pick known available node with
      | none => .done
      | some dep =>
        match findIdx dep rest with
        | some k => .moved (moveFront (node :: rest) (k + 1))
        | none => .stuck := rfl

theorem first_split {α : Type} (p : α → Bool) : ∀ l : List α,
    (∀ y ∈ l, p y = false) ∨ ∃ a y c, l = a ++ y :: c ∧ p y = true ∧ ∀ w ∈ a, p w = false
  | [] => .inl fun _ h => nomatch h
  | x :: l => by
    cases hx : p x with
    | true => exact .inr ⟨[], x, l, rfl, hx, fun _ h => nomatch h⟩
    | false =>
      rcases first_split p l with h | ⟨a, y, c, rfl, hy, ha⟩
      · exact .inl (List.forall_mem_cons.2 ⟨hx, h⟩)
      · exact .inr ⟨x :: a, y, c, rfl, hy, List.forall_mem_cons.2 ⟨hx, ha⟩⟩

theorem findIdx_eq_none_iff (d : String) : ∀ l : List TNode, findIdx d l = none ↔ ∀ y ∈ l, isD d y = false
  | [] => by simp [findIdx]
  | x :: l => by
    by_cases hx : x.name = d ∧ x.incl = false
    · simp [findIdx, isD, hx]
    · have hx' : isD d x = false := by simpa [isD] using hx
      simp only [findIdx, hx, if_false, Option.map_eq_none_iff, findIdx_eq_none_iff d l, List.forall_mem_cons, hx',
        true_and]

theorem findIdx_first (d : String) (y : TNode) (c : List TNode) (hy : isD d y = true) :
    ∀ a : List TNode, (∀ w ∈ a, isD d w = false) → findIdx d (a ++ y :: c) = some a.length
  | [], _ => by
    have : y.name = d ∧ y.incl = false := by simpa [isD] using hy
    simp [findIdx, this]
  | x :: a, ha => by
    have hx : ¬ (x.name = d ∧ x.incl = false) := by simpa [isD] using ha x (List.mem_cons_self ..)
    simp [findIdx, hx, findIdx_first d y c hy a (fun w hw => ha w (List.mem_cons_of_mem _ hw))]

theorem moveFront_split (y : TNode) (b : List TNode) :
    ∀ a : List TNode, moveFront (a ++ y :: b) a.length = y :: (a ++ b)
  | [] => by simp [moveFront]
  | x :: a => by
    simp only [List.cons_append, List.length_cons, moveFront, moveFront_split y b a]

/-! The three outcomes of `model_sort_rotate` at the head `n` of the suffix. -/

theorem rotate_done {n : TNode} {known available : List String} (rest : List TNode)
    (hp : pick known available n = none) : rotate (n :: rest) known available = .done := by
  rw [rotate_cons, hp]

theorem rotate_stuck {n : TNode} {rest : List TNode} {known available : List String} {d : String}
    (hp : pick known available n = some d) (h : ∀ y ∈ rest, isD d y = false) :
    rotate (n :: rest) known available = .stuck := by
  rw [rotate_cons, hp]
  simp only [(findIdx_eq_none_iff d rest).2 h]

theorem rotate_moved {n y : TNode} {a : List TNode} (c : List TNode) {known available : List String} {d : String}
    (hp : pick known available n = some d) (hy : isD d y = true) (ha : ∀ w ∈ a, isD d w = false) :
    rotate (n :: (a ++ y :: c)) known available = .moved (y :: n :: (a ++ c)) := by
  rw [rotate_cons, hp]
  simp only [findIdx_first d y c hy a ha, moveFront, moveFront_split]

theorem rotate_spec (n : TNode) (rest : List TNode) (known available : List String) :
    (pick known available n = none ∧ rotate (n :: rest) known available = .done) ∨
    (∃ d, pick known available n = some d ∧ (∀ y ∈ rest, isD d y = false) ∧
      rotate (n :: rest) known available = .stuck) ∨
    (∃ d a y c, pick known available n = some d ∧ rest = a ++ y :: c ∧ isD d y = true ∧
      rotate (n :: rest) known available = .moved (y :: n :: (a ++ c))) := by
  cases hp : pick known available n with
  | none => exact .inl ⟨rfl, rotate_done rest hp⟩
  | some d =>
    rcases first_split (isD d) rest with h | ⟨a, y, c, rfl, hy, ha⟩
    · exact .inr (.inl ⟨d, rfl, h, rotate_stuck hp h⟩)
    · exact .inr (.inr ⟨d, a, y, c, rfl, rfl, hy, rotate_moved c hp hy ha⟩)

theorem settle_nil (known available : List String) (fuel : Nat) :
    settle known available (fuel + 1) [] = some [] := by
  rfl

theorem pick_some {known available : List String} {n : TNode} {d : String} (h : pick known available n = some d) :
    d ∈ n.deps ∧ known.contains d = false ∧ available.contains d = true := by
  have hp := List.find?_some h
  simp only [Bool.and_eq_true, Bool.not_eq_true'] at hp
  exact ⟨List.mem_of_find?_eq_some h, hp.1, hp.2⟩

theorem moved_perm (n y : TNode) (a c : List TNode) : (y :: n :: (a ++ c)).Perm (n :: (a ++ y :: c)) :=
  (List.Perm.swap n y (a ++ c)).trans (List.Perm.cons n List.perm_middle.symm)

theorem settle_perm (known available : List String) :
    ∀ (fuel : Nat) (s r : List TNode), settle known available fuel s = some r → r.Perm s
  | 0, _, _, h => nomatch h
  | fuel + 1, [], r, h => by cases h; exact .refl _
  | fuel + 1, n :: rest, r, h => by
    rw [settle_succ] at h
    rcases rotate_spec n rest known available with ⟨_, hr⟩ | ⟨d, _, _, hr⟩ | ⟨d, a, y, c, _, rfl, _, hr⟩ <;> rw [hr] at h
    · cases h; exact .refl _                                                          -- done
    · exact settle_perm known available fuel _ r h                                    -- stuck
    · exact (settle_perm known available fuel _ r h).trans (moved_perm n y a c)       -- moved

theorem sortFrom_perm (total : Nat) (available : List String) :
    ∀ (k : Nat) (s : List TNode) (known : List String) (r : List TNode),
      sortFrom total available k s known = some r → r.Perm s := by
  intro k s known
  fun_induction sortFrom total available k s known with
  | case1 s known => intro r h; cases h; exact .refl _                          -- no position left
  | case2 k s known hs => exact fun r h => nomatch h                            -- the position does not settle
  | case3 k s known hs => intro r h; cases h; exact settle_perm _ _ _ _ _ hs    -- the suffix is empty
  | case4 k s known m r' hs ih =>                                               -- `m` settles in front, then the rest
    intro r h
    obtain ⟨t, ht, rfl⟩ := Option.map_eq_some_iff.mp h
    exact (List.Perm.cons m (ih t ht)).trans (settle_perm _ _ _ _ _ hs)

/-- `r` is dependency-ordered relative to the names already `known`: every available
    dependency of a node is known or defined earlier in `r`.  As in `sortFrom`
    (`if not isinstance(node, Include): known.add(node.name)`) an Include node adds nothing
    to `known`. -/
def Ordered (available : List String) : List String → List TNode → Prop
  | _, [] => True
  | known, n :: r =>
    (∀ d ∈ n.deps, available.contains d = true → known.contains d = true) ∧
      Ordered available (if n.incl then known else n.name :: known) r

/-- the head of a settled suffix waits for nothing: its available dependencies are known -/
theorem settle_done (known available : List String) :
    ∀ (fuel : Nat) (s : List TNode) (m : TNode) (r : List TNode),
      settle known available fuel s = some (m :: r) →
      ∀ d ∈ m.deps, available.contains d = true → known.contains d = true
  | 0, _, _, _, h => nomatch h
  | fuel + 1, [], _, _, h => nomatch h
  | fuel + 1, n :: rest, m, r, h => by
    rw [settle_succ] at h
    rcases rotate_spec n rest known available with ⟨hp, hr⟩ | ⟨d, _, _, hr⟩ | ⟨d, a, y, c, _, rfl, _, hr⟩ <;> rw [hr] at h
    · cases h                                                   -- done
      intro d hd hav
      have := List.find?_eq_none.1 hp d hd
      cases hk : known.contains d with
      | true => rfl
      | false => rw [hk, hav] at this; exact absurd rfl this
    · exact settle_done known available fuel _ m r h            -- stuck
    · exact settle_done known available fuel _ m r h            -- moved

theorem sortFrom_ordered (total : Nat) (available : List String) :
    ∀ (k : Nat) (s : List TNode) (known : List String) (r : List TNode),
      s.length ≤ k → sortFrom total available k s known = some r → Ordered available known r := by
  intro k s known
  fun_induction sortFrom total available k s known with
  | case1 s known =>                                                  -- no position left
    intro r hk h
    cases h
    have : s = [] := List.eq_nil_of_length_eq_zero (by omega)
    subst this; trivial
  | case2 k s known hs => exact fun r _ h => nomatch h                -- the position does not settle
  | case3 k s known hs => intro r _ h; cases h; trivial               -- the suffix is empty
  | case4 k s known m r' hs ih =>                                     -- `m` settles in front, then the rest
    intro r hk h
    obtain ⟨t, ht, rfl⟩ := Option.map_eq_some_iff.mp h
    have hlen : (m :: r').length = s.length := (settle_perm _ _ _ _ _ hs).length_eq
    exact ⟨settle_done _ _ _ _ _ _ hs, ih t (by simp at hlen; omega) ht⟩

theorem mem_availableOf {g : List TNode} {d : String} :
    d ∈ availableOf g ↔ ∃ m ∈ g, m.incl = false ∧ m.name = d := by
  simp [availableOf, and_assoc]

theorem Ordered.split (available : List String) :
    ∀ (pre : List TNode) (known : List String) (n : TNode) (post : List TNode),
      Ordered available known (pre ++ n :: post) →
      ∀ d ∈ n.deps, available.contains d = true →
        known.contains d = true ∨ ∃ m ∈ pre, m.incl = false ∧ m.name = d
  | [], _, _, _, h, d, hd, ha => Or.inl (h.1 d hd ha)
  | m :: pre, known, n, post, h, d, hd, ha => by
    have ih := Ordered.split available pre _ n post h.2 d hd ha
    rcases ih with hk | ⟨x, hx, hx'⟩
    · by_cases hm : m.incl = true
      · simp only [hm, if_true] at hk; exact Or.inl hk
      · have hm' : m.incl = false := by simpa using hm
        simp only [hm', Bool.false_eq_true, if_false, List.contains_cons, Bool.or_eq_true,
          beq_iff_eq] at hk
        rcases hk with hk | hk
        · exact Or.inr ⟨m, by simp, hm', hk.symm⟩
        · exact Or.inl hk
    · exact Or.inr ⟨x, List.mem_cons_of_mem _ hx, hx'⟩

theorem availableOf_perm {a b : List TNode} (h : a.Perm b) : (availableOf a).Perm (availableOf b) :=
  (h.filter _).map _

/-! ### the rotation bound never cuts a terminating settle short

  `settle` with ANY fuel that gives a result gives the same result with fuel `len(suffix)`:
  a terminating `while model_sort_rotate()` loop takes every node of the suffix to the front at most
  once.  (If the node found by `find_first_dep` is one that was already moved to the front at this
  position, the nodes moved so far depend on each other in a circle and the loop never ends.) -/

theorem stuck_diverges (known available : List String) (s : List TNode)
    (h : rotate s known available = .stuck) : ∀ f, settle known available f s = none
  | 0 => rfl
  | f + 1 => by rw [settle_succ, h]; exact stuck_diverges known available s h f

/-- `n` (a node of `P`) has a dependency to act on that is the name of ANOTHER definition of `P` -/
def WaitsIn (known available : List String) (P : List TNode) (n : TNode) : Prop :=
  ∃ d, pick known available n = some d ∧ (if isD d n = true then 1 else 0) < P.countP (isD d)

/-- a front part `P` of the suffix all of whose nodes wait for another node of `P`: the loop never ends -/
theorem closed_diverges (known available : List String) :
    ∀ (f : Nat) (P U : List TNode), P ≠ [] → (∀ n ∈ P, WaitsIn known available P n) →
      settle known available f (P ++ U) = none
  | 0, _, _, _, _ => rfl
  | _ + 1, [], _, hne, _ => absurd rfl hne
  | f + 1, n :: b, U, _, hcl => by
    obtain ⟨d, hp, hc⟩ := hcl n (by simp)
    have hb : 0 < b.countP (isD d) := by
      rw [List.countP_cons] at hc
      split at hc <;> omega
    rcases first_split (isD d) b with hnone | ⟨a, y, c, rfl, hy, ha⟩
    · rw [List.countP_eq_zero.2 (fun w hw => by rw [hnone w hw]; exact Bool.false_ne_true)] at hb
      cases hb
    rw [List.cons_append, settle_succ, List.append_assoc, List.cons_append, rotate_moved _ hp hy ha,
      ← List.append_assoc]
    show settle known available f ((y :: n :: (a ++ c)) ++ U) = none
    apply closed_diverges known available f (y :: n :: (a ++ c)) U (by simp)
    have hperm := moved_perm n y a c
    intro x hx
    obtain ⟨d', hp', hc'⟩ := hcl x (hperm.mem_iff.1 hx)
    exact ⟨d', hp', by rw [hperm.countP_eq]; exact hc'⟩

/-- the suffix is `n :: older ++ U`: `older` are the nodes that were the head before at this position
    (each waits for another node of `n :: older`), `U` the nodes not moved yet.  A settle that ends
    needs no more than `len(U)` rotations. -/
theorem settle_fuel_aux (known available : List String) :
    ∀ (f f' : Nat) (n : TNode) (older U r : List TNode),
      (∀ x ∈ older, WaitsIn known available (n :: older) x) →
      settle known available f ((n :: older) ++ U) = some r → U.length < f' →
      settle known available f' ((n :: older) ++ U) = some r
  | 0, _, _, _, _, _, _, hs, _ => nomatch hs
  | _ + 1, 0, _, _, _, _, _, _, hf => by omega
  | f + 1, f' + 1, n, older, U, r, hJ, hs, hf => by
    rw [List.cons_append, settle_succ] at hs ⊢
    cases hp : pick known available n with
    | none => rw [rotate_done _ hp] at hs ⊢; exact hs
    | some d =>
      have hhead : WaitsIn known available (n :: older) n → False := fun hh => by
        have := closed_diverges known available (f + 1) (n :: older) U (List.cons_ne_nil _ _)
          (fun x hx => (List.mem_cons.1 hx).elim (fun e => e ▸ hh) (hJ x))
        rw [List.cons_append, settle_succ] at this
        rw [this] at hs
        cases hs
      rcases first_split (isD d) older with ho | ⟨a, y, c, rfl, hy, _⟩
      · rcases first_split (isD d) U with hu | ⟨a, y, c, rfl, hy, ha⟩
        · rw [rotate_stuck hp (fun w hw => (List.mem_append.1 hw).elim (ho w) (hu w)),
            stuck_diverges known available _
              (rotate_stuck hp (fun w hw => (List.mem_append.1 hw).elim (ho w) (hu w)))] at hs
          cases hs
        · have hmv := rotate_moved (n := n) c hp hy
            (fun w hw => (List.mem_append.1 hw).elim (ho w) (ha w) : ∀ w ∈ older ++ a, isD d w = false)
          rw [List.append_assoc] at hmv
          rw [hmv] at hs ⊢
          have e : y :: n :: (older ++ a ++ c) = (y :: n :: older) ++ (a ++ c) := by simp
          rw [e] at hs ⊢
          apply settle_fuel_aux known available f f' y (n :: older) (a ++ c) r ?_ hs
            (by simp at hf ⊢; omega)
          intro x hx
          rcases List.mem_cons.1 hx with rfl | hx
          · refine ⟨d, hp, ?_⟩
            rw [List.countP_cons_of_pos hy, List.countP_cons]
            split <;> omega
          · obtain ⟨d', hp', hc'⟩ := hJ x hx
            refine ⟨d', hp', ?_⟩
            rw [List.countP_cons (a := y)]
            omega
      · -- the dependency is defined among `older`: the head too waits inside the closed set
        refine (hhead ⟨d, hp, ?_⟩).elim
        rw [List.countP_cons, List.countP_append, List.countP_cons_of_pos hy]
        split <;> omega

theorem settle_fuel (known available : List String) (f f' : Nat) (s r : List TNode)
    (hs : settle known available f s = some r) (hf : s.length < f') :
    settle known available f' s = some r := by
  cases s with
  | nil =>
    cases f with
    | zero => cases hs
    | succ f =>
      cases f' with
      | zero => omega
      | succ f' => rw [settle_nil] at hs ⊢; exact hs
  | cons h rest =>
    exact settle_fuel_aux known available f f' h [] rest r (by simp) hs (by simp at hf; omega)

theorem settle_fuel_eq (known available : List String) (f f' : Nat) (s : List TNode)
    (hf : s.length < f) (hf' : s.length < f') :
    settle known available f s = settle known available f' s :=
  Option.ext fun _ => ⟨fun h => settle_fuel _ _ _ _ _ _ h hf', fun h => settle_fuel _ _ _ _ _ _ h hf⟩

/-! ### Include nodes written first are inert (`C15_includes_inert`) -/

theorem sortFrom_bound_irrelevant (T D : Nat) (available : List String) (hDT : D ≤ T) :
    ∀ (k : Nat) (s : List TNode) (known : List String), s.length ≤ D →
      sortFrom T available k s known = sortFrom D available k s known
  | 0, _, _, _ => rfl
  | k + 1, s, known, hl => by
    rw [sortFrom_succ, sortFrom_succ]
    rw [settle_fuel_eq known available (T + 1) (D + 1) s (by omega) (by omega)]
    cases hs : settle known available (D + 1) s with
    | none => rfl
    | some r =>
      cases r with
      | nil => rfl
      | cons m r' =>
        have hlen : (m :: r').length = s.length := (settle_perm _ _ _ _ _ hs).length_eq
        simp only
        rw [sortFrom_bound_irrelevant T D available hDT k r' _ (by simp at hlen; omega)]

theorem availableOf_incs (incs defs : List TNode) (hi : ∀ n ∈ incs, n.incl = true) :
    availableOf (incs ++ defs) = availableOf defs := by
  have : incs.filter (fun n => !n.incl) = [] := by
    apply List.filter_eq_nil_iff.2
    intro n hn; simp [hi n hn]
  simp [availableOf, List.filter_append, this]

theorem sortFrom_incs (total : Nat) (available : List String) (defs : List TNode) (k : Nat) :
    ∀ (incs : List TNode) (known : List String),
      (∀ n ∈ incs, n.incl = true ∧ n.deps = []) →
      sortFrom total available (incs.length + k) (incs ++ defs) known
        = (sortFrom total available k defs known).map (incs ++ ·)
  | [], known, _ => by simp
  | i :: incs, known, hi => by
    have hi0 := hi i (by simp)
    have hset : settle known available (total + 1) (i :: (incs ++ defs)) = some (i :: (incs ++ defs)) := by
      simp [settle_succ, rotate_cons, pick, hi0.2]
    have : (i :: incs).length + k = (incs.length + k) + 1 := by simp; omega
    rw [this]
    simp only [List.cons_append, sortFrom_succ, hset, hi0.1, if_true]
    rw [sortFrom_incs total available defs k incs known (fun n hn => hi n (List.mem_cons_of_mem _ hn))]
    simp [Option.map_map, Function.comp_def]

end Prophy.C15

namespace Prophy.Topo

/-- `dependencies()` of an Include is empty: the node lists made from declarations meet the hypothesis of `sortFrom_incs` -/
theorem toNodes_incl_deps (ds : List Decl) : ∀ n ∈ toNodes ds, n.incl = true → n.deps = [] := by
  intro n hn hi
  simp only [toNodes, List.mem_map] at hn
  obtain ⟨d, _, rfl⟩ := hn
  cases d <;> simp_all [Decl.rawDeps]

end Prophy.Topo

#print axioms Prophy.Topo.toNodes_incl_deps
