/- C06: the counts of the arrays in a decoded message are bounded -/
import ProphyModel.Lemmas.PyDecodeStep
import ProphyModel.Lemmas.ListLemmas
namespace Prophy
open Prophy
namespace Py

/-- all length hints are within the guard of `decode_array_delimiter` (the entries, not lookups: no `Hinted`) -/
def HintsLe (hints : List (String × Nat)) : Prop := ∀ p ∈ hints, p.2 ≤ arrayGuard

theorem HintsLe.nil : HintsLe [] := by intro p hp; cases hp

theorem HintsLe.step {e : Endian} {all : List Member} {n : String} {t : Ty} {k : MKind} {f : St}
    {data : Bytes} {pos0 : Nat} {hints : List (String × Nat)} {term : Bool} {v : Val} {sz : Nat}
    {hints' : List (String × Nat)}
    (h : FieldRes e all n t k f data pos0 hints term v sz hints') (hl : HintsLe hints) : HintsLe hints' := by
  rcases h.hints_eq with ⟨h1, _⟩ | ⟨_, _, _, c, hx, h1⟩
  · rw [h1]; exact hl
  · have hc := (decSizer_spec hx).2.1
    rw [h1]
    intro p hp
    rcases List.mem_append.1 hp with hp | hp
    · unfold boundHints at hp
      rw [List.mem_filterMap] at hp
      obtain ⟨m, _, hm⟩ := hp
      split at hm
      · injection hm with hm; subst hm; exact hc
      · cases hm
    · exact hl p hp

def cntLen (k : MKind) (n : Nat) : Bool :=
  match k.sizer? with
  | some _ => decide (n ≤ arrayGuard)
  | none => true

mutual
  /-- in a decoded value every array bound to a counter, at any depth, has at most `arrayGuard` elements -/
  def cntField (k : MKind) : Ty → Val → Bool
    | t, .present x => cntField .plain t x
    | t, .arr xs => cntLen k xs.length && cntElems t xs
    | _, .bytes b => cntLen k b.length
    | .struct _ ms, .struct vs => cntMs ms vs
    | .union _ arms, .union idx v =>
      (match arms[idx]? with
       | some (.mk _ _ t) => cntField .plain t v
       | none => true)
    | _, _ => true
  def cntMs : List Member → List Val → Bool
    | .mk _ t k :: r, v :: vs => cntField k t v && cntMs r vs
    | _, _ => true
  def cntElems : Ty → List Val → Bool
    | _, [] => true
    | t, x :: xs => cntField .plain t x && cntElems t xs
end

def countsOk (t : Ty) (v : Val) : Bool := cntField .plain t v

theorem cntField_sizer (k : MKind) (t : Ty) : cntField k t .sizer = true := by
  cases t <;> simp [cntField]

theorem cntField_absent (k : MKind) (t : Ty) : cntField k t .absent = true := by
  cases t <;> simp [cntField]

theorem cntField_int (k : MKind) (t : Ty) (i : Int) : cntField k t (.int i) = true := by
  cases t <;> simp [cntField]

theorem cntElems_of_all (t : Ty) : (vs : List Val) → (∀ v ∈ vs, cntField .plain t v = true) → cntElems t vs = true
  | [], _ => by simp [cntElems]
  | x :: xs, h => by
    simp only [cntElems, Bool.and_eq_true]
    exact ⟨h x List.mem_cons_self, cntElems_of_all t xs (fun v hv => h v (List.mem_cons_of_mem _ hv))⟩

theorem cntField_arr (k : MKind) (t : Ty) (xs : List Val) :
    cntField k t (.arr xs) = (cntLen k xs.length && cntElems t xs) := by
  cases t <;> rfl

theorem cntField_bytes (k : MKind) (t : Ty) (b : Bytes) : cntField k t (.bytes b) = cntLen k b.length := by
  cases t <;> rfl

theorem cntField_present (k : MKind) (t : Ty) (x : Val) : cntField k t (.present x) = cntField .plain t x := by
  cases t <;> rfl

theorem cntField_union (k : MKind) (nm : String) (arms : List Arm) (idx : Nat) (v : Val) (an : String) (d : Nat) (t : Ty)
    (ha : arms[idx]? = some (.mk an d t)) : cntField k (.union nm arms) (.union idx v) = cntField .plain t v := by
  have e : cntField k (.union nm arms) (.union idx v) =
      match arms[idx]? with | some (.mk _ _ t) => cntField .plain t v | none => true := rfl
  rw [e, ha]

theorem cntLen_of {k : MKind} {hints : List (String × Nat)} {n : String} {len : Nat} (h : LenOf k hints n len)
    (hl : HintsLe hints) : cntLen k len = true := by
  unfold cntLen
  cases hs : k.sizer? with
  | none => rfl
  | some s =>
    simpa using hl _ (mem_of_lookup (h.hint s hs))

theorem decTy_cnt_cases (e : Endian) : DecCases e (fun t _ _ _ v _ => cntField .plain t v = true)
    (fun _ ms _ _ _ _ hints vs _ => HintsLe hints → cntMs ms vs = true) where
  prim p data pos term i sz _ := cntField_int _ _ _
  byte data pos term i sz _ := cntField_int _ _ _
  enum nm es data pos term i sz _ _ := cntField_int _ _ _
  struct nm ms data pos term vs pos1 _ ih _ := ih HintsLe.nil
  union nm arms data pos term d x idx an dd t w s _ hget _ _ ih _ _ := by
    rw [cntField_union .plain nm arms idx w an dd t hget]; exact ih
  nil all fs ps data pos hints _ := rfl
  cons all n t k r f fs p ps data pos hints v sz hints' vs pe hres iht _ ihm hl := by
    show (cntField k t v && cntMs r vs) = true
    rw [Bool.and_eq_true]
    refine ⟨?_, ihm (HintsLe.step hres hl)⟩
    cases hres with
    | sizer c sz _ _ _ => exact cntField_sizer _ _
    | plain v sz hk _ hx => subst hk; exact iht hx
    | absent x _ _ => exact cntField_absent _ _
    | present flag x v sz _ _ _ hy => rw [cntField_present]; exact iht hy
    | bytes b sz _ hlen _ _ _ => rw [cntField_bytes]; exact cntLen_of hlen hl
    | arr ws cur sz _ hlen hst _ _ =>
      rw [cntField_arr, Bool.and_eq_true]
      exact ⟨cntLen_of hlen hl, cntElems_of_all t ws (hst.all (fun _ _ _ hq => iht hq))⟩

theorem decTy_cnt (e : Endian) : (t : Ty) → ∀ (data : Bytes) (pos : Nat) (term : Bool) (v : Val) (sz : Nat),
    decTy e t data pos term = .ok (v, sz) → cntField .plain t v = true :=
  (decTy_post (decTy_cnt_cases e)).1

theorem decMs_cnt (e : Endian) (all : List Member) : (ms : List Member) →
      ∀ (fs : List St) (ps : List (Option Nat)) (data : Bytes) (pos : Nat) (hints : List (String × Nat))
        (vs : List Val) (posEnd : Nat), HintsLe hints →
        decMs e all ms fs ps data pos hints = .ok (vs, posEnd) → cntMs ms vs = true :=
  fun ms fs ps data pos hints vs pe hl h => (decTy_post (decTy_cnt_cases e)).2 ms all fs ps data pos hints vs pe h hl

theorem decArms_cnt (e : Endian) (all : List Arm) : (arms : List Arm) → (pre : List Arm) → all = pre ++ arms →
      ∀ (disc : Int) (data : Bytes) (pos : Nat) (idx : Nat) (v : Val),
        decArms e all arms disc data pos pre.length = .ok (idx, v) →
        ∃ nm d t, all[idx]? = some (.mk nm d t) ∧ cntField .plain t v = true := by
  intro arms pre hall disc data pos idx v h
  obtain ⟨j, an, d, t, s, hj, hget, _, hx⟩ := decArms_ok h
  refine ⟨an, d, t, ?_, decTy_cnt e t _ _ _ _ _ hx⟩
  rw [hall, hj, List.getElem?_append_right (Nat.le_add_right _ _)]
  simpa using hget

end Py

/-- C06, size bound: in whatever `Message.decode` returns, every array (or bytes field) bound to a
    counter, at any depth, holds at most `arrayGuard` = 65536 elements: every `decN` count reached
    through a counter comes from a hint (`Py.LenOf.hint`), and the hints stay within the guard of
    `decode_array_delimiter` (`Py.HintsLe.step`).  No hypothesis on the schema is needed. -/
theorem Py.decode_count_bounded (t : Ty) (data : Bytes) (e : Endian) (v : Val) (n : Nat)
    (h : Py.decode t data e = .ok (v, n)) : Py.countsOk t v = true :=
  Py.decTy_cnt e t data 0 true v n h

namespace Py

example : cntLen (.dyn "n" 0) 65536 = true := by decide +kernel
example : cntLen (.dyn "n" 0) 65537 = false := by decide +kernel
example : cntLen (.limited "n" 70000) 65537 = false := by decide +kernel

end Py
end Prophy

#print axioms Prophy.Py.decode_count_bounded
