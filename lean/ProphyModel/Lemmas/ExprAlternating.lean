/-
  calc's lexer along a token list that ALTERNATES (`okSeq`: operands and operators in turn, as in every text calc
  parses): the state of `okSeq` after a token, one character of lookahead (`NextOk`), and the induction along such a
  text that the comparisons with the C++ lexer (ExprCppLex) and with the name scan (NameScanLemmas) both run.
-/
import ProphyModel.Lemmas.ExprLex
import ProphyModel.Lemmas.ExprPrint
namespace Prophy
namespace Expr

/-- a two-state walk over the tokens: state `true` = an operand is expected (start, after an operator, after
    unary minus, after `(`), state `false` = an operand has just ended (after a literal, a name, `)`) -/
def okSeq : Bool → List Tok → Bool
  | _, [] => true
  | true, t :: r =>
    match t with
    | .num _ => okSeq false r
    | .ident _ => okSeq false r
    | .minus => okSeq true r
    | .lpar => okSeq true r
    | _ => false
  | false, t :: r =>
    match t with
    | .rpar => okSeq false r
    | .num _ => false
    | .ident _ => false
    | .lpar => false
    | _ => okSeq true r

theorem okSeq_opTok (op : BinOp) (r : List Tok) : okSeq false (opTok op :: r) = okSeq true r := by
  cases op <;> rfl

theorem Rep.okSeq_append {l : Nat} {a : Ast} {t : List Tok} (h : Rep l a t) :
    ∀ rest, okSeq true (t ++ rest) = okSeq false rest := by
  induction h with
  | num l n => intro rest; rfl
  | name l s => intro rest; rfl
  | neg l e t _ ih => intro rest; exact ih rest
  | bin l op x y tx ty _ _ _ ihx ihy =>
    intro rest
    rw [List.append_assoc, ihx, List.cons_append, okSeq_opTok, ihy]
  | paren l a t _ ih =>
    intro rest
    have : (Tok.lpar :: t ++ [Tok.rpar]) ++ rest = Tok.lpar :: (t ++ (Tok.rpar :: rest)) := by simp
    rw [this]
    show okSeq true (t ++ (Tok.rpar :: rest)) = _
    rw [ih]; rfl

/-- the weakest consequence of "calc parses the tokens" the lexer comparison needs -/
theorem okSeq_of_parse (ts : List Tok) (hp : (parse ts).isSome = true) : okSeq true ts = true := by
  cases h : parse ts with
  | none => rw [h] at hp; cases hp
  | some a =>
    have := ((parse_iff_rep ts a).mp h).okSeq_append []
    rw [List.append_nil] at this
    rw [this]; rfl

/-- the state of `okSeq` after a token: an operand is expected after everything but a literal, a name and `)` -/
def Tok.opens : Tok → Bool
  | .num _ => false
  | .ident _ => false
  | .rpar => false
  | _ => true

def Tok.startsOperand : Tok → Bool
  | .num _ => true
  | .ident _ => true
  | .minus => true
  | .lpar => true
  | _ => false

theorem okSeq_cons {st : Bool} {t : Tok} {ts : List Tok} (h : okSeq st (t :: ts) = true) :
    okSeq t.opens ts = true ∧ (st = true → t.startsOperand = true) ∧
      (st = false → ∀ s, t ≠ .ident s) := by
  cases st with
  | true =>
    cases t with
    | num _ | ident _ | minus | lpar => exact ⟨h, fun _ => rfl, fun e => Bool.noConfusion e⟩
    | _ => exact Bool.noConfusion h
  | false =>
    cases t with
    | num _ | ident _ | lpar => exact Bool.noConfusion h
    | _ => exact ⟨h, fun e => Bool.noConfusion e, fun _ _ e => Tok.noConfusion e⟩

theorem okSeq_step {st : Bool} {ot : Option Tok} {ts : List Tok} (h : okSeq st (ot.toList ++ ts) = true) :
    okSeq (ot.elim st Tok.opens) ts = true := by
  cases ot with
  | none => exact h
  | some t => exact (okSeq_cons h).1

/-- what the first character `x` of a text that calc lexes to an alternating token list may be; `b` = an operand
    is expected there.  Each field excludes the second character of a C++ token calc does not have: `.` and `'`
    continue a pp-number; `>` `|` `/` `*` after `-` `|` `/` make `->` `||` `//` `/*`; `noName` is for the name scan. -/
structure NextChar (b : Bool) (x : Char) : Prop where
  notDot : x ≠ '.'
  notQuote : x ≠ '\''
  notGt : b = true → x ≠ '>'
  notBar : b = true → x ≠ '|'
  notSlash : b = true → x ≠ '/'
  notStar : b = true → x ≠ '*'
  noName : b = false → isIdStart x = false

def NextOk (b : Bool) (rest : List Char) : Prop := ∀ x r2, rest = x :: r2 → NextChar b x

theorem lex_nextOk {n : Nat} {cs : List Char} {ts : List Tok} {b : Bool} (hl : lex false n cs = some ts)
    (hs : okSeq b ts = true) : NextOk b cs := by
  rintro x r2 rfl
  obtain ⟨ot, rest, hh, hts⟩ := lex_head hl
  -- the token this character starts fits the state
  have key : ∀ t, ot = some t → (b = true → t.startsOperand = true) ∧ (b = false → ∀ s, t ≠ .ident s) := by
    intro t e
    obtain ⟨ts2, rfl⟩ := hts t e
    exact (okSeq_cons hs).2
  have nop : ∀ {t : Tok}, punct x = some t → t.startsOperand = false → b = true → False := by
    intro t hp hf hb
    rw [lexHead_punct false r2 hp] at hh
    cases hh
    exact Bool.noConfusion (hf ▸ (key _ rfl).1 hb)
  refine ⟨?_, ?_, fun hb => ?_, fun hb => ?_, fun hb => ?_, fun hb => ?_, fun hb => ?_⟩
  · rintro rfl
    rw [show lexHead false '.' r2 = none by unfold lexHead; rfl] at hh; cases hh
  · rintro rfl
    rw [show lexHead false '\'' r2 = none by unfold lexHead; rfl] at hh; cases hh
  · rintro rfl
    rcases (lexHead_step hh).tok.shift (Or.inr rfl) with rfl | rfl <;> exact Bool.noConfusion ((key _ rfl).1 hb)
  · rintro rfl; exact nop (t := .bar) rfl rfl hb
  · rintro rfl; exact nop (t := .slash) rfl rfl hb
  · rintro rfl; exact nop (t := .star) rfl rfl hb
  · cases hi : isIdStart x with
    | false => rfl
    | true =>
      rw [lexHead_ident false x r2 hi] at hh
      cases hw : takeWhileAcc isIdChar (x :: r2) [] with
      | mk cs rest2 => rw [hw] at hh; cases hh; exact absurd rfl ((key _ rfl).2 hb _)

/-- induction along a text that calc lexes to an alternating token list: each step is handed the state of `okSeq`
    in which the rest is read, and the lookahead -/
theorem lex_ok_induction {P : Bool → List Char → List Tok → Prop} (nil : ∀ st, P st [] [])
    (step : ∀ {st c r ot rest ts}, lexHead false c r = some (ot, rest) → NextOk (ot.elim st Tok.opens) rest →
      P (ot.elim st Tok.opens) rest ts → P st (c :: r) (ot.toList ++ ts))
    {n : Nat} {cs : List Char} {ts : List Tok} (hl : lex false n cs = some ts) :
    ∀ st, okSeq st ts = true → P st cs ts := by
  refine lex_induction (P := fun cs ts => ∀ st, okSeq st ts = true → P st cs ts) (fun st _ => nil st) ?_ hl
  intro c r ot rest ts hh ⟨n, hl'⟩ ih st hs
  have hs' := okSeq_step hs
  exact step hh (lex_nextOk hl' hs') (ih _ hs')

end Expr
end Prophy

#print axioms Prophy.Expr.okSeq_of_parse
