/-
  Include handling (properties C16 / C20): every file parsed once, results independent of
  the order of the inputs, success on acyclic include graphs.
-/
import ProphyModel.Files
import ProphyModel.Lemmas.ListLemmas

namespace Prophy.FilesL

/-- `Files.processMains` with the fuel as a parameter (`Files.processMains` itself is the instance `4 * fs.length + 4`); in the
    namespace of the model with links because it is what that model is shown to refine (`Properties/C20Links.lean`) -/
def filesMainsN_l (fs : List Files.File) (n : Nat) (includeDirs : List String) :
    List Files.FileId → Files.Cache → Except Files.Err (List (Files.FileId × Files.Result))
  | [], _ => .ok []
  | f :: r, cache =>
    match Files.processFile fs n (f.dir :: includeDirs) cache f with
    | .error e => .error e
    | .ok (res, cache1) =>
      match filesMainsN_l fs n includeDirs r cache1 with
      | .error e => .error e
      | .ok rs => .ok ((f, res) :: rs)

theorem filesMainsN_eq_l (fs : List Files.File) (incs : List String) :
    ∀ ms cache, filesMainsN_l fs (4 * fs.length + 4) incs ms cache = Files.processMains fs incs ms cache
  | [], _ => rfl
  | f :: r, cache => by
    simp only [filesMainsN_l, Files.processMains, filesMainsN_eq_l fs incs r]
    rfl

end Prophy.FilesL

namespace Prophy.Files
open Prophy Prophy.FilesL

theorem lookupFile_some {fs : List File} {f : FileId} {file : File} (h : lookupFile fs f = some file) :
    file.id = f := by
  have hb : (file.id == f) = true := List.find?_some (p := fun x : File => x.id == f) (l := fs) h
  exact eq_of_beq hb

/-- `swap_dir` -/
def swapDir (dirs : List String) (g : FileId) : List String :=
  match dirs with
  | _ :: t => g.dir :: t
  | [] => []

theorem swapDir_cons (d : String) (t : List String) (g : FileId) : swapDir (d :: t) g = g.dir :: t := rfl

theorem processFile_zero (fs : List File) (dirs : List String) (cache : Cache) (f : FileId) :
    processFile fs 0 dirs cache f = .error (.cyclic f) := rfl

theorem processFile_succ (fs : List File) (fuel : Nat) (dirs : List String) (cache : Cache) (f : FileId) :
    processFile fs (fuel + 1) dirs cache f =
      match cache.lookup f with
      | some none => .error (.cyclic f)
      | some (some r) => .ok ({ r with parsed := [] }, cache)
      | none =>
        match lookupFile fs f with
        | none => .error (.notFound f.leaf)
        | some file =>
          match processIncludes fs fuel dirs ((f, none) :: cache) file.includes with
          | .error e => .error e
          | .ok (vis, parsed, cache1) =>
            let r : Result := { exports := file.defines, visible := vis ++ file.defines, parsed := f :: parsed }
            .ok (r, (f, some r) :: cache1) := rfl

theorem processIncludes_nil (fs : List File) (fuel : Nat) (dirs : List String) (cache : Cache) :
    processIncludes fs fuel dirs cache [] = .ok ([], [], cache) := by
  cases fuel <;> rfl

theorem processIncludes_zero (fs : List File) (dirs : List String) (cache : Cache) (leaf : String)
    (rest : List String) : processIncludes fs 0 dirs cache (leaf :: rest) = .error (.notFound leaf) := rfl

theorem processIncludes_succ (fs : List File) (fuel : Nat) (dirs : List String) (cache : Cache)
    (leaf : String) (rest : List String) :
    processIncludes fs (fuel + 1) dirs cache (leaf :: rest) =
      match findLeaf fs leaf dirs with
      | none => .error (.notFound leaf)
      | some g =>
        match processFile fs fuel (swapDir dirs g) cache g with
        | .error e => .error e
        | .ok (r, cache1) =>
          match processIncludes fs fuel dirs cache1 rest with
          | .error e => .error e
          | .ok (vis, parsed, cache2) => .ok (r.exports ++ vis, r.parsed ++ parsed, cache2) := rfl

/-- Induction over successful runs: cache hit, a file that is parsed (from its includes), the empty include list, the
    first include and the rest; the first argument of the motives is the fuel. -/
theorem run_induct (fs : List File) {PF : Nat → List String → Cache → FileId → Result → Cache → Prop}
    {PI : Nat → List String → Cache → List String → List String → List FileId → Cache → Prop}
    (hit : ∀ {n dirs cache f r0}, cache.lookup f = some (some r0) →
      PF (n + 1) dirs cache f { r0 with parsed := [] } cache)
    (miss : ∀ {n dirs cache f file vis parsed c1}, cache.lookup f = none → lookupFile fs f = some file →
      PI n dirs ((f, none) :: cache) file.includes vis parsed c1 →
      PF (n + 1) dirs cache f ⟨file.defines, vis ++ file.defines, f :: parsed⟩
        ((f, some ⟨file.defines, vis ++ file.defines, f :: parsed⟩) :: c1))
    (nil : ∀ {n dirs cache}, PI n dirs cache [] [] [] cache)
    (cons : ∀ {n dirs cache leaf rest g r c1 vis2 parsed2 c2}, findLeaf fs leaf dirs = some g →
      PF n (swapDir dirs g) cache g r c1 → PI n dirs c1 rest vis2 parsed2 c2 →
      PI (n + 1) dirs cache (leaf :: rest) (r.exports ++ vis2) (r.parsed ++ parsed2) c2) (n : Nat) :
    (∀ dirs cache f r c', processFile fs n dirs cache f = .ok (r, c') → PF n dirs cache f r c') ∧
    (∀ dirs cache l vis parsed c', processIncludes fs n dirs cache l = .ok (vis, parsed, c') →
      PI n dirs cache l vis parsed c') := by
  induction n with
  | zero =>
    refine ⟨fun dirs cache f r c' h => (nomatch h), fun dirs cache l vis parsed c' h => ?_⟩
    cases l with
    | nil => cases h; exact nil
    | cons leaf rest => cases h
  | succ n ih =>
    refine ⟨fun dirs cache f r c' h => ?_, fun dirs cache l vis parsed c' h => ?_⟩
    · rw [processFile_succ] at h
      split at h
      · cases h                          -- in progress
      · rename_i r0 hl                   -- cache hit
        cases h
        exact hit hl
      · rename_i hl
        split at h
        · cases h                        -- no content
        · rename_i file hf
          split at h
          · cases h                      -- the includes fail
          · rename_i vis parsed c1 hi
            cases h
            exact miss hl hf (ih.2 _ _ _ _ _ _ hi)
    · cases l with
      | nil => cases h; exact nil
      | cons leaf rest =>
        rw [processIncludes_succ] at h
        split at h
        · cases h                        -- not found
        · rename_i g hg
          split at h
          · cases h                      -- the include fails
          · rename_i r c1 hp
            split at h
            · cases h                    -- a later include fails
            · rename_i vis2 parsed2 c2 hi
              cases h
              exact cons hg (ih.1 _ _ _ _ _ hp) (ih.2 _ _ _ _ _ _ hi)

theorem processFile_mono (fs : List File) {n m : Nat} (hnm : n ≤ m) {dirs : List String} {cache : Cache}
    {f : FileId} {x : Result × Cache} (h : processFile fs n dirs cache f = .ok x) :
    processFile fs m dirs cache f = .ok x := by
  have key := run_induct fs
    (PF := fun n dirs cache f r c' => ∀ m, n ≤ m → processFile fs m dirs cache f = .ok (r, c'))
    (PI := fun n dirs cache l vis parsed c' => ∀ m, n ≤ m → processIncludes fs m dirs cache l = .ok (vis, parsed, c'))
    (hit := by
      intro n dirs cache f r0 hl m hm
      obtain ⟨k, rfl⟩ : ∃ k, m = k + 1 := ⟨m - 1, by omega⟩
      rw [processFile_succ, hl])
    (miss := by
      intro n dirs cache f file vis parsed c1 hl hf ih m hm
      obtain ⟨k, rfl⟩ : ∃ k, m = k + 1 := ⟨m - 1, by omega⟩
      rw [processFile_succ, hl]
      simp only [hf, ih k (by omega)])
    (nil := fun m _ => processIncludes_nil ..)
    (cons := by
      intro n dirs cache leaf rest g r c1 vis2 parsed2 c2 hg ihF ihI m hm
      obtain ⟨k, rfl⟩ : ∃ k, m = k + 1 := ⟨m - 1, by omega⟩
      rw [processIncludes_succ]
      simp only [hg, ihF k (by omega), ihI k (by omega)]) n
  obtain ⟨r, c'⟩ := x
  exact key.1 _ _ _ _ _ h m hnm

/-- what a successful step tells about `parsed` and the cache: the parsed files are pairwise distinct, none of them was in
    the cache before, all of them are in the cache afterwards, the cache only grows and no new marker is left (`marks`) -/
structure ParsedInv (cache : Cache) (parsed : List FileId) (c' : Cache) : Prop where
  nodup : parsed.Nodup
  fresh : ∀ g ∈ parsed, cache.lookup g = none
  mono : ∀ g, cache.lookup g ≠ none → c'.lookup g ≠ none
  added : ∀ g ∈ parsed, c'.lookup g ≠ none
  marks : ∀ g, c'.lookup g = some none → cache.lookup g = some none

theorem ParsedInv.refl (c : Cache) : ParsedInv c [] c :=
  ⟨List.nodup_nil, fun _ h => (nomatch h), fun _ h => h, fun _ h => (nomatch h), fun _ h => h⟩

theorem ParsedInv.trans {c c1 c2 : Cache} {p1 p2 : List FileId} (h1 : ParsedInv c p1 c1)
    (h2 : ParsedInv c1 p2 c2) : ParsedInv c (p1 ++ p2) c2 where
  nodup := List.nodup_append.mpr ⟨h1.nodup, h2.nodup, fun a ha b hb hab => h1.added a ha (hab ▸ h2.fresh b hb)⟩
  fresh a ha := by
    rcases List.mem_append.mp ha with ha | ha
    · exact h1.fresh a ha
    · cases hc : List.lookup a c with
      | none => rfl
      | some o => exact absurd (h2.fresh a ha) (h1.mono a (by rw [hc]; exact fun x => nomatch x))
  mono a ha := h2.mono a (h1.mono a ha)
  added a ha := by
    rcases List.mem_append.mp ha with ha | ha
    · exact h2.mono a (h1.added a ha)
    · exact h2.added a ha
  marks a ha := h1.marks a (h2.marks a ha)

/-- a file that was not in the cache is processed between its marker and its entry -/
theorem ParsedInv.wrap {c c1 : Cache} {f : FileId} {p : List FileId} {r : Result} (hl : c.lookup f = none)
    (h : ParsedInv ((f, none) :: c) p c1) : ParsedInv c (f :: p) ((f, some r) :: c1) := by
  have key : ∀ g, g ≠ f → List.lookup g ((f, none) :: c) = c.lookup g := fun g hg => by
    rw [lookup_cons, if_neg hg]
  have key' : ∀ g, g ≠ f → List.lookup g ((f, some r) :: c1) = c1.lookup g := fun g hg => by
    rw [lookup_cons, if_neg hg]
  have self' : List.lookup f ((f, some r) :: c1) = some (some r) := by rw [lookup_cons, if_pos rfl]
  have hf : ∀ g ∈ p, g ≠ f := fun g hg e => by
    have := h.fresh g hg
    rw [e, lookup_cons, if_pos rfl] at this
    cases this
  refine ⟨List.nodup_cons.mpr ⟨fun hm => hf f hm rfl, h.nodup⟩, ?_, ?_, ?_, ?_⟩
  · intro g hg
    rcases List.mem_cons.mp hg with rfl | hg
    · exact hl
    · rw [← key g (hf g hg)]
      exact h.fresh g hg
  · intro g hg
    by_cases e : g = f
    · rw [e, self']; exact fun x => nomatch x
    · rw [key' g e]
      exact h.mono g (by rw [key g e]; exact hg)
  · intro g hg
    by_cases e : g = f
    · rw [e, self']; exact fun x => nomatch x
    · rw [key' g e]
      exact h.added g ((List.mem_cons.mp hg).resolve_left e)
  · intro g hg
    by_cases e : g = f
    · rw [e, self'] at hg; cases hg
    · rw [key' g e] at hg
      rw [← key g e]
      exact h.marks g hg

theorem processFile_parsedInv {fs : List File} {n : Nat} {dirs : List String} {cache c' : Cache}
    {f : FileId} {r : Result} (h : processFile fs n dirs cache f = .ok (r, c')) :
    ParsedInv cache r.parsed c' :=
  (run_induct fs (PF := fun _ _ cache _ r c' => ParsedInv cache r.parsed c')
    (PI := fun _ _ cache _ _ parsed c' => ParsedInv cache parsed c')
    (fun _ => .refl _) (fun hl _ ih => .wrap hl ih) (.refl _) (fun _ ih1 ih2 => ih1.trans ih2) n).1 _ _ _ _ _ h


theorem filesMainsN_cons (fs : List File) (n : Nat) (inc : List String) (f : FileId) (ms : List FileId)
    (cache : Cache) :
    filesMainsN_l fs n inc (f :: ms) cache =
      match processFile fs n (f.dir :: inc) cache f with
      | .error e => .error e
      | .ok (res, cache1) =>
        match filesMainsN_l fs n inc ms cache1 with
        | .error e => .error e
        | .ok rs => .ok ((f, res) :: rs) := rfl

theorem filesMainsN_induct (fs : List File) (n : Nat) (inc : List String)
    {P : List FileId → Cache → List (FileId × Result) → Prop} (nil : ∀ c, P [] c [])
    (cons : ∀ {f ms c r c1 rs}, processFile fs n (f.dir :: inc) c f = .ok (r, c1) →
      filesMainsN_l fs n inc ms c1 = .ok rs → P ms c1 rs → P (f :: ms) c ((f, r) :: rs)) :
    ∀ ms c rs, filesMainsN_l fs n inc ms c = .ok rs → P ms c rs := by
  intro ms c
  fun_induction filesMainsN_l fs n inc ms c with
  | case1 c => intro rs h; cases h; exact nil c                       -- no input left
  | case2 f ms c e hp => exact fun rs h => nomatch h                  -- the input fails
  | case3 f ms c r c1 hp e hm ih => exact fun rs h => nomatch h       -- a later input fails
  | case4 f ms c r c1 hp rs1 hm ih => intro rs h; cases h; exact cons hp hm (ih rs1 hm)

theorem filesMainsN_mono (fs : List File) (inc : List String) {n m : Nat} (hnm : n ≤ m) (ms : List FileId)
    (cache : Cache) (rs : List (FileId × Result)) (h : filesMainsN_l fs n inc ms cache = .ok rs) :
    filesMainsN_l fs m inc ms cache = .ok rs :=
  filesMainsN_induct fs n inc (P := fun ms c rs => filesMainsN_l fs m inc ms c = .ok rs) (fun _ => rfl)
    (fun {f ms c r c1 rs} hp _ ih => by
      rw [filesMainsN_cons, processFile_mono fs hnm hp]
      simp only [ih]) ms cache rs h

theorem filesMainsN_parsedInv (fs : List File) (n : Nat) (inc : List String) (ms : List FileId) (cache : Cache)
    (rs : List (FileId × Result)) (h : filesMainsN_l fs n inc ms cache = .ok rs) :
    ∃ c', ParsedInv cache (rs.flatMap (·.2.parsed)) c' :=
  filesMainsN_induct fs n inc (P := fun _ c rs => ∃ c', ParsedInv c (rs.flatMap (·.2.parsed)) c')
    (fun c => ⟨c, .refl c⟩)
    (fun hp _ ⟨c', ih⟩ => ⟨c', by rw [List.flatMap_cons]; exact (processFile_parsedInv hp).trans ih⟩) ms cache rs h

theorem parsed_not_cached_p15 (fs : List File) (inc : List String) (ms : List FileId) (cache : Cache)
    (rs : List (FileId × Result)) (h : processMains fs inc ms cache = .ok rs) :
    ∀ g ∈ rs.flatMap (·.2.parsed), cache.lookup g = none := by
  rw [← filesMainsN_eq_l] at h
  obtain ⟨_, hp⟩ := filesMainsN_parsedInv fs _ inc ms cache rs h
  exact hp.fresh

/-! ## The result of a file is a function of the file system and the include directories only (C20)

  Every call of `processFile` that `processMains` can reach has the search path `f.dir :: inc` for the file `f`
  being processed (`processMains` starts with `f.dir :: includeDirs`, and `swap_dir` replaces exactly the first
  entry by the included file's directory).  So the directory context from which a file is first reached does NOT
  influence its result. -/

def expSpec_p15 (fs : List File) (f : FileId) : List String :=
  match lookupFile fs f with
  | some file => file.defines
  | none => []

def incVis_p15 (fs : List File) (dirs : List String) (l : List String) : List String :=
  l.flatMap (fun leaf => match findLeaf fs leaf dirs with
    | some g => expSpec_p15 fs g
    | none => [])

/-- specification of `visible`: the definitions of the direct includes (resolved with the file's own
    directory first, then the include directories), then the file's own definitions -/
def visSpec_p15 (fs : List File) (inc : List String) (f : FileId) : List String :=
  match lookupFile fs f with
  | some file => incVis_p15 fs (f.dir :: inc) file.includes ++ file.defines
  | none => []

def Cache.sound_p15 (fs : List File) (inc : List String) (c : Cache) : Prop :=
  ∀ f r, c.lookup f = some (some r) → r.exports = expSpec_p15 fs f ∧ r.visible = visSpec_p15 fs inc f

theorem Cache.sound_nil (fs : List File) (inc : List String) : Cache.sound_p15 fs inc [] :=
  fun _ _ h => nomatch h

theorem Cache.sound_marker {fs : List File} {inc : List String} {c : Cache} (f : FileId)
    (h : Cache.sound_p15 fs inc c) : Cache.sound_p15 fs inc ((f, none) :: c) := by
  intro g r hg
  rw [lookup_cons] at hg
  by_cases hgf : g = f
  · rw [if_pos hgf] at hg; cases hg
  · rw [if_neg hgf] at hg
    exact h g r hg

theorem Cache.sound_done {fs : List File} {inc : List String} {c : Cache} (f : FileId) (r : Result)
    (h : Cache.sound_p15 fs inc c) (hr : r.exports = expSpec_p15 fs f ∧ r.visible = visSpec_p15 fs inc f) :
    Cache.sound_p15 fs inc ((f, some r) :: c) := by
  intro g r' hg
  rw [lookup_cons] at hg
  by_cases hgf : g = f
  · rw [if_pos hgf] at hg
    injection hg with hg
    injection hg with hg
    rw [← hg, hgf]
    exact hr
  · rw [if_neg hgf] at hg
    exact h g r' hg

theorem processFile_sound {fs : List File} {inc : List String} {n : Nat} {cache c' : Cache}
    {f : FileId} {r : Result} (hs : Cache.sound_p15 fs inc cache)
    (h : processFile fs n (f.dir :: inc) cache f = .ok (r, c')) :
    r.exports = expSpec_p15 fs f ∧ r.visible = visSpec_p15 fs inc f ∧ Cache.sound_p15 fs inc c' :=
  (run_induct fs
    (PF := fun _ dirs cache f r c' => dirs = f.dir :: inc → Cache.sound_p15 fs inc cache →
      r.exports = expSpec_p15 fs f ∧ r.visible = visSpec_p15 fs inc f ∧ Cache.sound_p15 fs inc c')
    (PI := fun _ dirs cache l vis _ c' => ∀ d, dirs = d :: inc → Cache.sound_p15 fs inc cache →
      vis = incVis_p15 fs dirs l ∧ Cache.sound_p15 fs inc c')
    (hit := fun hl _ hs => ⟨(hs _ _ hl).1, (hs _ _ hl).2, hs⟩)
    (miss := by
      intro _ dirs cache f file vis parsed c1 _ hf ih hd hs
      obtain ⟨hv, hs1⟩ := ih f.dir hd (Cache.sound_marker f hs)
      have hr : file.defines = expSpec_p15 fs f ∧ vis ++ file.defines = visSpec_p15 fs inc f := by
        simp only [expSpec_p15, visSpec_p15, hf, hv, hd, and_self]
      exact ⟨hr.1, hr.2, Cache.sound_done f _ hs1 hr⟩)
    (nil := fun _ _ hs => ⟨rfl, hs⟩)
    (cons := by
      intro _ dirs cache leaf rest g r c1 vis2 parsed2 c2 hg ihF ihI d hd hs
      obtain ⟨he, _, hs1⟩ := ihF (by rw [hd, swapDir_cons]) hs
      obtain ⟨hv2, hs2⟩ := ihI d hd hs1
      refine ⟨?_, hs2⟩
      rw [he, hv2]
      simp only [incVis_p15, List.flatMap_cons, hg])
    n).1 _ _ _ _ _ h rfl hs

/-- only `parsed` differs: the files that are in the cache already are not parsed again (`processFile_parsedInv`) -/
theorem processFile_cache_irrelevant_p15 {fs : List File} {inc : List String} {n n0 : Nat} {cache c' c0 : Cache}
    {f : FileId} {r r0 : Result} (hs : Cache.sound_p15 fs inc cache)
    (h : processFile fs n (f.dir :: inc) cache f = .ok (r, c'))
    (h0 : processFile fs n0 (f.dir :: inc) [] f = .ok (r0, c0)) :
    r.exports = r0.exports ∧ r.visible = r0.visible ∧
      Cache.sound_p15 fs inc c' ∧ (∀ g ∈ r.parsed, cache.lookup g = none) := by
  have ⟨a, b, c⟩ := processFile_sound hs h
  have ⟨a0, b0, _⟩ := processFile_sound (Cache.sound_nil fs inc) h0
  exact ⟨a.trans a0.symm, b.trans b0.symm, c, (processFile_parsedInv h).fresh⟩

/-- the literal reading of `Cache.sound_p15`: every finished entry agrees (in `exports` and
    `visible`) with some successful run of `processFile` for that file from the empty cache -/
def Cache.soundLit_p15 (fs : List File) (inc : List String) (c : Cache) : Prop :=
  ∀ f r, c.lookup f = some (some r) →
    ∃ n r0 c0, processFile fs n (f.dir :: inc) [] f = .ok (r0, c0) ∧
      r.exports = r0.exports ∧ r.visible = r0.visible

theorem Cache.sound_of_soundLit_p15 {fs : List File} {inc : List String} {c : Cache}
    (h : Cache.soundLit_p15 fs inc c) : Cache.sound_p15 fs inc c := by
  intro f r hl
  obtain ⟨n, r0, c0, hp, he, hv⟩ := h f r hl
  have ⟨a0, b0, _⟩ := processFile_sound (Cache.sound_nil fs inc) hp
  exact ⟨he.trans a0, hv.trans b0⟩

theorem filesMainsN_sound (fs : List File) (n : Nat) (inc : List String) (ms : List FileId) (cache : Cache)
    (rs : List (FileId × Result)) (hs : Cache.sound_p15 fs inc cache) (h : filesMainsN_l fs n inc ms cache = .ok rs) :
    ∀ f r, (f, r) ∈ rs → r.exports = expSpec_p15 fs f ∧ r.visible = visSpec_p15 fs inc f :=
  filesMainsN_induct fs n inc
    (P := fun _ c rs => Cache.sound_p15 fs inc c →
      ∀ f r, (f, r) ∈ rs → r.exports = expSpec_p15 fs f ∧ r.visible = visSpec_p15 fs inc f)
    (fun _ _ _ _ hm => nomatch hm)
    (fun hp _ ih hs f' r' hmem => by
      obtain ⟨a, b, hs1⟩ := processFile_sound hs hp
      rcases List.mem_cons.mp hmem with heq | hmem
      · injection heq with h1 h2
        rw [h1, h2]
        exact ⟨a, b⟩
      · exact ih hs1 f' r' hmem) ms cache rs h hs

theorem order_independent_strong_p15 (fs : List File) (inc : List String) (ms ms' : List FileId)
    (cache cache' : Cache) (rs rs' : List (FileId × Result))
    (hs : Cache.sound_p15 fs inc cache) (hs' : Cache.sound_p15 fs inc cache')
    (h : processMains fs inc ms cache = .ok rs) (h' : processMains fs inc ms' cache' = .ok rs') :
    ∀ f r r', (f, r) ∈ rs → (f, r') ∈ rs' → r.exports = r'.exports ∧ r.visible = r'.visible := by
  intro f r r' hm hm'
  rw [← filesMainsN_eq_l] at h h'
  have ⟨a, b⟩ := filesMainsN_sound fs _ inc ms cache rs hs h f r hm
  have ⟨a', b'⟩ := filesMainsN_sound fs _ inc ms' cache' rs' hs' h' f r' hm'
  exact ⟨a.trans a'.symm, b.trans b'.symm⟩

/-- C20, order independence; the permutation is not used (`order_independent_strong_p15`) -/
theorem order_independent_p15 (fs : List File) (inc : List String) (ms ms' : List FileId)
    (rs rs' : List (FileId × Result))
    (h : processMains fs inc ms [] = .ok rs) (h' : processMains fs inc ms' [] = .ok rs')
    (_hperm : ms.Perm ms') :
    ∀ f r r', (f, r) ∈ rs → (f, r') ∈ rs' → r.exports = r'.exports ∧ r.visible = r'.visible :=
  order_independent_strong_p15 fs inc ms ms' [] [] rs rs' (Cache.sound_nil fs inc) (Cache.sound_nil fs inc) h h'

theorem filesMainsN_keys (fs : List File) (n : Nat) (inc : List String) (ms : List FileId) (cache : Cache)
    (rs : List (FileId × Result)) (h : filesMainsN_l fs n inc ms cache = .ok rs) : rs.map (·.1) = ms :=
  filesMainsN_induct fs n inc (P := fun ms _ rs => rs.map (·.1) = ms) (fun _ => rfl)
    (fun _ _ ih => by rw [List.map_cons, ih]) ms cache rs h

/-- order independence with the permutation hypothesis used: every input file has a result in both runs -/
theorem order_independent_perm_p15 (fs : List File) (inc : List String) (ms ms' : List FileId)
    (rs rs' : List (FileId × Result))
    (h : processMains fs inc ms [] = .ok rs) (h' : processMains fs inc ms' [] = .ok rs')
    (hperm : ms.Perm ms') :
    ∀ f ∈ ms, ∃ r r', (f, r) ∈ rs ∧ (f, r') ∈ rs' ∧ r.exports = r'.exports ∧ r.visible = r'.visible := by
  intro f hf
  have hk := filesMainsN_keys fs _ inc ms [] rs (by rw [filesMainsN_eq_l]; exact h)
  have hk' := filesMainsN_keys fs _ inc ms' [] rs' (by rw [filesMainsN_eq_l]; exact h')
  have hf' : f ∈ ms' := hperm.mem_iff.mp hf
  rw [← hk] at hf
  rw [← hk'] at hf'
  obtain ⟨⟨f1, r⟩, hm, rfl⟩ := List.mem_map.mp hf
  obtain ⟨⟨f2, r'⟩, hm', heq⟩ := List.mem_map.mp hf'
  simp only at heq
  subst heq
  exact ⟨r, r', hm, hm', order_independent_p15 fs inc ms ms' rs rs' h h' hperm _ r r' hm hm'⟩

/-! ## Success on acyclic include graphs

  The fuel `4 * fs.length + 4` of `processMains` is NOT sufficient in general: `processIncludes` spends
  one unit of fuel per element of an include list *and* one per nesting level, so a file processed at
  include depth `k` as the `i`-th include of its parent needs about `Σ (i_j + 2)` fuel along the chain.
  Two witnesses (both acyclic, every include resolves), then the theorem with the bound made explicit. -/

/-- smallest file system: `m` includes the leaf `a` eleven times (fuel `4 * 2 + 4 = 12`) -/
def fuelWitnessDup_p15 : List File :=
  [⟨⟨"d", "m"⟩, List.replicate 11 "a", ["M"]⟩, ⟨⟨"d", "a"⟩, [], ["A"]⟩]

example : (match processMains fuelWitnessDup_p15 [] [⟨"d", "m"⟩] [] with
    | .error e => e == .cyclic ⟨"d", "a"⟩      -- a bogus "cyclic include" report
    | .ok _ => false) = true := by decide

/-- with ten includes it still succeeds -/
example : (match processMains [⟨⟨"d", "m"⟩, List.replicate 10 "a", ["M"]⟩, ⟨⟨"d", "a"⟩, [], ["A"]⟩] []
    [⟨"d", "m"⟩] [] with | .ok _ => true | .error _ => false) = true := by decide

/-- a witness without repeated includes: a chain `c0 → c1 → ... → c6` of seven files, each of which
    first includes the same seven leaf files `x0 .. x6` and then the next file of the chain:
    14 files, fuel `4 * 14 + 4 = 60`, but the chain needs `7 * 9` -/
def fuelWitnessChain_p15 : List File :=
  let xs := ["x0", "x1", "x2", "x3", "x4", "x5", "x6"]
  [⟨⟨"d", "c0"⟩, xs ++ ["c1"], []⟩, ⟨⟨"d", "c1"⟩, xs ++ ["c2"], []⟩, ⟨⟨"d", "c2"⟩, xs ++ ["c3"], []⟩,
   ⟨⟨"d", "c3"⟩, xs ++ ["c4"], []⟩, ⟨⟨"d", "c4"⟩, xs ++ ["c5"], []⟩, ⟨⟨"d", "c5"⟩, xs ++ ["c6"], []⟩,
   ⟨⟨"d", "c6"⟩, xs, []⟩] ++ xs.map (fun x => ⟨⟨"d", x⟩, [], []⟩)

example : (match processMains fuelWitnessChain_p15 [] [⟨"d", "c0"⟩] [] with
    | .ok _ => true | .error _ => false) = false := by decide

/-- `rank` is a *weighted* rank function on the set `R` of files (closed under includes): every file of
    `R` exists, every include resolves inside `R`, and the `i`-th include (counting from 0) of `f` has a
    rank smaller than that of `f` by at least `i + 2` (this is the explicit depth bound: it accounts for
    the fuel `processIncludes` spends walking along the include list) -/
def Ranked_p15 (fs : List File) (inc : List String) (R : FileId → Prop) (rank : FileId → Nat) : Prop :=
  ∀ f, R f → ∃ file, lookupFile fs f = some file ∧
    ∀ i leaf, file.includes[i]? = some leaf →
      ∃ g, findLeaf fs leaf (f.dir :: inc) = some g ∧ R g ∧ rank g + i + 2 ≤ rank f

/-- by induction on the fuel `n`: a file of rank below `n` whose ancestors in progress rank higher; an include list whose
    `i`-th include has rank at most `n - i - 2` and below the bound `B` that all files in progress reach -/
theorem success_both (fs : List File) (inc : List String) (R : FileId → Prop) (rank : FileId → Nat)
    (hR : Ranked_p15 fs inc R rank) (n : Nat) :
    (∀ cache f, R f → rank f < n → (∀ h, cache.lookup h = some none → rank f < rank h) →
      ∃ r c', processFile fs n (f.dir :: inc) cache f = .ok (r, c')) ∧
    (∀ d cache l B,
      (∀ i leaf, l[i]? = some leaf →
        ∃ g, findLeaf fs leaf (d :: inc) = some g ∧ R g ∧ rank g + i + 2 ≤ n ∧ rank g < B) →
      (∀ h, cache.lookup h = some none → B ≤ rank h) →
      ∃ vis parsed c', processIncludes fs n (d :: inc) cache l = .ok (vis, parsed, c')) := by
  induction n with
  | zero =>
    refine ⟨?_, ?_⟩
    · intro cache f _ h
      omega
    · intro d cache l B hl _
      cases l with
      | nil => exact ⟨_, _, _, processIncludes_nil ..⟩
      | cons leaf rest =>
        obtain ⟨g, _, _, h, _⟩ := hl 0 leaf rfl
        omega
  | succ n ih =>
    obtain ⟨ihF, ihI⟩ := ih
    refine ⟨?_, ?_⟩
    · intro cache f hf hn hm
      rw [processFile_succ]
      cases hl : cache.lookup f with
      | some o =>
        cases o with
        | none => exact absurd (hm f hl) (Nat.lt_irrefl _)
        | some r0 => exact ⟨_, _, rfl⟩
      | none =>
        obtain ⟨file, hfile, hinc⟩ := hR f hf
        have : ∃ vis parsed c', processIncludes fs n (f.dir :: inc) ((f, none) :: cache) file.includes
            = .ok (vis, parsed, c') := by
          apply ihI f.dir ((f, none) :: cache) file.includes (rank f)
          · intro i leaf hi
            obtain ⟨g, hg, hRg, hr⟩ := hinc i leaf hi
            exact ⟨g, hg, hRg, by omega, by omega⟩
          · intro h hh
            rw [lookup_cons] at hh
            by_cases hhf : h = f
            · subst hhf; exact Nat.le_refl _
            · simp only [hhf, if_false] at hh
              exact Nat.le_of_lt (hm h hh)
        obtain ⟨vis, parsed, c1, hi⟩ := this
        simp only [hfile, hi]
        exact ⟨_, _, rfl⟩
    · intro d cache l B hl hm
      cases l with
      | nil => exact ⟨_, _, _, processIncludes_nil ..⟩
      | cons leaf rest =>
        rw [processIncludes_succ]
        obtain ⟨g, hg, hRg, hr, hB⟩ := hl 0 leaf rfl
        simp only [hg, swapDir_cons]
        obtain ⟨r, c1, hp⟩ := ihF cache g hRg (by omega) (fun h hh => Nat.lt_of_lt_of_le hB (hm h hh))
        have hmarks := (processFile_parsedInv hp).marks
        obtain ⟨vis2, parsed2, c2, hi⟩ := ihI d c1 rest B
          (by
            intro i leaf' hi
            obtain ⟨g', hg', hRg', hr', hB'⟩ := hl (i + 1) leaf' (by simpa using hi)
            exact ⟨g', hg', hRg', by omega, hB'⟩)
          (fun h hh => hm h (hmarks h hh))
        simp only [hp, hi]
        exact ⟨_, _, _, rfl⟩

theorem processMains_success_aux (fs : List File) (inc : List String) (R : FileId → Prop)
    (rank : FileId → Nat) (hR : Ranked_p15 fs inc R rank) :
    ∀ (ms : List FileId) (cache : Cache),
      (∀ f ∈ ms, R f ∧ rank f < 4 * fs.length + 4) → (∀ g, cache.lookup g ≠ some none) →
      ∃ rs, processMains fs inc ms cache = .ok rs
  | [], cache, _, _ => ⟨[], by simp only [processMains]⟩
  | f :: ms, cache, hms, hc => by
    have ⟨hRf, hrf⟩ := hms f (List.mem_cons_self ..)
    obtain ⟨r, c1, hp⟩ := (success_both fs inc R rank hR (4 * fs.length + 4)).1 cache f hRf hrf
      (fun h hh => absurd hh (hc h))
    obtain ⟨rs, hrs⟩ := processMains_success_aux fs inc R rank hR ms c1
      (fun g hg => hms g (List.mem_cons_of_mem _ hg)) (fun g hg => hc g ((processFile_parsedInv hp).marks g hg))
    exact ⟨(f, r) :: rs, by simp only [processMains, hp, hrs]⟩

/-- `R`: any set containing the inputs and closed under includes.  With a plain rank `rank g < rank f` the statement is false
    for the fuel `4 * fs.length + 4` (`fuelWitnessDup_p15`, `fuelWitnessChain_p15`). -/
theorem processMains_success_p15 (fs : List File) (inc : List String) (R : FileId → Prop)
    (rank : FileId → Nat) (hR : Ranked_p15 fs inc R rank) (ms : List FileId)
    (hms : ∀ f ∈ ms, R f ∧ rank f < 4 * fs.length + 4) :
    ∃ rs, processMains fs inc ms [] = .ok rs :=
  processMains_success_aux fs inc R rank hR ms [] hms (by simp)

/-- plain acyclicity (`rank g < rank f`) plus a bound `W` on the number of includes of a file -/
def RankedPlain_p15 (fs : List File) (inc : List String) (R : FileId → Prop) (rank : FileId → Nat)
    (W : Nat) : Prop :=
  ∀ f, R f → ∃ file, lookupFile fs f = some file ∧ file.includes.length ≤ W ∧
    ∀ leaf ∈ file.includes, ∃ g, findLeaf fs leaf (f.dir :: inc) = some g ∧ R g ∧ rank g < rank f

theorem processMains_success_plain_p15 (fs : List File) (inc : List String) (R : FileId → Prop)
    (rank : FileId → Nat) (W : Nat) (hR : RankedPlain_p15 fs inc R rank W) (ms : List FileId)
    (hms : ∀ f ∈ ms, R f ∧ (W + 1) * rank f < 4 * fs.length + 4) :
    ∃ rs, processMains fs inc ms [] = .ok rs := by
  apply processMains_success_p15 fs inc R (fun f => (W + 1) * rank f) ?_ ms hms
  intro f hf
  obtain ⟨file, hfile, hW, hinc⟩ := hR f hf
  refine ⟨file, hfile, ?_⟩
  intro i leaf hi
  have hmem : leaf ∈ file.includes := List.mem_of_getElem? hi
  have hlt : i < file.includes.length := by
    rcases Nat.lt_or_ge i file.includes.length with h | h
    · exact h
    · rw [List.getElem?_eq_none h] at hi; cases hi
  obtain ⟨g, hg, hRg, hr⟩ := hinc leaf hmem
  refine ⟨g, hg, hRg, ?_⟩
  have h1 : (W + 1) * (rank g + 1) ≤ (W + 1) * rank f := Nat.mul_le_mul_left _ hr
  have h2 : (W + 1) * (rank g + 1) = (W + 1) * rank g + (W + 1) := Nat.mul_succ _ _
  show (W + 1) * rank g + i + 2 ≤ (W + 1) * rank f
  omega

def rankedCheck_p15 (fs : List File) (inc : List String) (ids : List FileId) (rank : FileId → Nat) : Bool :=
  ids.all fun f => match lookupFile fs f with
    | none => false
    | some file => file.includes.zipIdx.all fun p => match findLeaf fs p.1 (f.dir :: inc) with
      | none => false
      | some g => ids.contains g && decide (rank g + p.2 + 2 ≤ rank f)

theorem ranked_of_check_p15 {fs : List File} {inc : List String} {ids : List FileId} {rank : FileId → Nat}
    (h : rankedCheck_p15 fs inc ids rank = true) : Ranked_p15 fs inc (· ∈ ids) rank := by
  intro f hf
  have h1 := List.all_eq_true.mp h f hf
  cases hfile : lookupFile fs f with
  | none => simp [hfile] at h1
  | some file =>
    simp only [hfile] at h1
    refine ⟨file, rfl, ?_⟩
    intro i leaf hi
    have h2 := List.all_eq_true.mp h1 (leaf, i) (List.mem_zipIdx_iff_getElem?.mpr hi)
    cases hg : findLeaf fs leaf (f.dir :: inc) with
    | none => simp [hg] at h2
    | some g =>
      simp only [hg, Bool.and_eq_true, decide_eq_true_eq] at h2
      exact ⟨g, rfl, List.contains_iff_mem.mp h2.1, h2.2⟩

/-- non-vacuity: the diamond of `Properties/C16.lean` (main includes a and b, both include
    base, over two include directories) satisfies the hypotheses, hence succeeds -/
def exFs_p15 : List File := [
  ⟨⟨"/p", "main"⟩, ["a", "b"], ["M"]⟩, ⟨⟨"/p/i1", "a"⟩, ["base"], ["A"]⟩,
  ⟨⟨"/p/i2", "b"⟩, ["base"], ["B"]⟩, ⟨⟨"/p/i2", "base"⟩, [], ["K"]⟩]

def exRank_p15 (f : FileId) : Nat :=
  if f.leaf = "main" then 5 else if f.leaf = "base" then 0 else 2

example : ∃ rs, processMains exFs_p15 ["/p/i1", "/p/i2"] [⟨"/p", "main"⟩, ⟨"/p/i2", "b"⟩] [] = .ok rs :=
  processMains_success_p15 exFs_p15 ["/p/i1", "/p/i2"]
    (· ∈ [⟨"/p", "main"⟩, ⟨"/p/i1", "a"⟩, ⟨"/p/i2", "b"⟩, ⟨"/p/i2", "base"⟩]) exRank_p15
    (ranked_of_check_p15 (by decide)) _ (by decide)

/-- the search path matters (so `inc` is a parameter of the invariant), but only through `inc`: with the
    two include directories swapped the same file sees another `a` -/
example :
    let fs : List File := [⟨⟨"/p", "m"⟩, ["a"], []⟩, ⟨⟨"/i1", "a"⟩, [], ["A1"]⟩, ⟨⟨"/i2", "a"⟩, [], ["A2"]⟩]
    visSpec_p15 fs ["/i1", "/i2"] ⟨"/p", "m"⟩ = ["A1"] ∧ visSpec_p15 fs ["/i2", "/i1"] ⟨"/p", "m"⟩ = ["A2"] := by
  decide

end Prophy.Files

#print axioms Prophy.Files.order_independent_p15
#print axioms Prophy.Files.order_independent_strong_p15
#print axioms Prophy.Files.processFile_cache_irrelevant_p15
#print axioms Prophy.Files.processMains_success_p15
#print axioms Prophy.Files.processMains_success_plain_p15
#print axioms Prophy.Files.order_independent_perm_p15
#print axioms Prophy.Files.ranked_of_check_p15
