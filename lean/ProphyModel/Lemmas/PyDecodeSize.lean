/- C06 (size): what the Python decoder returns holds no more scalars and payload bytes than it consumed, and no more
   than the input has; the size it reports exceeds the input length by at most a constant of the schema -/
import ProphyModel.Lemmas.PyDecodeProgress
namespace Prophy
open Prophy

mutual
  /-- scalars and payload bytes a value holds: one per integer / counter / discriminator, one per byte of a bytes field -/
  def Val.weight : Val → Nat
    | .int _ => 1
    | .bytes b => b.length
    | .arr vs => Val.weights vs
    | .struct fs => Val.weights fs
    | .union _ v => 1 + Val.weight v
    | .absent => 0
    | .present v => Val.weight v
    | .sizer => 1
  def Val.weights : List Val → Nat
    | [] => 0
    | v :: vs => Val.weight v + Val.weights vs
end

theorem Val.weights_eq_sum : (vs : List Val) → Val.weights vs = (vs.map Val.weight).sum
  | [] => rfl
  | v :: vs => by simp [Val.weights, Val.weights_eq_sum vs]

namespace Py

def isPrimTy : Ty → Bool
  | .prim _ => true
  | _ => false

def sizerTyOk (all : List Member) (n : String) (t : Ty) (k : MKind) : Bool :=
  match k with
  | .plain => !(isSizer n all) || isPrimTy t
  | _ => true

mutual
  /-- the hypothesis of the size theorem: every union arm, at any depth, is of a fixed type (`Spec.fixedTy`: no dynamic
      or greedy array inside - a union reports `_SIZE` bytes whatever its arm read), and every member that is the counter
      of an array is of a scalar type (the statics of a struct count the member's own `_SIZE`, the decoder reads the
      counter) -/
  def tightTy : Ty → Bool
    | .struct _ ms => tightMs ms ms
    | .union _ arms => tightArms arms
    | _ => true
  def tightMs (all : List Member) : List Member → Bool
    | [] => true
    | .mk n t k :: r => tightTy t && sizerTyOk all n t k && tightMs all r
  def tightArms : List Arm → Bool
    | [] => true
    | .mk _ _ t :: r => tightTy t && Spec.fixedTy t && tightArms r
end

theorem Steps.weight {f : Bytes → Nat → M (Val × Nat)} {data : Bytes} {pos : Nat} {C : Prop} {S : Nat}
    (hf : ∀ q v sz, f data q = .ok (v, sz) →
      v.weight ≤ sz ∧ (v.weight = 0 ∨ q + v.weight ≤ data.length) ∧ (C → v.weight ≤ S))
    {c c' : Nat} {vs : List Val} (h : Steps f data pos c vs c') :
    c + Val.weights vs ≤ c' ∧ (Val.weights vs = 0 ∨ pos + c + Val.weights vs ≤ data.length) ∧
      (C → Val.weights vs ≤ vs.length * S) := by
  induction h with
  | nil c => exact ⟨Nat.le_refl _, Or.inl rfl, fun _ => Nat.zero_le _⟩
  | @cons c sz c' v vs hx _ ih =>
    obtain ⟨a1, a2, a3⟩ := hf _ _ _ hx
    obtain ⟨b1, b2, b3⟩ := ih
    show c + (v.weight + Val.weights vs) ≤ c' ∧ (v.weight + Val.weights vs = 0 ∨ pos + c + (v.weight + Val.weights vs) ≤ data.length) ∧
      (C → v.weight + Val.weights vs ≤ (vs.length + 1) * S)
    refine ⟨by omega, by omega, fun hc => ?_⟩
    have := a3 hc
    have := b3 hc
    rw [Nat.succ_mul]
    omega

theorem tightArms_get : (arms : List Arm) → tightArms arms = true → ∀ (idx : Nat) (an : String) (d : Nat) (t : Ty),
    arms[idx]? = some (.mk an d t) → tightTy t = true ∧ Spec.fixedTy t = true ∧ (stTy t).size ≤ maxSize (stArms arms)
  | [], _, idx, an, d, t, h => by simp at h
  | .mk an' d' t' :: r, ht, idx, an, d, t, h => by
    have ht' : (tightTy t' && Spec.fixedTy t' && tightArms r) = true := ht
    simp only [Bool.and_eq_true] at ht'
    show _ ∧ _ ∧ (stTy t).size ≤ max (stTy t').size (maxSize (stArms r))
    cases idx with
    | zero =>
      obtain ⟨-, -, rfl⟩ : an' = an ∧ d' = d ∧ t' = t := by simpa using h
      exact ⟨ht'.1.1, ht'.1.2, Nat.le_max_left _ _⟩
    | succ i =>
      obtain ⟨h1, h2, h3⟩ := tightArms_get r ht'.2 i an d t (by simpa using h)
      exact ⟨h1, h2, by omega⟩

/-- one turn of the loop, for the weights: the member (`w` within its `sz` bytes and the input), then the rest -/
theorem weight_step {pos pad sz P pe w W L : Nat} (hp : pos + pad + sz ≤ P) (a1 : w ≤ sz)
    (a2 : w = 0 ∨ pos + pad + w ≤ L) (b1 : P + W ≤ pe) (b2 : W = 0 ∨ P + W ≤ L) :
    pos + (w + W) ≤ pe ∧ (w + W = 0 ∨ pos + (w + W) ≤ L) := by
  omega

theorem FieldRes.weight {e : Endian} {all : List Member} {n : String} {t : Ty} {k : MKind} {f : St} {data : Bytes}
    {pos0 : Nat} {hints : List (String × Nat)} {term : Bool} {v : Val} {sz : Nat} {hints' : List (String × Nat)}
    (hres : FieldRes e all n t k f data pos0 hints term v sz hints') (hso : sizerTyOk all n t k = true)
    (hty : ∀ {d q b w s}, decTy e t d q b = .ok (w, s) → w.weight ≤ s ∧ (w.weight = 0 ∨ q + w.weight ≤ d.length) ∧
      (Spec.fixedTy t = true → w.weight ≤ (stTy t).size)) :
    v.weight ≤ sz ∧ (v.weight = 0 ∨ pos0 + v.weight ≤ data.length) ∧
      (k.isStatic = true → Spec.fixedTy t = true → v.weight ≤ (fieldSt (stTy t) k).size) := by
  cases hres with
  | sizer c sz hk hs hx =>
    subst hk
    obtain ⟨_, _, h4, h5⟩ := decSizer_spec hx
    have := Prim.size_pos (sizerPrim t)
    refine ⟨by show 1 ≤ sz; omega, Or.inr (by show _ + 1 ≤ _; omega), fun _ _ => ?_⟩
    have hp : isPrimTy t = true := by simpa [sizerTyOk, hs] using hso
    cases t with
    | prim p' => exact Prim.size_pos p'
    | _ => cases hp
  | plain v sz hk _ hx => subst hk; exact ⟨(hty hx).1, (hty hx).2.1, fun _ => (hty hx).2.2⟩
  | absent x hk _ => subst hk; exact ⟨Nat.zero_le _, Or.inl rfl, fun _ _ => Nat.zero_le _⟩
  | present flag x w s hk _ _ hy =>
    subst hk
    obtain ⟨a, b, c⟩ := hty hy
    refine ⟨by show w.weight ≤ _; omega, by show w.weight = 0 ∨ _ + w.weight ≤ _; omega, fun _ hfx => ?_⟩
    have := c hfx
    show w.weight ≤ max flagSize (stTy t).align + (stTy t).size
    omega
  | bytes b sz hb hl hle hsz _ =>
    subst hb
    refine ⟨hsz, Or.inr (by show _ + b.length ≤ _; omega), fun hst _ => ?_⟩
    have h1 : (stTy .byte).size = 1 := rfl
    cases k with
    | fixed c => have := hl.fixed c rfl; show b.length ≤ c * _; rw [h1]; omega
    | limited s c => have := hl.lim s c rfl; show b.length ≤ c * _; rw [h1]; omega
    | plain => exact absurd rfl hl.arr.1
    | optional => exact absurd rfl hl.arr.2
    | dyn s sh => cases hst
    | greedy => cases hst
  | arr ws cur sz _ hl hst _ hsz =>
    obtain ⟨a, b, c⟩ := hst.weight (C := Spec.fixedTy t = true) (fun _ _ _ hq => hty hq)
    refine ⟨by show Val.weights ws ≤ _; omega, by show Val.weights ws = 0 ∨ _ + Val.weights ws ≤ _; omega,
      fun hst hfx => ?_⟩
    have := c hfx
    cases k with
    | fixed c' => rw [hl.fixed c' rfl] at this; exact this
    | limited s c' =>
      have h2 : ws.length * (stTy t).size ≤ c' * (stTy t).size := Nat.mul_le_mul_right _ (hl.lim s c' rfl)
      show Val.weights ws ≤ c' * (stTy t).size
      omega
    | plain => exact absurd rfl hl.arr.1
    | optional => exact absurd rfl hl.arr.2
    | dyn s sh => cases hst
    | greedy => cases hst

theorem weight_cases (e : Endian) : DecCases e
    (fun t data pos _ v sz => tightTy t = true →
      v.weight ≤ sz ∧ (v.weight = 0 ∨ pos + v.weight ≤ data.length) ∧ (Spec.fixedTy t = true → v.weight ≤ (stTy t).size))
    (fun all ms _ _ data pos _ vs pe => tightMs all ms = true →
      pos + Val.weights vs ≤ pe ∧ (Val.weights vs = 0 ∨ pos + Val.weights vs ≤ data.length) ∧
      (Spec.fixedMs ms = true → Val.weights vs ≤ sumSizes (stMs ms))) where
  prim p data pos term i sz hx _ := by
    obtain ⟨_, h3, h4⟩ := decScalar_spec hx
    have := Prim.size_pos p
    exact ⟨by show 1 ≤ sz; omega, Or.inr (by show pos + 1 ≤ _; omega), fun _ => by show 1 ≤ p.size; omega⟩
  byte data pos term i sz hx _ := by
    obtain ⟨_, h3, h4⟩ := decScalar_spec hx
    have : Prim.size .u8 = 1 := rfl
    exact ⟨by show 1 ≤ sz; omega, Or.inr (by show pos + 1 ≤ _; omega), fun _ => Nat.le_refl 1⟩
  enum nm es data pos term i sz hx _ _ := by
    obtain ⟨_, h3, h4⟩ := decScalar_spec hx
    have : Prim.size .u32 = 4 := rfl
    exact ⟨by show 1 ≤ sz; omega, Or.inr (by show pos + 1 ≤ _; omega), fun _ => by show 1 ≤ 4; omega⟩
  struct nm ms data pos term vs pos1 _ ih _ ht := by
    obtain ⟨a, b, c⟩ := ih ht
    refine ⟨by show Val.weights vs ≤ _; omega, b, fun hfx => ?_⟩
    have := c hfx
    show Val.weights vs ≤ (structSt (stMs ms)).size
    simp only [structSt]; omega
  union nm arms data pos term d x idx an dd t w s _ hget _ _ ih hlen _ ht := by
    obtain ⟨h1, h2, h3⟩ := tightArms_get arms ht idx an dd t hget
    have := (ih h1).2.2 h2
    have hu : 4 + maxSize (stArms arms) ≤ (unionSt (stArms arms)).size := by simp only [unionSt, flagSize]; omega
    exact ⟨by show 1 + w.weight ≤ _; omega, Or.inr (by show pos + (1 + w.weight) ≤ _; omega),
      fun _ => by show 1 + w.weight ≤ (unionSt (stArms arms)).size; omega⟩
  nil all fs ps data pos hints _ := ⟨Nat.le_refl _, Or.inl rfl, fun _ => Nat.le_refl _⟩
  cons all n t k r f fs p ps data pos hints v sz hints' vs pe hres iht _ ihm ht := by
    have ht' : (tightTy t && sizerTyOk all n t k && tightMs all r) = true := ht
    simp only [Bool.and_eq_true] at ht'
    obtain ⟨b1, b2, b3⟩ := ihm ht'.2
    obtain ⟨a1, a2, a3⟩ := hres.weight ht'.1.2 (fun h => iht h ht'.1.1)
    obtain ⟨h1, h2⟩ := weight_step (le_nextPos p (pos + padTo pos f.align + sz)) a1 a2 b1 b2
    refine ⟨h1, h2, fun hfx => ?_⟩
    obtain ⟨c1, c2, c3⟩ := (Spec.fixedMs_cons n t k r).1 hfx
    exact Nat.add_le_add (a3 c1 c2) (b3 c3)

theorem ty_weight (e : Endian) (t : Ty) (ht : tightTy t = true) (data : Bytes) (pos : Nat) (term : Bool) (v : Val)
    (sz : Nat) (h : decTy e t data pos term = .ok (v, sz)) :
    v.weight ≤ sz ∧ (v.weight = 0 ∨ pos + v.weight ≤ data.length) ∧ (Spec.fixedTy t = true → v.weight ≤ (stTy t).size) :=
  (decTy_post (weight_cases e)).1 t data pos term v sz h ht

theorem ms_weight_p28 (e : Endian) : (ms : List Member) → (all : List Member) → tightMs all ms = true →
      ∀ (fs : List St) (ps : List (Option Nat)) (data : Bytes) (pos : Nat) (hints : List (String × Nat))
        (vs : List Val) (posEnd : Nat),
        decMs e all ms fs ps data pos hints = .ok (vs, posEnd) →
          pos + Val.weights vs ≤ posEnd ∧ (Val.weights vs = 0 ∨ pos + Val.weights vs ≤ data.length) ∧
          (Spec.fixedMs ms = true → Val.weights vs ≤ sumSizes (stMs ms)) :=
  fun ms all ht fs ps data pos hints vs pe h => (decTy_post (weight_cases e)).2 ms all fs ps data pos hints vs pe h ht

theorem arms_weight_p28 (e : Endian) : (arms : List Arm) → tightArms arms = true →
      ∀ (all : List Arm) (disc : Int) (data : Bytes) (q idx idx' : Nat) (v : Val),
        decArms e all arms disc data q idx = .ok (idx', v) → v.weight ≤ maxSize (stArms arms) := by
  intro arms ht all disc data q idx idx' v h
  obtain ⟨j, an, d, t, s, _, hget, _, hx⟩ := decArms_ok h
  obtain ⟨h1, h2, h3⟩ := tightArms_get arms ht j an d t hget
  have := (ty_weight e t h1 _ _ _ _ _ hx).2.2 h2
  omega

theorem decode_weight (t : Ty) (data : Bytes) (e : Endian) (v : Val) (n : Nat) (ht : tightTy t = true)
    (h : decode t data e = .ok (v, n)) : v.weight ≤ n ∧ v.weight ≤ data.length := by
  obtain ⟨a, b, _⟩ := ty_weight e t ht data 0 true v n h
  exact ⟨a, by omega⟩

mutual
  theorem tight_of_wf : (t : Ty) → WF.wfTy t = true → tightTy t = true
    | .prim _, _ => rfl
    | .byte, _ => rfl
    | .enum _ _, _ => rfl
    | .struct _ ms, h => by
      simp only [WF.wfTy, Bool.and_eq_true] at h
      simp only [tightTy]
      exact tightMs_of_wf_p28 ms h.1 h.2 ms (fun _ hm => hm) h.2
    | .union _ arms, h => by
      simp only [WF.wfTy, Bool.and_eq_true] at h
      simp only [tightTy]
      exact tightArms_of_wf_p28 arms h.2
  theorem tightMs_of_wf_p28 (all : List Member) (hu : WF.uniq (all.map (·.name)) = true)
      (hall : WF.wfMs all all = true) : (ms : List Member) → (∀ m ∈ ms, m ∈ all) → WF.wfMs all ms = true →
      tightMs all ms = true
    | [], _, _ => rfl
    | .mk n t k :: r, hsub, h => by
      obtain ⟨h1, _, _, _, h5⟩ := (WF.wfMs_cons all n t k r).1 h
      simp only [tightMs, Bool.and_eq_true]
      refine ⟨⟨tight_of_wf t h1, ?_⟩,
        tightMs_of_wf_p28 all hu hall r (fun m hm => hsub m (List.mem_cons_of_mem _ hm)) h5⟩
      cases k <;> try rfl
      simp only [sizerTyOk, Bool.or_eq_true, Bool.not_eq_true']
      cases hs : isSizer n all with
      | false => exact Or.inl rfl
      | true =>
        obtain ⟨p, rfl, _⟩ := WF.sizer_prim all hu hall n t .plain (hsub _ (List.mem_cons_self ..)) hs
        exact Or.inr rfl
  theorem tightArms_of_wf_p28 : (arms : List Arm) → WF.wfArms arms = true → tightArms arms = true
    | [], _ => rfl
    | .mk n d t :: r, h => by
      obtain ⟨h1, h2, h3⟩ := (WF.wfArms_cons n d t r).1 h
      simp only [tightArms, Bool.and_eq_true]
      exact ⟨⟨tight_of_wf t h1, h2⟩, tightArms_of_wf_p28 r h3⟩
end

theorem beyond_cases (e : Endian) : DecCases e
    (fun t data pos _ _ sz => data.length < pos → sz = 0 ∧ (stTy t).align = 1 ∧ (stTy t).dyn = false)
    (fun _ ms fs ps data pos _ _ pe => fs = stMs ms → ps = partials (stMs ms) → data.length < pos →
      pe = pos ∧ maxAlign (stMs ms) = 1 ∧ (stMs ms).any (·.dyn) = false) where
  prim p data pos term i sz hx hb := by have := (decScalar_spec hx).2.2; omega
  byte data pos term i sz hx hb := by have := (decScalar_spec hx).2.2; omega
  enum nm es data pos term i sz hx _ hb := by have := (decScalar_spec hx).2.2; omega
  union nm arms data pos term d x idx an dd t w s hx _ _ _ _ _ _ hb := by
    have := (decScalar_spec hx).2.2; omega
  struct nm ms data pos term vs pos1 _ ih _ hb := by
    obtain ⟨rfl, b, c⟩ := ih rfl rfl hb
    have hal : (structSt (stMs ms)).align = 1 := b
    rw [hal, padTo_one]
    exact ⟨by omega, hal, c⟩
  nil all fs ps data pos hints _ _ _ := ⟨rfl, rfl, rfl⟩
  cons all n t k r f fs p ps data pos hints v sz hints' vs pe hres iht hy ihm hfs hps hb := by
    obtain ⟨rfl, rfl⟩ := List.cons.inj hfs
    rw [show stMs (.mk n t k :: r) = fieldSt (stTy t) k :: stMs r from rfl, partials_cons] at hps
    obtain ⟨rfl, rfl⟩ := List.cons.inj hps
    have hb0 : data.length < pos + padTo pos (fieldSt (stTy t) k).align := by omega
    -- only a plain member whose type decodes beyond the end gets through
    obtain ⟨rfl, z1, z2, z3⟩ : k = .plain ∧ sz = 0 ∧ (stTy t).align = 1 ∧ (stTy t).dyn = false := by
      cases hres with
      | sizer c sz _ _ hx => have := (decSizer_spec hx).2.2.2; omega
      | plain v sz hk _ hx => exact ⟨hk, iht hx (by subst hk; exact hb0)⟩
      | absent x _ hx => have := (decScalar_spec hx).2.2; omega
      | present flag x v sz _ hx _ _ => have := (decScalar_spec hx).2.2; omega
      | bytes b sz _ _ hle _ _ => omega
      | arr ws cur sz _ _ _ hg _ => omega
    subst z1
    have hnp : nextPos (if (fieldSt (stTy t) .plain).dyn = true then some (partialAl (stMs r)) else none)
        (pos + padTo pos (fieldSt (stTy t) .plain).align + 0) = pos := by
      simp [fieldSt, z2, z3, padTo_one, nextPos]
    rw [hnp] at ihm
    obtain ⟨a, b, c⟩ := ihm rfl rfl hb
    refine ⟨a, ?_, ?_⟩
    · show max (stTy t).align (maxAlign (stMs r)) = 1; rw [z2, b]; rfl
    · show ((stTy t).dyn || (stMs r).any (·.dyn)) = false; rw [z3, c]; rfl

theorem ty_beyond (e : Endian) (t : Ty) (data : Bytes) (pos : Nat) (term : Bool) (v : Val) (sz : Nat)
    (h : decTy e t data pos term = .ok (v, sz)) (hb : data.length < pos) :
    sz = 0 ∧ (stTy t).align = 1 ∧ (stTy t).dyn = false :=
  (decTy_post (beyond_cases e)).1 t data pos term v sz h hb

theorem ms_beyond_p28 (e : Endian) : (ms : List Member) → ∀ (all : List Member) (data : Bytes) (cp : Nat)
      (hints : List (String × Nat)) (vs : List Val) (posEnd : Nat),
      decMs e all ms (stMs ms) (partials (stMs ms)) data cp hints = .ok (vs, posEnd) → data.length < cp →
        posEnd = cp ∧ maxAlign (stMs ms) = 1 ∧ (stMs ms).any (·.dyn) = false :=
  fun ms all data cp hints vs pe h hb => (decTy_post (beyond_cases e)).2 ms all _ _ data cp hints vs pe h rfl rfl hb

/-- each alignment bounds the padding before its field -/
def sumAlign : List St → Nat
  | [] => 0
  | f :: r => f.align + sumAlign r

/-- likewise after dynamic fields -/
def sumPart : List (Option Nat) → Nat
  | [] => 0
  | p :: r => p.getD 0 + sumPart r

/-- what an absent optional skips -/
def optSize (t : Ty) : MKind → Nat
  | .optional => (stTy t).size
  | _ => 0

mutual
  /-- by how much the reported size can exceed the input: per struct the paddings (each at most the alignment it pads
      to; twice, since an optional's flag slot is as wide), the static size of the optional members (an absent
      optional is skipped unchecked), and the same of the members' types -/
  def slackTy : Ty → Nat
    | .struct _ ms =>
      2 * sumAlign (stMs ms) + sumPart (partials (stMs ms)) + slackMs ms + (structSt (stMs ms)).align
    | _ => 0
  def slackMs : List Member → Nat
    | [] => 0
    | .mk _ t k :: r => optSize t k + slackTy t + slackMs r
end

theorem Steps.end_le {f : Bytes → Nat → M (Val × Nat)} {data : Bytes} {pos K : Nat}
    (hf : ∀ q v sz, f data q = .ok (v, sz) → sz = 0 ∨ q + sz ≤ data.length + K)
    {c c' : Nat} {vs : List Val} (h : Steps f data pos c vs c') : c' = c ∨ pos + c' ≤ data.length + K := by
  induction h with
  | nil c => exact Or.inl rfl
  | cons hx _ ih => have := hf _ _ _ hx; omega

theorem nextPos_le (p : Option Nat) (x : Nat) : nextPos p x ≤ x + p.getD 0 := by
  cases p with
  | none => exact Nat.le_refl _
  | some al => exact Nat.add_le_add_left (padTo_le x al) x

/-- one turn of the loop, for the bound on the end: the padding is at most `a`, the member ends within `a + o + s` of
    `max` (its start, `L`), the next turn starts at most `g` further on and ends within its own bound -/
theorem end_step {pos pad a sz L o s P g pe A B M : Nat} (hc : pad ≤ a)
    (key : pos + pad + sz ≤ max (pos + pad) L + (a + o + s)) (hp : P ≤ pos + pad + sz + g)
    (ih : pe ≤ max P L + 2 * A + B + M) : pe ≤ max pos L + 2 * (a + A) + (g + B) + (o + s + M) := by
  omega

theorem FieldRes.end_le {e : Endian} {all : List Member} {n : String} {t : Ty} {k : MKind} {f : St} {data : Bytes}
    {pos0 : Nat} {hints : List (String × Nat)} {term : Bool} {v : Val} {sz : Nat} {hints' : List (String × Nat)}
    (h : FieldRes e all n t k f data pos0 hints term v sz hints')
    (iht : ∀ {q b w s}, decTy e t data q b = .ok (w, s) → q + s ≤ max q data.length + slackTy t) :
    pos0 + sz ≤ max pos0 data.length + (f.align + optSize t k + slackTy t) := by
  cases h with
  | sizer c sz _ _ hx => have := (decSizer_spec hx).2.2; omega
  | plain v sz _ _ hx => have := iht hx; omega
  | absent x hk hx => subst hk; show _ ≤ _ + (_ + (stTy t).size + _); omega
  | present flag x v sz hk hx _ hy =>
    subst hk
    have := iht hy
    show _ ≤ _ + (_ + (stTy t).size + _); omega
  | bytes b sz _ _ hle _ _ => omega
  | arr ws cur sz _ _ hst hg hsz =>
    have := hst.end_le (K := slackTy t) (fun q w s hq => by
      by_cases hql : q ≤ data.length
      · have := iht hq; exact Or.inr (by omega)
      · exact Or.inl (ty_beyond e t data q false w s hq (by omega)).1)
    omega

theorem end_cases (e : Endian) : DecCases e
    (fun t data pos _ _ sz => pos + sz ≤ max pos data.length + slackTy t)
    (fun _ ms fs ps data pos _ _ pe => pe ≤ max pos data.length + 2 * sumAlign fs + sumPart ps + slackMs ms) where
  prim p data pos term i sz hx := by have := decScalar_spec hx; omega
  byte data pos term i sz hx := by have := decScalar_spec hx; omega
  enum nm es data pos term i sz hx _ := by have := decScalar_spec hx; omega
  union nm arms data pos term d x idx an dd t w s _ _ _ _ _ hlen _ := by omega
  struct nm ms data pos term vs pos1 hx ih _ := by
    have hm := decMs_mono e ms ms _ _ data pos [] vs pos1 hx
    have := padTo_le pos1 (structSt (stMs ms)).align
    show pos + (pos1 + padTo pos1 (structSt (stMs ms)).align - pos) ≤ max pos data.length +
      (2 * sumAlign (stMs ms) + sumPart (partials (stMs ms)) + slackMs ms + (structSt (stMs ms)).align)
    omega
  nil all fs ps data pos hints := by show pos ≤ _; omega
  cons all n t k r f fs p ps data pos hints v sz hints' vs pe hres iht _ ihm := by
    exact end_step (padTo_le pos f.align) (hres.end_le (fun h => iht h)) (nextPos_le p _) ihm

theorem ms_end_p28 (e : Endian) : (ms : List Member) → ∀ (all : List Member) (fs : List St)
      (ps : List (Option Nat)) (data : Bytes) (cp : Nat) (hints : List (String × Nat)) (vs : List Val) (posEnd : Nat),
      decMs e all ms fs ps data cp hints = .ok (vs, posEnd) →
        posEnd ≤ max cp data.length + 2 * sumAlign fs + sumPart ps + slackMs ms :=
  fun ms all fs ps data cp hints vs pe h => (decTy_post (end_cases e)).2 ms all fs ps data cp hints vs pe h

theorem decode_end_p28 (t : Ty) (data : Bytes) (e : Endian) (v : Val) (n : Nat)
    (h : decode t data e = .ok (v, n)) : n ≤ data.length + slackTy t := by
  have := (decTy_post (end_cases e)).1 t data 0 true v n h
  omega

end Py
end Prophy
#print axioms Prophy.Py.decode_end_p28
