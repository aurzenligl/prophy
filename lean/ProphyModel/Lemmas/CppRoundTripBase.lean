/- what the proof that the C++ decoder reads the canonical encoding back (C03) needs: hypotheses on schema and value;
   leaves and member statements on canonical bytes; a limited type at the end of the buffer; the counters -/
import ProphyModel.Lemmas.EncLen
import ProphyModel.Lemmas.PyUnpack
import ProphyModel.Lemmas.NoShift
import ProphyModel.Lemmas.Counters
import ProphyModel.Lemmas.PLayoutSpec
import ProphyModel.Lemmas.CppDecodeStep
import ProphyModel.Lemmas.TypingLemmas
import ProphyModel.Lemmas.Lay
namespace Prophy
open WF Accept

namespace Cpp

/- every `resize` the decoder will request is within `resizeLimit` elements: the length of every
   array that has a counter, and of every greedy array of fixed-size elements -/
mutual
  def resizeOkTy : Ty → Val → Bool
    | t, .present x => resizeOkTy t x
    | t, .arr xs => resizeOkElems t xs
    | .struct _ ms, .struct vs => resizeOkFields ms vs
    | .union _ arms, .union idx v =>
      (match arms[idx]? with
       | some (.mk _ _ t) => resizeOkTy t v
       | none => true)
    | _, _ => true
  def resizeOkFields : List Member → List Val → Bool
    | .mk _ t k :: r, v :: vs =>
      (match k with
       | .dyn _ _ => decide (v.len ≤ resizeLimit)
       | .limited _ _ => decide (v.len ≤ resizeLimit)
       | .greedy => decide (codecSize t < 0) || decide (v.len ≤ resizeLimit)
       | _ => true) && resizeOkTy t v && resizeOkFields r vs
    | _, _ => true
  def resizeOkElems : Ty → List Val → Bool
    | _, [] => true
    | t, x :: xs => resizeOkTy t x && resizeOkElems t xs
end

end Cpp

theorem Cpp.optMisalignedMs_cons (n : String) (t : Ty) (k : MKind) (r : List Member) :
    Cpp.optMisalignedMs (.mk n t k :: r) = false ↔
      (k = .optional → max 4 (Cpp.cppAlign t) = max 4 (PL.nodeTy t).align) ∧
      Cpp.optMisaligned t = false ∧ Cpp.optMisalignedMs r = false := by
  cases k <;> simp [Cpp.optMisalignedMs, and_assoc]

theorem Cpp.resizeOkFields_cons (n : String) (t : Ty) (k : MKind) (r : List Member) (v : Val) (vs : List Val) :
    Cpp.resizeOkFields (.mk n t k :: r) (v :: vs) = true ↔
      ((∀ s, k.sizer? = some s → v.len ≤ Cpp.resizeLimit) ∧
       (k = .greedy → Cpp.codecSize t ≥ 0 → v.len ≤ Cpp.resizeLimit)) ∧
      Cpp.resizeOkTy t v = true ∧ Cpp.resizeOkFields r vs = true := by
  have h : Cpp.resizeOkFields (.mk n t k :: r) (v :: vs) =
      ((match k with
        | .dyn _ _ => decide (v.len ≤ Cpp.resizeLimit)
        | .limited _ _ => decide (v.len ≤ Cpp.resizeLimit)
        | .greedy => decide (Cpp.codecSize t < 0) || decide (v.len ≤ Cpp.resizeLimit)
        | _ => true) && Cpp.resizeOkTy t v && Cpp.resizeOkFields r vs) := rfl
  rw [h, Bool.and_eq_true, Bool.and_eq_true, and_assoc]
  refine and_congr_left' ?_
  cases k <;> simp [MKind.sizer?]
  omega

theorem Cpp.boundLens_resize (s : String) : (ms : List Member) → (vs : List Val) →
    Cpp.resizeOkFields ms vs = true → ∀ x ∈ boundLens s ms vs, x ≤ Cpp.resizeLimit
  | [], _, _, x, hx => by simp [boundLens] at hx
  | _ :: _, [], _, x, hx => by simp [boundLens] at hx
  | .mk n t k :: r, v :: vs, hg, x, hx => by
    obtain ⟨⟨h1, _⟩, _, h3⟩ := (Cpp.resizeOkFields_cons n t k r v vs).1 hg
    simp only [boundLens] at hx
    by_cases hk : (Member.mk n t k).kind.sizer? = some s
    · rw [if_pos hk] at hx
      rcases List.mem_cons.1 hx with rfl | hx'
      · exact h1 s hk
      · exact Cpp.boundLens_resize s r vs h3 x hx'
    · rw [if_neg hk] at hx
      exact Cpp.boundLens_resize s r vs h3 x hx

theorem Cpp.decScalar_at (e : Endian) (k n : Nat) (signed : Bool) (data pre post : Bytes) (pos : Nat)
    (rs : List Nat) (hd : data = pre ++ (scalarBytes e k n ++ post)) (hp : pre.length = pos) (hn : n < 256 ^ k) :
    Cpp.decScalar e k signed data pos rs =
      .ok (if signed = true then toSigned k n else (n : Int)) (pos + k) rs := by
  have hlen : (scalarBytes e k n).length = k := scalarBytes_length e k n
  have hsize : data.length = pos + k + post.length := by
    rw [hd, ← hp]; simp [hlen]; omega
  have hs : (data.drop pos).take k = scalarBytes e k n := by
    have := Py.slice_at data pre (scalarBytes e k n) post pos hd hp
    rw [hlen] at this
    simpa [Py.slice] using this
  rw [Cpp.decScalar_eq _ _ _ _ _ _ (by omega), if_pos (by omega)]
  simp only [Cpp.scalarAt, hs, scalarVal_scalarBytes, Nat.mod_eq_of_lt hn]

theorem Cpp.decScalar_chunk (e : Endian) (k : Nat) (i : Int) (signed : Bool) (data pre post : Bytes) (pos : Nat)
    (rs : List Nat) (hd : data = pre ++ (Spec.render e [.scalar k (toUnsigned k i)] ++ post)) (hp : pre.length = pos)
    (hv : (if signed = true then toSigned k (toUnsigned k i) else ((toUnsigned k i : Nat) : Int)) = i) :
    Cpp.decScalar e k signed data pos rs = .ok i (pos + k) rs := by
  rw [render_scalar] at hd
  rw [Cpp.decScalar_at e k _ signed data pre post pos rs hd hp (toUnsigned_lt _ _), hv]

theorem Cpp.decArms_pick (e : Endian) (data : Bytes) (p : Nat) (rs : List Nat) (d : Nat) (an : String) (t' : Ty) :
    (arms : List Arm) → ∀ (idx0 idx : Nat), arms[idx]? = some (.mk an d t') →
    (∀ (j : Nat) (b : Arm), j < idx → arms[j]? = some b → b.disc ≠ d) →
    Cpp.decArms e arms (d : Int) data p rs idx0 =
      (match Cpp.decTy e t' data p rs with
        | (.ok v pos1 rs1, _) => .ok (idx0 + idx, v) pos1 rs1
        | (.fail rs1, _) => .fail rs1
        | (.fault, _) => .fault
        | (.throw rs1, _) => .throw rs1)
  | [], _, idx, h, _ => by simp at h
  | .mk n0 d0 t0 :: r, idx0, idx, h, hne => by
    cases idx with
    | zero =>
      simp at h
      obtain ⟨_, rfl, rfl⟩ := h
      rw [Cpp.decArms, if_pos rfl]
      rfl
    | succ i =>
      simp at h
      have h0 : d0 ≠ d := hne 0 (.mk n0 d0 t0) (by omega) (by simp)
      have h0' : ¬ ((d0 : Int) = (d : Int)) := by omega
      rw [Cpp.decArms, if_neg h0']
      rw [Cpp.decArms_pick e data p rs d an t' r (idx0 + 1) i h
        (fun j b hj hb => hne (j + 1) b (by omega) (by simpa using hb))]
      have : idx0 + 1 + i = idx0 + (i + 1) := by omega
      rw [this]

theorem Cpp.codecSize_kind0 (t : Ty) (ht : front t = true) (hk : (PL.nodeTy t).kind = 0) :
    Cpp.codecSize t = (Spec.sizeTy t : Int) := by
  rw [Cpp.codecSize_of_kind0 t hk, PL.nodeTy_size t ht]

theorem Cpp.decTy_byte_at (e : Endian) (x : UInt8) (data pre post : Bytes) (pos : Nat) (rs : List Nat)
    (hd : data = pre ++ (x :: post)) (hp : pre.length = pos) :
    Cpp.decTy e .byte data pos rs = (.ok (.int x.toNat) (pos + 1) rs, pos) := by
  have hd' : data = pre ++ (scalarBytes e 1 x.toNat ++ post) := by rw [scalarBytes_one]; exact hd
  have hlt : x.toNat < 256 ^ 1 := by have := UInt8.toNat_lt x; omega
  rw [Cpp.decTy, Cpp.decScalar_at e 1 x.toNat false data pre post pos rs hd' hp hlt]
  rfl

theorem Cpp.decN_bytes (e : Endian) (data : Bytes) : (b : Bytes) → ∀ (pre post : Bytes) (pos : Nat) (rs : List Nat),
    data = pre ++ (b ++ post) → pre.length = pos →
    ∃ p, Cpp.decN (fun q r => Cpp.decTy e .byte data q r) b.length pos rs =
      (.ok (b.map fun x => Val.int x.toNat) (pos + b.length) rs, p)
  | [], pre, post, pos, rs, hd, hp => ⟨pos, by simp [Cpp.decN]⟩
  | x :: b, pre, post, pos, rs, hd, hp => by
    have h1 := Cpp.decTy_byte_at e x data pre (b ++ post) pos rs (by simpa using hd) hp
    obtain ⟨p, h2⟩ := Cpp.decN_bytes e data b (pre ++ [x]) post (pos + 1) rs (by simp [hd]) (by simp [hp])
    refine ⟨p, ?_⟩
    simp only [List.length_cons, Cpp.decN, h1, h2, List.map_cons]
    congr 2
    omega

theorem Cpp.toBytesVal_map (b : Bytes) : Cpp.toBytesVal (b.map fun x => Val.int x.toNat) = .bytes b := by
  unfold Cpp.toBytesVal
  simp only [List.map_map]
  congr 1
  induction b with
  | nil => rfl
  | cons x r ih => simp [ih]

theorem Cpp.memberStep_sizer_ok (e : Endian) (all : List Member) (n : String) (t : Ty) (msize : Nat) (data : Bytes)
    (pos : Nat) (rs : List Nat) (lens : List (String × Nat)) (elem : Nat → List Nat → Cpp.DRes Val × Nat)
    (hs : isSizer n all = true) (c pos1 : Nat)
    (hdec : Cpp.decScalar e (Cpp.sizerPrimOf n all).size (Cpp.sizerPrimOf n all).isSigned data pos rs = .ok (c : Int) pos1 rs)
    (hlim : ∀ m, all.find? (fun m => decide (m.kind.sizer? = some n)) = some m → ∀ s l, m.kind = .limited s l → c ≤ l)
    (hrem : c * Cpp.resizeElem n all ≤ Cpp.remaining data.length pos1) (hrl : c ≤ Cpp.resizeLimit) :
    Cpp.memberStep e all n t .plain msize data pos rs lens elem =
      (.ok (Val.sizer, Py.boundHints all n c ++ lens) pos1 (c :: rs), pos1) := by
  have hc : Cpp.toSize (c : Int) = c := by
    rw [Cpp.toSize_of_nonneg (by omega), Int.toNat_natCast]
  have hdiv : c ≤ Cpp.remaining data.length pos1 / Cpp.resizeElem n all :=
    (Nat.le_div_iff_mul_le (Cpp.one_le_resizeElem n all)).2 hrem
  rw [Cpp.memberStep_sizer _ _ _ _ _ _ _ _ _ _ hs, hdec]
  simp only [Cpp.andThen_ok]
  rw [hc, (Cpp.overLimit_eq_false_iff n all c).2 hlim, Cpp.resizeStep_of_ok _ _ hdiv hrl]

/- the byte check of `do_decode_resize` is against the element size: `struct { u8 n; u64 a<>(n); }` on the bytes
   `01 00 00 00`: the counter 1 is at most the 3 bytes that follow it, but `1 > 3 / 8`, so it returns false -/
example :
    let all : List Member := [.mk "n" (.prim .u8) .plain, .mk "a" (.prim .u64) (.dyn "n" 0)]
    let data : Bytes := [1, 0, 0, 0]
    isSizer "n" all = true ∧
    Cpp.decScalar .little (Cpp.sizerPrimOf "n" all).size (Cpp.sizerPrimOf "n" all).isSigned data 0 [] = .ok (1 : Int) 1 [] ∧
    1 ≤ Cpp.remaining data.length 1 ∧ Cpp.resizeElem "n" all = 8 ∧
    Cpp.memberStep .little all "n" (.prim .u8) .plain 1 data 0 [] [] (fun q r => Cpp.decTy .little (.prim .u8) data q r) =
      (.fail [], 1) := by
  refine ⟨by decide, rfl, by decide, by decide, rfl⟩

theorem Cpp.memberStep_absent_ok (e : Endian) (all : List Member) (n : String) (t : Ty) (msize : Nat)
    (data : Bytes) (pos : Nat) (rs : List Nat) (lens : List (String × Nat)) (elem : Nat → List Nat → Cpp.DRes Val × Nat)
    (apad sz : Nat)
    (hdec : Cpp.decScalar e 4 false data pos rs = .ok (0 : Int) (pos + 4) rs)
    (hap : (if Cpp.cppAlign t > 4 then Cpp.cppAlign t - 4 else 0) = apad)
    (hcs : Cpp.codecSize t = (sz : Int))
    (hfit : pos + 4 + apad + sz ≤ data.length) :
    Cpp.memberStep e all n t .optional msize data pos rs lens elem =
      (.ok (Val.absent, lens) (pos + 4 + apad + sz) rs, pos + 4 + apad + sz) := by
  rw [Cpp.memberStep_optional, hdec, hap]
  simp only [Cpp.andThen_ok]
  rw [Cpp.advance_eq _ _ _ _ (by omega), if_pos (by omega)]
  simp only [Cpp.andThen_ok]
  rw [if_neg (by simp), hcs, if_pos (Int.natCast_nonneg _), Int.toNat_natCast,
    Cpp.advance_eq _ _ _ _ (by omega), if_pos hfit]
  rfl

theorem Cpp.memberStep_present (e : Endian) (all : List Member) (n : String) (t : Ty) (msize : Nat)
    (data : Bytes) (pos : Nat) (rs : List Nat) (lens : List (String × Nat)) (elem : Nat → List Nat → Cpp.DRes Val × Nat)
    (apad : Nat)
    (hdec : Cpp.decScalar e 4 false data pos rs = .ok (1 : Int) (pos + 4) rs)
    (hap : (if Cpp.cppAlign t > 4 then Cpp.cppAlign t - 4 else 0) = apad)
    (hfit : pos + 4 + apad ≤ data.length) :
    Cpp.memberStep e all n t .optional msize data pos rs lens elem =
      Cpp.retag (elem (pos + 4 + apad) rs) (fun v => (Val.present v, lens)) := by
  rw [Cpp.memberStep_optional, hdec, hap]
  simp only [Cpp.andThen_ok]
  rw [Cpp.advance_eq _ _ _ _ (by omega), if_pos (by omega)]
  simp only [Cpp.andThen_ok]
  rw [if_pos (by simp)]

theorem Cpp.discPad_add (nm : String) (arms : List Arm) : 4 + Cpp.discPad nm arms = max 4 (Spec.alignArms arms) := by
  rw [Cpp.discPad_eq, PL.nodeTy_align']
  show 4 + (max 4 (max 4 (Spec.alignArms arms)) - 4) = _
  omega

theorem Cpp.decTy_union_ok (e : Endian) (nm : String) (arms : List Arm) (data : Bytes) (pos : Nat) (rs : List Nat)
    (d idx : Nat) (v : Val) (rs3 : List Nat) (pa : Nat) (hf : front (.union nm arms) = true)
    (hdec : Cpp.decScalar e 4 false data pos rs = .ok (d : Int) (pos + 4) rs)
    (harms : Cpp.decArms e arms (d : Int) data (pos + max 4 (Spec.alignArms arms)) rs 0 = .ok (idx, v) pa rs3)
    (hfit : pos + Spec.sizeTy (.union nm arms) ≤ data.length) :
    Cpp.decTy e (.union nm arms) data pos rs =
      (.ok (.union idx v) (pos + Spec.sizeTy (.union nm arms)) rs3, pos + Spec.sizeTy (.union nm arms)) := by
  have hM := Cpp.discPad_add nm arms
  have hle := Spec.flag_le_sizeTy_union nm arms
  rw [Cpp.decTy_union, hdec, PL.nodeTy_size _ hf]
  simp only [Cpp.andThen_ok]
  rw [Cpp.advance_eq _ _ _ _ (by omega), if_pos (by omega), Nat.add_assoc, hM]
  simp only [Cpp.andThen_ok]
  rw [harms]
  simp only [Cpp.andThen_ok]
  rw [Cpp.advance_eq _ _ _ _ (by omega), if_pos (by unfold PL.discSize; omega)]
  simp only [Cpp.andThen_ok]
  have hpe : pos + max 4 (Spec.alignArms arms) +
      (Spec.sizeTy (.union nm arms) - PL.discSize - Cpp.discPad nm arms) = pos + Spec.sizeTy (.union nm arms) := by
    unfold PL.discSize; omega
  rw [hpe]

/-! ### a limited type does not decode from an empty rest of the buffer (the greedy loop stops there) -/
theorem Cpp.decScalar_end (e : Endian) (k : Nat) (signed : Bool) (data : Bytes) (rs : List Nat) (hk : 0 < k) :
    Cpp.decScalar e k signed data data.length rs = .fail rs := by
  unfold Cpp.decScalar
  rw [Cpp.remaining_of_le (Nat.le_refl _), if_pos (by omega)]

theorem PL.structMembers_cons (n : String) (t : Ty) (k : MKind) (r : List Member)
    (hf : frontMs (.mk n t k :: r) (.mk n t k :: r) [] = true) :
    ∃ a pad ls, PL.structMembers (.mk n t k :: r) = ((PL.memOf (PL.nodeTy t) k).size, a, pad) :: ls := by
  rw [Cpp.structMembers_eq_lay _ (Cpp.okMs_of_front _ _ _ hf)]
  exact ⟨_, _, _, rfl⟩

theorem Cpp.decTy_fail_end (e : Endian) : (t : Ty) → front t = true → pyRt t = true → Spec.unlTy t = false →
    ∀ (data : Bytes) (rs : List Nat), ∃ rs' p, Cpp.decTy e t data data.length rs = (.fail rs', p)
  | .prim p, _, _, _, data, rs =>
    ⟨rs, data.length, by rw [Cpp.decTy_prim, Cpp.decScalar_end e _ _ data rs (Prim.size_pos p)]; rfl⟩
  | .byte, _, _, _, data, rs =>
    ⟨rs, data.length, by rw [Cpp.decTy_byte, Cpp.decScalar_end e _ _ data rs (by omega)]; rfl⟩
  | .enum _ _, _, _, _, data, rs =>
    ⟨rs, data.length, by rw [Cpp.decTy_enum, Cpp.decScalar_end e _ _ data rs (by omega)]; rfl⟩
  | .union nm arms, _, _, _, data, rs =>
    ⟨rs, data.length, by rw [Cpp.decTy_union, Cpp.decScalar_end e 4 false data rs (by omega)]; rfl⟩
  | .struct nm [], hf, _, _, _, _ => by simp [front] at hf
  | .struct nm (.mk n t k :: r), hf, hp, hu, data, rs => by
    obtain ⟨_, _, _, hfm, hpm⟩ := Accept.struct_facts nm _ hf hp
    obtain ⟨hft, _, hs, _, _, _, _, _, _⟩ := (Accept.frontMs_cons_iff _ n t k r []).1 hfm
    have hpt := (Accept.pyRtMs_head_tail hpm).1
    obtain ⟨a, pad, ls, hls⟩ := PL.structMembers_cons n t k r hfm
    have hu' : Spec.unlMs (.mk n t k :: r) = false := hu
    rw [Spec.unlMs_cons, Bool.or_eq_false_iff] at hu'
    have hstep : ∃ rs' p, Cpp.memberStep e (.mk n t k :: r) n t k (PL.memOf (PL.nodeTy t) k).size data data.length rs []
        (fun q r' => Cpp.decTy e t data q r') = (.fail rs', p) := by
      rcases Accept.posKind_head _ n t k r hfm hpm (by rintro rfl; cases hu'.1) with rfl | rfl | ⟨c, hc0, rfl⟩
      · -- plain
        cases hsz : isSizer n (.mk n t .plain :: r) with
        | true =>
          exact ⟨rs, data.length, by
            rw [Cpp.memberStep_sizer _ _ _ _ _ _ _ _ _ _ hsz, Cpp.decScalar_end e _ _ data rs (Prim.size_pos _)]; rfl⟩
        | false =>
          obtain ⟨rs', p, h⟩ := Cpp.decTy_fail_end e t hft hpt hu'.1 data rs
          exact ⟨rs', p, by rw [Cpp.memberStep_plain _ _ _ _ _ _ _ _ _ _ hsz, h]; rfl⟩
      · -- optional
        exact ⟨rs, data.length, by
          rw [Cpp.memberStep_optional, Cpp.decScalar_end e 4 false data rs (by omega)]; rfl⟩
      · -- fixed array
        have hut : Spec.unlTy t = false :=
          PL.unl_of_kind t hft (by have hk0 : (PL.nodeTy t).kind = 0 := hs rfl; rw [hk0]; decide)
        obtain ⟨rs', p, h⟩ := Cpp.decTy_fail_end e t hft hpt hut data rs
        obtain ⟨c', rfl⟩ : ∃ c', c = c' + 1 := ⟨c - 1, by omega⟩
        rw [Cpp.memberStep_fixed, Cpp.decArray_eq]
        split
        · exact ⟨rs, data.length, rfl⟩
        · exact ⟨rs', p, by rw [Cpp.decN_succ, h]; rfl⟩
    obtain ⟨rs', p, h⟩ := hstep
    exact ⟨rs', p, by rw [Cpp.decTy_struct, hls, Cpp.decMs_cons, h]; rfl⟩

/-- the limit checked by `do_decode_resize` is that of the first array bound to the counter, whose
    length is the counter -/
theorem Cpp.counter_le_lim (all : List Member) (n : String) : (ms : List Member) → (vs : List Val) →
    hasMs all ms vs = true → ∀ m, ms.find? (fun m => decide (m.kind.sizer? = some n)) = some m →
    ∀ s l, m.kind = .limited s l → (boundLens n ms vs).headD 0 ≤ l
  | [], _, _, m, hm, _, _, _ => by simp at hm
  | _ :: _, [], hh, _, _, _, _, _ => by simp [hasMs] at hh
  | .mk n0 t0 k0 :: r, v :: vs, hh, m, hm, s, l, hk => by
    obtain ⟨_, hf, hhr⟩ := (hasMs_cons all n0 t0 k0 r v vs).1 hh
    simp only [List.find?] at hm
    simp only [boundLens]
    by_cases hs : (Member.mk n0 t0 k0).kind.sizer? = some n
    · simp only [hs, decide_true] at hm
      injection hm with hm
      subst hm
      rw [if_pos hs]
      have hk' : k0 = .limited s l := hk
      subst hk'
      exact hasField_limited_len all s l t0 v hf
    · simp only [hs, decide_false] at hm
      rw [if_neg hs]
      exact Cpp.counter_le_lim all n r vs hhr m hm s l hk

/-- what the C++ decode of a struct needs to know about its counters -/
structure SizerDecC (all : List Member) (allv : List Val) : Prop where
  dec : ∀ n t k, Member.mk n t k ∈ all → isSizer n all = true →
    ∃ p, t = .prim p ∧ Cpp.sizerPrimOf n all = p ∧
      inRange p ((Spec.counter n all allv : Nat) : Int) = true ∧ sizerShift n all = 0 ∧
      Spec.counter n all allv ≤ Cpp.resizeLimit ∧
      (∀ m, all.find? (fun m => decide (m.kind.sizer? = some n)) = some m → ∀ s l, m.kind = .limited s l →
        Spec.counter n all allv ≤ l)

theorem sizerDecC (all : List Member) (allv : List Val)
    (hu : WF.uniq (all.map (·.name)) = true) (hw : wfMs all all = true)
    (hh : hasMs all all allv = true) (hns : Cpp.noShiftMs all = true)
    (hg : Cpp.resizeOkFields all allv = true) : SizerDecC all allv := by
  refine ⟨fun n t k hm hs => ?_⟩
  obtain ⟨p, rfl, hmem, hin⟩ := counter_inRange all allv hu hw hh n t k hm hs
  have hsh := sizerShift_zero_of_noShift n all (by rw [← Cpp.noShiftMs_eq_accept]; exact hns)
  have hf : all.find? (fun x => x.name == n) = some (.mk n (.prim p) k) := WF.uniq_find all hu _ hm
  rw [hsh, Nat.add_zero] at hin
  refine ⟨p, rfl, ?_, hin, hsh, Cpp.boundLens_resize n all allv hg _ hmem, ?_⟩
  · unfold Cpp.sizerPrimOf; rw [hf]
  · intro m hfm s l hk
    exact Cpp.counter_le_lim all n all allv hh m hfm s l hk

theorem Cpp.resizeElem_mem (n : String) (all : List Member) (hs : isSizer n all = true) :
    ∃ m ∈ all, m.kind.sizer? = some n ∧ Cpp.resizeElem n all = Cpp.elemSz m.ty := by
  rw [Cpp.resizeElem_eq]
  cases hf : all.find? (fun m => decide (m.kind.sizer? = some n)) with
  | none =>
    exfalso
    obtain ⟨m', hm', hs'⟩ := (isSizer_iff n all).1 hs
    have := List.find?_eq_none.1 hf m' hm'
    simp [hs'] at this
  | some m =>
    have h1 := List.mem_of_find?_eq_some hf
    have h2 := List.find?_some hf
    exact ⟨m, h1, by simpa using h2, rfl⟩

/-- the array behind a counter takes at least as many bytes as `do_decode_resize` asks for -/
theorem Cpp.len_mul_le_clen_field (all : List Member) (allv : List Val) (n : String) (t : Ty) (k : MKind) (v : Val)
    (hft : front t = true) (hpt : pyRt t = true) (hnu : isArrayKind k = true → (Py.stTy t).unl = false)
    (hh : hasField all k t v = true) (s : String) (hk : k.sizer? = some s) :
    v.len * Cpp.elemSz t ≤ Spec.clen (Spec.fieldChunks all allv n t k v) := by
  have hka : isArrayKind k = true := by
    cases k with
    | plain => cases hk
    | optional => cases hk
    | _ => rfl
  rw [← Spec.render_length .little]
  rcases hasField_array_shape all k t v (by rintro rfl; cases hk) (by rintro rfl; cases hk) hh with
    ⟨xs, rfl, hel⟩ | ⟨rfl, b, rfl⟩
  · rw [Spec.render_fieldChunks_arr .little all allv n t k xs hka, List.length_append, Spec.render_length]
    refine Nat.le_trans ?_ (Nat.le_add_right _ _)
    show xs.length * Cpp.elemSz t ≤ _
    unfold Cpp.elemSz
    by_cases hc : Cpp.codecSize t > 0
    · have hkind := Cpp.kind0_of_codecSize t (by omega)
      rw [if_pos hc, Cpp.codecSize_kind0 t hft hkind, Int.toNat_natCast,
        fsz_elems xs t (PL.fixed_of_kind_ok t (Cpp.ok_of_front t hft) hkind) hel]
      exact Nat.le_refl _
    · rw [if_neg hc, Nat.mul_one]
      exact Spec.length_le_clen_elems t xs fun x hx =>
        Spec.clen_pos t x hft hpt (hnu hka) (hasElems_mem t xs hel x hx).1 (hasElems_mem t xs hel x hx).2
  · rw [Spec.render_fieldChunks_bytes .little all allv n k b hka, List.length_append, show Cpp.elemSz .byte = 1 from rfl,
      Nat.mul_one]
    exact Nat.le_add_right _ _

theorem Cpp.counter_mul_le_clen (all : List Member) (allv : List Val) (s : String) : (ms : List Member) →
    ∀ (vs : List Val) (before : List Member) (off : Nat) (ad : Bool),
    frontMs all ms before = true → pyRtMs all ms before = true → hasMs all ms vs = true →
    lensOk all allv ms vs → ∀ m ∈ ms, m.kind.sizer? = some s →
    Spec.counter s all allv * Cpp.elemSz m.ty ≤ Spec.clen (Spec.chunksMs all allv ms vs off ad)
  | [], _, _, _, _, _, _, _, _, m, hm, _ => by cases hm
  | .mk n t k :: r, [], _, _, _, _, _, hh, _, _, _, _ => by simp [hasMs] at hh
  | .mk n t k :: r, v :: vs, before, off, ad, hfm, hpm, hh, hl, m, hm, hs => by
    obtain ⟨hft, hfr⟩ := Accept.frontMs_head_tail hfm
    obtain ⟨hpt, _, _, h4, _, _, _, hpr⟩ := (Accept.pyRtMs_cons all n t k r before).1 hpm
    obtain ⟨_, hf, hhr⟩ := (hasMs_cons all n t k r v vs).1 hh
    simp only [lensOk] at hl
    rw [Spec.chunksMs_cons]
    simp only [clen_cons, Spec.clen_append]
    rcases List.mem_cons.1 hm with rfl | hr
    · have h1 := Cpp.len_mul_le_clen_field all allv n t k v hft hpt h4 hf s hs
      rw [← hl.1 s hs]
      simp only [Member.ty]
      omega
    · have := Cpp.counter_mul_le_clen all allv s r vs (before ++ [Member.mk n t k])
        (off + padTo off (if ad = true then Spec.blockAlign (.mk n t k :: r) else Spec.alignMember (.mk n t k))
          + Spec.clen (Spec.fieldChunks all allv n t k v)) (Spec.endsBlock (.mk n t k)) hfr hpr hhr hl.2 m hr hs
      omega

theorem Spec.counter_le_clen_p10 (all : List Member) (allv : List Val) (s : String) : (ms : List Member) →
    ∀ (vs : List Val) (before : List Member) (off : Nat) (ad : Bool),
    frontMs all ms before = true → pyRtMs all ms before = true → hasMs all ms vs = true →
    lensOk all allv ms vs → (∃ m ∈ ms, m.kind.sizer? = some s) →
    Spec.counter s all allv ≤ Spec.clen (Spec.chunksMs all allv ms vs off ad) :=
  fun ms vs before off ad hfm hpm hh hl ⟨m, hm, hs⟩ =>
    Nat.le_trans (Nat.le_mul_of_pos_right _ (Cpp.one_le_elemSz m.ty))
      (Cpp.counter_mul_le_clen all allv s ms vs before off ad hfm hpm hh hl m hm hs)

namespace Cpp

theorem place_le_end (S : Nat) (all : List Member) (allv : List Val) (ms : List Member) (vs : List Val)
    (off : Nat) (ad : Bool) (hl : ms.length = vs.length) :
    alignUp off (aN S ad ms) ≤ alignUp (off + Spec.clen (Spec.chunksMs all allv ms vs off ad)) S := by
  cases ms with
  | nil => rw [Spec.chunksMs_nil]; exact Nat.le_refl _
  | cons m r =>
    obtain ⟨n, t, k⟩ := m
    cases vs with
    | nil => cases hl
    | cons v vs =>
      refine Nat.le_trans ?_ (le_alignUp _ _)
      rw [Spec.chunksMs_cons, Spec.clen_cons, Spec.Chunk.len_pad]
      simp only [alignUp, aN]; omega

end Cpp

end Prophy
