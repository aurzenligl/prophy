/- One step of the Python decoder, read backwards: what a successful run of the loop body of
   `struct._decode_impl`, of an element loop and of `_decode_impl` itself has done.  The theorems about
   whatever `decode` returns (C06) take the step apart with these and never open the decoder again. -/
import ProphyModel.Lemmas.PyUnpack
import ProphyModel.Lemmas.ExceptLemmas
import ProphyModel.Lemmas.Hints
namespace Prophy
open Prophy

/-- the body of the loop of struct._decode_impl for one member: value, size, new hints.  `terminal` is `false`
    in the loop; with it a message outside any struct is the plain member of no struct.  It repeats the `match` of
    `Py.decMs` (Py.lean) and is tied to it by `decMs_cons` (unfolding, `rfl`) -/
def Py.fieldDec (e : Endian) (all : List Member) (n : String) (t : Ty) (k : MKind) (f : Py.St)
    (data : Bytes) (pos0 : Nat) (hints : List (String × Nat)) (terminal : Bool) :
    Py.M (Val × Nat × List (String × Nat)) :=
  match k with
  | .plain =>
    if isSizer n all then do
      let (c, sz) ← Py.decSizer e (Py.sizerPrim t) (sizerShift n all) data pos0
      pure (Val.sizer, sz, Py.boundHints all n c ++ hints)
    else do
      let (v, sz) ← Py.decTy e t data pos0 terminal
      pure (v, sz, hints)
  | .optional => do
    let (flag, _) ← Py.decScalar e .u32 data pos0
    if flag ≠ 0 then do
      let (v, sz) ← Py.decTy e t data (pos0 + f.align) false
      pure (Val.present v, f.align + sz, hints)
    else pure (Val.absent, f.align + (Py.stTy t).size, hints)
  | .fixed c =>
    match t with
    | .byte =>
      if (data.length : Int) - (pos0 : Int) < (c : Int) then .error .prophy
      else pure (Val.bytes (Py.slice data pos0 c), c, hints)
    | _ => do
      if (f.size : Int) > (data.length : Int) - (pos0 : Int) then .error .prophy
      let (vs, cur) ← Py.decN (fun d q => Py.decTy e t d q false) c data pos0 0
      pure (Val.arr vs, cur, hints)
  | .dyn _ _ => do
    let c ← Py.lookupHint hints n
    match t with
    | .byte =>
      if (data.length : Int) - (pos0 : Int) < (c : Int) then .error .prophy
      else pure (Val.bytes (Py.slice data pos0 c), c, hints)
    | _ => do
      if (f.size : Int) > (data.length : Int) - (pos0 : Int) then .error .prophy
      let (vs, cur) ← Py.decN (fun d q => Py.decTy e t d q false) c data pos0 0
      pure (Val.arr vs, max cur f.size, hints)
  | .limited _ lim => do
    let c ← Py.lookupHint hints n
    match t with
    | .byte =>
      if (data.length : Int) - (pos0 : Int) < (lim : Int) then .error .prophy
      else if c > lim then .error .prophy
      else
        let b := Py.slice data pos0 c
        if b.length > lim then .error .prophy
        else pure (Val.bytes b, lim, hints)
    | _ => do
      if (f.size : Int) > (data.length : Int) - (pos0 : Int) then .error .prophy
      let (vs, cur) ← Py.decN (fun d q => Py.decTy e t d q false) (min c lim) data pos0 0
      if c > lim then .error .prophy
      pure (Val.arr vs, max cur f.size, hints)
  | .greedy =>
    match t with
    | .byte =>
      if (data.length : Int) - (pos0 : Int) < 0 then .error .prophy
      else pure (Val.bytes (data.drop pos0), data.length - pos0, hints)
    | .struct _ _ | .union _ _ => do
      if (f.size : Int) > (data.length : Int) - (pos0 : Int) then .error .prophy
      let (vs, cur) ← Py.decWhile (fun d q => Py.decTy e t d q false) data.length data pos0 0
      pure (Val.arr vs, max cur f.size, hints)
    | _ => do
      if (f.size : Int) > (data.length : Int) - (pos0 : Int) then .error .prophy
      let remaining : Int := (data.length : Int) - (pos0 : Int)
      let esz := (Py.stTy t).size
      let cnt := if remaining ≤ 0 then 0 else (remaining.toNat / esz) + (if remaining.toNat % esz = 0 then 0 else 1)
      let (vs, cur) ← Py.decN (fun d q => Py.decTy e t d q false) cnt data pos0 0
      pure (Val.arr vs, max cur f.size, hints)

theorem Py.fieldDec_fixed_arr (e : Endian) (all : List Member) (n : String) (t : Ty) (c : Nat) (f : Py.St) (data : Bytes)
    (pos : Nat) (hints : List (String × Nat)) (term : Bool) (htb : t ≠ .byte) :
    Py.fieldDec e all n t (.fixed c) f data pos hints term =
      (do if (f.size : Int) > (data.length : Int) - (pos : Int) then .error .prophy
          let (vs, cur) ← Py.decN (fun d q => Py.decTy e t d q false) c data pos 0
          pure (Val.arr vs, cur, hints)) := by
  cases t <;> first | exact absurd rfl htb | rfl

theorem Py.fieldDec_dyn_arr (e : Endian) (all : List Member) (n : String) (t : Ty) (s : String) (sh : Nat) (f : Py.St)
    (data : Bytes) (pos : Nat) (hints : List (String × Nat)) (term : Bool) (htb : t ≠ .byte) :
    Py.fieldDec e all n t (.dyn s sh) f data pos hints term =
      (do let c ← Py.lookupHint hints n
          if (f.size : Int) > (data.length : Int) - (pos : Int) then .error .prophy
          let (vs, cur) ← Py.decN (fun d q => Py.decTy e t d q false) c data pos 0
          pure (Val.arr vs, max cur f.size, hints)) := by
  cases t <;> first | exact absurd rfl htb | rfl

theorem Py.fieldDec_limited_arr (e : Endian) (all : List Member) (n : String) (t : Ty) (s : String) (lim : Nat) (f : Py.St)
    (data : Bytes) (pos : Nat) (hints : List (String × Nat)) (term : Bool) (htb : t ≠ .byte) :
    Py.fieldDec e all n t (.limited s lim) f data pos hints term =
      (do let c ← Py.lookupHint hints n
          if (f.size : Int) > (data.length : Int) - (pos : Int) then .error .prophy
          let (vs, cur) ← Py.decN (fun d q => Py.decTy e t d q false) (min c lim) data pos 0
          if c > lim then .error .prophy
          pure (Val.arr vs, max cur f.size, hints)) := by
  cases t <;> first | exact absurd rfl htb | rfl

def Ty.isComposite : Ty → Bool
  | .struct _ _ => true
  | .union _ _ => true
  | _ => false

theorem Py.fieldDec_greedy_comp (e : Endian) (all : List Member) (n : String) (t : Ty) (f : Py.St)
    (data : Bytes) (pos : Nat) (hints : List (String × Nat)) (term : Bool) (htc : t.isComposite = true) :
    Py.fieldDec e all n t .greedy f data pos hints term =
      (do if (f.size : Int) > (data.length : Int) - (pos : Int) then .error .prophy
          let (vs, cur) ← Py.decWhile (fun d q => Py.decTy e t d q false) data.length data pos 0
          pure (Val.arr vs, max cur f.size, hints)) := by
  cases t <;> first | (simp [Ty.isComposite] at htc; done) | rfl

theorem Py.fieldDec_greedy_scalar (e : Endian) (all : List Member) (n : String) (t : Ty) (f : Py.St)
    (data : Bytes) (pos : Nat) (hints : List (String × Nat)) (term : Bool) (htb : t ≠ .byte)
    (htc : t.isComposite = false) :
    Py.fieldDec e all n t .greedy f data pos hints term =
      (do if (f.size : Int) > (data.length : Int) - (pos : Int) then .error .prophy
          let remaining : Int := (data.length : Int) - (pos : Int)
          let esz := (Py.stTy t).size
          let cnt := if remaining ≤ 0 then 0 else (remaining.toNat / esz) + (if remaining.toNat % esz = 0 then 0 else 1)
          let (vs, cur) ← Py.decN (fun d q => Py.decTy e t d q false) cnt data pos 0
          pure (Val.arr vs, max cur f.size, hints)) := by
  cases t <;> first | exact absurd rfl htb | (simp [Ty.isComposite] at htc; done) | rfl

def Py.nextPos (p : Option Nat) (pos1 : Nat) : Nat :=
  match p with
  | some a => pos1 + padTo pos1 a
  | none => pos1

theorem Py.le_nextPos (p : Option Nat) (pos1 : Nat) : pos1 ≤ Py.nextPos p pos1 := by
  cases p <;> simp [Py.nextPos]

theorem Py.decMs_cons (e : Endian) (all : List Member) (n : String) (t : Ty) (k : MKind) (r : List Member)
    (f : Py.St) (fs : List Py.St) (p : Option Nat) (ps : List (Option Nat)) (data : Bytes) (pos : Nat)
    (hints : List (String × Nat)) :
    Py.decMs e all (.mk n t k :: r) (f :: fs) (p :: ps) data pos hints =
      (do
        let (v, sz, hints') ← Py.fieldDec e all n t k f data (pos + padTo pos f.align) hints false
        let (vs, posEnd) ← Py.decMs e all r fs ps data (Py.nextPos p (pos + padTo pos f.align + sz)) hints'
        pure (v :: vs, posEnd)) := by
  conv => lhs; unfold Py.decMs
  rfl

theorem Py.decTy_prim (e : Endian) (p : Prim) (data : Bytes) (pos : Nat) (term : Bool) :
    Py.decTy e (.prim p) data pos term = (do
      let (v, sz) ← Py.decScalar e p data pos
      pure (.int v, sz)) := rfl

theorem Py.decTy_byte (e : Endian) (data : Bytes) (pos : Nat) (term : Bool) :
    Py.decTy e .byte data pos term = (do
      let (v, sz) ← Py.decScalar e .u8 data pos
      pure (.int v, sz)) := rfl

theorem Py.decTy_enum (e : Endian) (nm : String) (es : List (String × Nat)) (data : Bytes) (pos : Nat) (term : Bool) :
    Py.decTy e (.enum nm es) data pos term = (do
      let (v, sz) ← Py.decScalar e .u32 data pos
      let v ← Py.checkEnum es v
      pure (.int v, sz)) := rfl

theorem Py.decTy_struct (e : Endian) (nm : String) (ms : List Member) (data : Bytes) (pos : Nat) (terminal : Bool) :
    Py.decTy e (.struct nm ms) data pos terminal = (do
      let fs := Py.stMs ms
      let (vs, pos1) ← Py.decMs e ms ms fs (Py.partials fs) data pos []
      let pos2 := pos1 + padTo pos1 (Py.structSt fs).align
      if terminal && pos2 < data.length then .error .prophy
      else pure (.struct vs, pos2 - pos)) := rfl

theorem Py.decTy_union (e : Endian) (nm : String) (arms : List Arm) (data : Bytes) (pos : Nat) (terminal : Bool) :
    Py.decTy e (.union nm arms) data pos terminal = (do
      let u := Py.unionSt (Py.stArms arms)
      let (d, _) ← Py.decScalar e .u32 data pos
      let (idx, v) ← Py.decArms e arms arms d data (pos + u.align) 0
      let bytesRead : Int := (data.length : Int) - (pos : Int)
      if bytesRead < (u.size : Int) then .error .prophy
      else if terminal && bytesRead > (u.size : Int) then .error .prophy
      else pure (.union idx v, u.size)) := rfl

theorem Py.decMs_nil (e : Endian) (all : List Member) (fs : List Py.St) (ps : List (Option Nat)) (data : Bytes) (pos : Nat)
    (hints : List (String × Nat)) : Py.decMs e all [] fs ps data pos hints = pure ([], pos) := rfl

theorem Py.decArms_nil (e : Endian) (all : List Arm) (disc : Int) (data : Bytes) (pos idx : Nat) :
    Py.decArms e all [] disc data pos idx = .error .prophy := rfl

theorem Py.decArms_cons (e : Endian) (all : List Arm) (n : String) (d : Nat) (t : Ty) (r : List Arm) (disc : Int)
    (data : Bytes) (pos idx : Nat) :
    Py.decArms e all (.mk n d t :: r) disc data pos idx =
      if (d : Int) = disc then do
        let (v, _) ← Py.decTy e t data pos false
        pure (idx, v)
      else Py.decArms e all r disc data pos (idx + 1) := rfl

namespace Py

theorem lookupHint_ok {hints : List (String × Nat)} {n : String} {c : Nat}
    (h : lookupHint hints n = .ok c) : hints.lookup n = some c := by
  unfold lookupHint at h
  split at h
  · rename_i c' hc
    injection h with h
    rw [hc, h]
  · cases h

/-- a run of element decodes from cursor `c` to cursor `c'`, whichever loop made it -/
inductive Steps (f : Bytes → Nat → M (Val × Nat)) (data : Bytes) (pos : Nat) : Nat → List Val → Nat → Prop
  | nil (c : Nat) : Steps f data pos c [] c
  | cons {c sz c' : Nat} {v : Val} {vs : List Val} : f data (pos + c) = .ok (v, sz) →
      Steps f data pos (c + sz) vs c' → Steps f data pos c (v :: vs) c'

theorem decN_steps {f : Bytes → Nat → M (Val × Nat)} {data : Bytes} {pos : Nat} :
    ∀ {n c : Nat} {vs : List Val} {c' : Nat}, decN f n data pos c = .ok (vs, c') →
      vs.length = n ∧ Steps f data pos c vs c'
  | 0, c, vs, c', h => by
    obtain ⟨rfl, rfl⟩ := Prod.mk.inj (pure_ok h)
    exact ⟨rfl, .nil c⟩
  | n + 1, c, vs, c', h => by
    obtain ⟨⟨v, sz⟩, hx, h⟩ := bind_ok h
    obtain ⟨⟨vs2, c2⟩, hy, h⟩ := bind_ok h
    obtain ⟨rfl, rfl⟩ := Prod.mk.inj (pure_ok h)
    obtain ⟨h1, h2⟩ := decN_steps hy
    exact ⟨by rw [List.length_cons, h1], .cons hx h2⟩

theorem decWhile_steps {f : Bytes → Nat → M (Val × Nat)} {data : Bytes} {pos : Nat} :
    ∀ {fuel c : Nat} {vs : List Val} {c' : Nat}, decWhile f fuel data pos c = .ok (vs, c') → Steps f data pos c vs c'
  | 0, c, vs, c', h => by
    unfold decWhile at h
    split at h
    · cases h
    · obtain ⟨rfl, rfl⟩ := Prod.mk.inj (pure_ok h)
      exact .nil c
  | fuel + 1, c, vs, c', h => by
    unfold decWhile at h
    split at h
    · obtain ⟨⟨v, sz⟩, hx, h⟩ := bind_ok h
      obtain ⟨⟨vs2, c2⟩, hy, h⟩ := bind_ok h
      obtain ⟨rfl, rfl⟩ := Prod.mk.inj (pure_ok h)
      exact .cons hx (decWhile_steps hy)
    · obtain ⟨rfl, rfl⟩ := Prod.mk.inj (pure_ok h)
      exact .nil c

theorem Steps.all {f : Bytes → Nat → M (Val × Nat)} {data : Bytes} {pos : Nat} {P : Val → Prop}
    (hf : ∀ q v sz, f data q = .ok (v, sz) → P v) {c c' : Nat} {vs : List Val} (h : Steps f data pos c vs c') :
    ∀ v ∈ vs, P v := by
  induction h with
  | nil c => intro v hv; cases hv
  | cons hx _ ih =>
    intro w hw
    rcases List.mem_cons.1 hw with rfl | hw
    · exact hf _ _ _ hx
    · exact ih w hw

theorem Steps.length_le {f : Bytes → Nat → M (Val × Nat)} {data : Bytes} {pos : Nat}
    (hf : ∀ q v sz, f data q = .ok (v, sz) → 1 ≤ sz) {c c' : Nat} {vs : List Val} (h : Steps f data pos c vs c') :
    c + vs.length ≤ c' := by
  induction h with
  | nil c => exact Nat.le_refl _
  | cons hx _ ih => have := hf _ _ _ hx; rw [List.length_cons]; omega

/-- what the decoder knows of the element count `len` of an array or bytes member of kind `k` when it has
    read it: the declared count, the hint of the counter, the limit -/
structure LenOf (k : MKind) (hints : List (String × Nat)) (n : String) (len : Nat) : Prop where
  arr : k ≠ .plain ∧ k ≠ .optional
  fixed : ∀ c, k = .fixed c → len = c
  hint : ∀ s, k.sizer? = some s → hints.lookup n = some len
  lim : ∀ s c, k = .limited s c → len ≤ c

theorem LenOf.ofFixed (c : Nat) (hints : List (String × Nat)) (n : String) : LenOf (.fixed c) hints n c :=
  ⟨⟨nofun, nofun⟩, fun _ h => MKind.fixed.inj h, nofun, nofun⟩

theorem LenOf.ofDyn (s : String) (sh : Nat) {hints : List (String × Nat)} {n : String} {c : Nat}
    (h : hints.lookup n = some c) : LenOf (.dyn s sh) hints n c :=
  ⟨⟨nofun, nofun⟩, nofun, fun _ _ => h, nofun⟩

theorem LenOf.ofLimited (s : String) {lim : Nat} {hints : List (String × Nat)} {n : String} {c : Nat}
    (h : hints.lookup n = some c) (hl : c ≤ lim) : LenOf (.limited s lim) hints n c :=
  ⟨⟨nofun, nofun⟩, nofun, fun _ _ => h, fun _ _ h => by cases h; exact hl⟩

theorem LenOf.ofGreedy (hints : List (String × Nat)) (n : String) (c : Nat) : LenOf .greedy hints n c :=
  ⟨⟨nofun, nofun⟩, nofun, nofun, nofun⟩

/-- The successful runs of the body of the loop of `struct._decode_impl`: a counter, a plain member, an
    absent or present optional, a bytes field, an array.  The four kinds of bytes fields and the five ways
    an array is read differ only in `LenOf` and in which loop made the `Steps`; a fixed array reports the
    cursor reached, the others at least their static size. -/
inductive FieldRes (e : Endian) (all : List Member) (n : String) (t : Ty) (k : MKind) (f : St) (data : Bytes)
    (pos0 : Nat) (hints : List (String × Nat)) (term : Bool) : Val → Nat → List (String × Nat) → Prop
  | sizer (c sz : Nat) : k = .plain → isSizer n all = true →
      decSizer e (sizerPrim t) (sizerShift n all) data pos0 = .ok (c, sz) →
      FieldRes e all n t k f data pos0 hints term .sizer sz (boundHints all n c ++ hints)
  | plain (v : Val) (sz : Nat) : k = .plain → isSizer n all = false → decTy e t data pos0 term = .ok (v, sz) →
      FieldRes e all n t k f data pos0 hints term v sz hints
  | absent (x : Nat) : k = .optional → decScalar e .u32 data pos0 = .ok (0, x) →
      FieldRes e all n t k f data pos0 hints term .absent (f.align + (stTy t).size) hints
  | present (flag : Int) (x : Nat) (v : Val) (sz : Nat) : k = .optional →
      decScalar e .u32 data pos0 = .ok (flag, x) → flag ≠ 0 → decTy e t data (pos0 + f.align) false = .ok (v, sz) →
      FieldRes e all n t k f data pos0 hints term (.present v) (f.align + sz) hints
  | bytes (b : Bytes) (sz : Nat) : t = .byte → LenOf k hints n b.length → pos0 + sz ≤ data.length →
      b.length ≤ sz → b = slice data pos0 b.length →
      FieldRes e all n t k f data pos0 hints term (.bytes b) sz hints
  | arr (vs : List Val) (cur sz : Nat) : t ≠ .byte → LenOf k hints n vs.length →
      Steps (fun d q => decTy e t d q false) data pos0 0 vs cur → pos0 + f.size ≤ data.length →
      (sz = cur ∨ sz = max cur f.size) →
      FieldRes e all n t k f data pos0 hints term (.arr vs) sz hints

theorem FieldRes.hints_eq {e : Endian} {all : List Member} {n : String} {t : Ty} {k : MKind} {f : St} {data : Bytes}
    {pos0 : Nat} {hints : List (String × Nat)} {term : Bool} {v : Val} {sz : Nat} {hints' : List (String × Nat)}
    (h : FieldRes e all n t k f data pos0 hints term v sz hints') :
    (hints' = hints ∧ (k = .plain → isSizer n all = false)) ∨
    (k = .plain ∧ isSizer n all = true ∧ v = .sizer ∧
      ∃ c, decSizer e (sizerPrim t) (sizerShift n all) data pos0 = .ok (c, sz) ∧ hints' = boundHints all n c ++ hints) := by
  cases h with
  | sizer c sz hk hs hx => exact Or.inr ⟨hk, hs, rfl, c, hx, rfl⟩
  | plain v sz _ hs _ => exact Or.inl ⟨rfl, fun _ => hs⟩
  | absent x hk _ => exact Or.inl ⟨rfl, fun h => by rw [hk] at h; cases h⟩
  | present flag x v sz hk _ _ _ => exact Or.inl ⟨rfl, fun h => by rw [hk] at h; cases h⟩
  | bytes b sz _ hl _ _ _ => exact Or.inl ⟨rfl, fun h => absurd h hl.arr.1⟩
  | arr vs cur sz _ hl _ _ _ => exact Or.inl ⟨rfl, fun h => absurd h hl.arr.1⟩

theorem fieldDec_ok {e : Endian} {all : List Member} {n : String} {t : Ty} {k : MKind} {f : St}
    {data : Bytes} {pos0 : Nat} {hints : List (String × Nat)} {term : Bool} {v : Val} {sz : Nat}
    {hints' : List (String × Nat)}
    (h : fieldDec e all n t k f data pos0 hints term = .ok (v, sz, hints')) :
    FieldRes e all n t k f data pos0 hints term v sz hints' := by
  have byN : ∀ {cnt cur sz : Nat} {vs : List Val}, t ≠ .byte → LenOf k hints n cnt →
      ¬ ((f.size : Int) > (data.length : Int) - (pos0 : Int)) → (sz = cur ∨ sz = max cur f.size) →
      decN (fun d q => decTy e t d q false) cnt data pos0 0 = .ok (vs, cur) →
      FieldRes e all n t k f data pos0 hints term (.arr vs) sz hints := by
    intro cnt cur sz vs hb hl hg hsz hd
    obtain ⟨h1, h2⟩ := decN_steps hd
    exact .arr vs cur sz hb (h1 ▸ hl) h2 (by omega) hsz
  have byS : ∀ {c sz : Nat}, t = .byte → LenOf k hints n c → ¬ ((data.length : Int) - (pos0 : Int) < (sz : Int)) →
      c ≤ sz → FieldRes e all n t k f data pos0 hints term (.bytes (slice data pos0 c)) sz hints := by
    intro c sz ht hl hg hc
    have hlen : (slice data pos0 c).length = c := slice_length _ _ _ (by omega)
    exact .bytes _ sz ht (hlen.symm ▸ hl) (by omega) (by omega) (by rw [hlen])
  cases k with
  | plain =>
    simp only [fieldDec] at h
    split at h
    · rename_i hs
      obtain ⟨⟨c, s⟩, hx, h⟩ := bind_ok h
      obtain ⟨rfl, rfl, rfl⟩ := pure_ok3 h
      exact .sizer c s rfl hs hx
    · rename_i hs
      obtain ⟨⟨w, s⟩, hx, h⟩ := bind_ok h
      obtain ⟨rfl, rfl, rfl⟩ := pure_ok3 h
      exact .plain w s rfl (by simpa using hs) hx
  | optional =>
    simp only [fieldDec] at h
    obtain ⟨⟨flag, x⟩, hx, h⟩ := bind_ok h
    simp only [] at h
    split at h
    · rename_i hfl
      obtain ⟨⟨w, s⟩, hy, h⟩ := bind_ok h
      obtain ⟨rfl, rfl, rfl⟩ := pure_ok3 h
      exact .present flag x w s rfl hx hfl hy
    · rename_i hfl
      obtain ⟨rfl, rfl, rfl⟩ := pure_ok3 h
      have : flag = 0 := by simpa using hfl
      subst this
      exact .absent x rfl hx
  | fixed c =>
    simp only [fieldDec] at h
    split at h
    · split at h
      · cases h
      · rename_i hg
        obtain ⟨rfl, rfl, rfl⟩ := pure_ok3 h
        exact byS rfl (.ofFixed c hints n) hg (Nat.le_refl _)
    · rename_i hb
      obtain ⟨hg, h⟩ := guard_ok h
      obtain ⟨⟨ws, cur⟩, hx, h⟩ := bind_ok h
      obtain ⟨rfl, rfl, rfl⟩ := pure_ok3 h
      exact byN (fun hh => hb hh) (.ofFixed c hints n) hg (Or.inl rfl) hx
  | dyn s sh =>
    simp only [fieldDec] at h
    obtain ⟨c, hc, h⟩ := bind_ok h
    have hl := LenOf.ofDyn s sh (lookupHint_ok hc)
    split at h
    · split at h
      · cases h
      · rename_i hg
        obtain ⟨rfl, rfl, rfl⟩ := pure_ok3 h
        exact byS rfl hl hg (Nat.le_refl _)
    · rename_i hb
      obtain ⟨hg, h⟩ := guard_ok h
      obtain ⟨⟨ws, cur⟩, hx, h⟩ := bind_ok h
      obtain ⟨rfl, rfl, rfl⟩ := pure_ok3 h
      exact byN (fun hh => hb hh) hl hg (Or.inr rfl) hx
  | limited s lim =>
    simp only [fieldDec] at h
    obtain ⟨c, hc, h⟩ := bind_ok h
    have hlk := lookupHint_ok hc
    split at h
    · split at h
      · cases h            -- input shorter than the slot
      · split at h
        · cases h          -- hint above the limit
        · split at h
          · cases h        -- `_check`
          · rename_i hg hcl _
            obtain ⟨rfl, rfl, rfl⟩ := pure_ok3 h
            exact byS rfl (.ofLimited s hlk (by omega)) hg (by omega)
    · rename_i hb
      obtain ⟨hg, h⟩ := guard_ok h
      obtain ⟨⟨ws, cur⟩, hx, h⟩ := bind_ok h
      obtain ⟨hcl, h⟩ := guard_ok h
      obtain ⟨rfl, rfl, rfl⟩ := pure_ok3 h
      have hmin : min c lim = c := by omega
      rw [hmin] at hx
      exact byN (fun hh => hb hh) (.ofLimited s hlk (by omega)) hg (Or.inr rfl) hx
  | greedy =>
    simp only [fieldDec] at h
    split at h
    · -- bytes
      split at h
      · cases h
      · rename_i hg
        obtain ⟨rfl, rfl, rfl⟩ := pure_ok3 h
        have hd : data.drop pos0 = slice data pos0 (data.length - pos0) := by
          simp [slice, List.take_of_length_le]
        rw [hd]
        exact byS rfl (.ofGreedy hints n _) (by omega) (Nat.le_refl _)
    · -- structs
      obtain ⟨hg, h⟩ := guard_ok h
      obtain ⟨⟨ws, cur⟩, hx, h⟩ := bind_ok h
      obtain ⟨rfl, rfl, rfl⟩ := pure_ok3 h
      exact .arr ws cur _ nofun (.ofGreedy hints n _) (decWhile_steps hx) (by omega) (Or.inr rfl)
    · -- unions
      obtain ⟨hg, h⟩ := guard_ok h
      obtain ⟨⟨ws, cur⟩, hx, h⟩ := bind_ok h
      obtain ⟨rfl, rfl, rfl⟩ := pure_ok3 h
      exact .arr ws cur _ nofun (.ofGreedy hints n _) (decWhile_steps hx) (by omega) (Or.inr rfl)
    · -- scalars
      rename_i hb _ _
      obtain ⟨hg, h⟩ := guard_ok h
      obtain ⟨⟨ws, cur⟩, hx, h⟩ := bind_ok h
      obtain ⟨rfl, rfl, rfl⟩ := pure_ok3 h
      exact byN (fun hh => hb hh) (.ofGreedy hints n _) hg (Or.inr rfl) hx

theorem checkEnum_ok {es : List (String × Nat)} {v w : Int} (h : checkEnum es v = .ok w) :
    w = v ∧ es.any (fun en => (en.2 : Int) == v) = true := by
  unfold checkEnum at h
  split at h
  · rename_i hc
    injection h with h
    exact ⟨h.symm, by simpa using hc⟩
  · cases h

theorem decTy_struct_ok {e : Endian} {nm : String} {ms : List Member} {data : Bytes} {pos : Nat} {term : Bool}
    {v : Val} {sz : Nat} (h : decTy e (.struct nm ms) data pos term = .ok (v, sz)) :
    ∃ vs pos1, v = .struct vs ∧ decMs e ms ms (stMs ms) (partials (stMs ms)) data pos [] = .ok (vs, pos1) ∧
      sz = pos1 + padTo pos1 (structSt (stMs ms)).align - pos ∧
      (term = true → data.length ≤ pos1 + padTo pos1 (structSt (stMs ms)).align) := by
  rw [decTy_struct] at h
  obtain ⟨⟨vs, pos1⟩, hx, h⟩ := bind_ok h
  dsimp only at h
  split at h
  · cases h
  · rename_i hc
    obtain ⟨rfl, rfl⟩ := Prod.mk.inj (pure_ok h)
    refine ⟨vs, pos1, rfl, hx, rfl, ?_⟩
    intro ht; subst ht
    simpa using hc

theorem decArms_ok {e : Endian} {all : List Arm} {disc : Int} {data : Bytes} {pos : Nat} :
    ∀ {arms : List Arm} {idx i : Nat} {v : Val}, decArms e all arms disc data pos idx = .ok (i, v) →
      ∃ j an d t s, i = idx + j ∧ arms[j]? = some (.mk an d t) ∧ (d : Int) = disc ∧
        decTy e t data pos false = .ok (v, s)
  | [], idx, i, v, h => by rw [decArms_nil] at h; cases h
  | .mk an d t :: r, idx, i, v, h => by
    rw [decArms_cons] at h
    split at h
    · rename_i hd
      obtain ⟨⟨w, s⟩, hx, h⟩ := bind_ok h
      obtain ⟨rfl, rfl⟩ := Prod.mk.inj (pure_ok h)
      exact ⟨0, an, d, t, s, rfl, rfl, hd, hx⟩
    · obtain ⟨j, an', d', t', s, hj, hget, hd, hx⟩ := decArms_ok h
      exact ⟨j + 1, an', d', t', s, by omega, by simpa using hget, hd, hx⟩

theorem decTy_union_ok {e : Endian} {nm : String} {arms : List Arm} {data : Bytes} {pos : Nat} {term : Bool}
    {v : Val} {sz : Nat} (h : decTy e (.union nm arms) data pos term = .ok (v, sz)) :
    ∃ d x idx an dd t w s, v = .union idx w ∧ decScalar e .u32 data pos = .ok (d, x) ∧
      arms[idx]? = some (.mk an dd t) ∧ (dd : Int) = d ∧
      decTy e t data (pos + (unionSt (stArms arms)).align) false = .ok (w, s) ∧
      sz = (unionSt (stArms arms)).size ∧ pos + (unionSt (stArms arms)).size ≤ data.length ∧
      (term = true → data.length ≤ pos + (unionSt (stArms arms)).size) := by
  rw [decTy_union] at h
  obtain ⟨⟨d, x⟩, hx, h⟩ := bind_ok h
  obtain ⟨⟨idx, w⟩, hy, h⟩ := bind_ok h
  dsimp only at h
  split at h
  · cases h
  · rename_i hc1
    split at h
    · cases h
    · rename_i hc2
      obtain ⟨rfl, rfl⟩ := Prod.mk.inj (pure_ok h)
      obtain ⟨j, an, dd, t, s, hj, hget, hd, hw⟩ := decArms_ok hy
      rw [Nat.zero_add] at hj
      subst hj
      refine ⟨d, x, idx, an, dd, t, w, s, rfl, hx, hget, hd, hw, rfl, by omega, ?_⟩
      intro ht; subst ht
      have : ¬ ((data.length : Int) - (pos : Int) > ((unionSt (stArms arms)).size : Int)) := by simpa using hc2
      omega

theorem decMs_cons_ok {e : Endian} {all : List Member} {n : String} {t : Ty} {k : MKind} {r : List Member}
    {fs : List St} {ps : List (Option Nat)} {data : Bytes} {pos : Nat} {hints : List (String × Nat)}
    {vs : List Val} {posEnd : Nat}
    (h : decMs e all (.mk n t k :: r) fs ps data pos hints = .ok (vs, posEnd)) :
    ∃ f fs' p ps' v sz hints' vs', fs = f :: fs' ∧ ps = p :: ps' ∧ vs = v :: vs' ∧
      fieldDec e all n t k f data (pos + padTo pos f.align) hints false = .ok (v, sz, hints') ∧
      decMs e all r fs' ps' data (nextPos p (pos + padTo pos f.align + sz)) hints' = .ok (vs', posEnd) := by
  cases fs with
  | nil => cases h
  | cons f fs' =>
    cases ps with
    | nil => cases h
    | cons p ps' =>
      rw [decMs_cons] at h
      obtain ⟨⟨v, sz, hints'⟩, hx, h⟩ := bind_ok h
      dsimp only at h
      obtain ⟨⟨vs', pe⟩, hy, h⟩ := bind_ok h
      obtain ⟨rfl, rfl⟩ := Prod.mk.inj (pure_ok h)
      exact ⟨f, fs', p, ps', v, sz, hints', vs', rfl, rfl, rfl, hx, hy⟩

/-- The cases of an induction over the successful runs of the decoder: `P` is claimed of every
    `decTy e t data pos term = .ok (v, sz)`, `Q` of every `decMs e all ms fs ps data pos hints = .ok (vs, posEnd)`. -/
structure DecCases (e : Endian) (P : Ty → Bytes → Nat → Bool → Val → Nat → Prop)
    (Q : List Member → List Member → List St → List (Option Nat) → Bytes → Nat → List (String × Nat) →
      List Val → Nat → Prop) : Prop where
  prim : ∀ p data pos term i sz, decScalar e p data pos = .ok (i, sz) → P (.prim p) data pos term (.int i) sz
  byte : ∀ data pos term i sz, decScalar e .u8 data pos = .ok (i, sz) → P .byte data pos term (.int i) sz
  enum : ∀ nm es data pos term i sz, decScalar e .u32 data pos = .ok (i, sz) →
    es.any (fun en => (en.2 : Int) == i) = true → P (.enum nm es) data pos term (.int i) sz
  struct : ∀ nm ms data pos term vs pos1,
    decMs e ms ms (stMs ms) (partials (stMs ms)) data pos [] = .ok (vs, pos1) →
    Q ms ms (stMs ms) (partials (stMs ms)) data pos [] vs pos1 →
    (term = true → data.length ≤ pos1 + padTo pos1 (structSt (stMs ms)).align) →
    P (.struct nm ms) data pos term (.struct vs) (pos1 + padTo pos1 (structSt (stMs ms)).align - pos)
  union : ∀ nm arms data pos term d x idx an (dd : Nat) t w s, decScalar e .u32 data pos = .ok (d, x) →
    arms[idx]? = some (.mk an dd t) → (dd : Int) = d →
    decTy e t data (pos + (unionSt (stArms arms)).align) false = .ok (w, s) →
    P t data (pos + (unionSt (stArms arms)).align) false w s →
    pos + (unionSt (stArms arms)).size ≤ data.length →
    (term = true → data.length ≤ pos + (unionSt (stArms arms)).size) →
    P (.union nm arms) data pos term (.union idx w) (unionSt (stArms arms)).size
  nil : ∀ all fs ps data pos hints, Q all [] fs ps data pos hints [] pos
  cons : ∀ all n t k r f fs p ps data pos hints v sz hints' vs pe,
    FieldRes e all n t k f data (pos + padTo pos f.align) hints false v sz hints' →
    (∀ {d q b w s}, decTy e t d q b = .ok (w, s) → P t d q b w s) →
    decMs e all r fs ps data (nextPos p (pos + padTo pos f.align + sz)) hints' = .ok (vs, pe) →
    Q all r fs ps data (nextPos p (pos + padTo pos f.align + sz)) hints' vs pe →
    Q all (.mk n t k :: r) (f :: fs) (p :: ps) data pos hints (v :: vs) pe

mutual
  theorem decTy_post_ty {e P Q} (c : DecCases e P Q) : (t : Ty) → ∀ data pos term v sz,
      decTy e t data pos term = .ok (v, sz) → P t data pos term v sz
    | .prim p, data, pos, term, v, sz, h => by
      rw [decTy_prim] at h
      obtain ⟨⟨i, s⟩, hx, h⟩ := bind_ok h
      obtain ⟨rfl, rfl⟩ := Prod.mk.inj (pure_ok h)
      exact c.prim p data pos term i s hx
    | .byte, data, pos, term, v, sz, h => by
      rw [decTy_byte] at h
      obtain ⟨⟨i, s⟩, hx, h⟩ := bind_ok h
      obtain ⟨rfl, rfl⟩ := Prod.mk.inj (pure_ok h)
      exact c.byte data pos term i s hx
    | .enum nm es, data, pos, term, v, sz, h => by
      rw [decTy_enum] at h
      obtain ⟨⟨i, s⟩, hx, h⟩ := bind_ok h
      obtain ⟨w, hc, h⟩ := bind_ok h
      obtain ⟨rfl, rfl⟩ := Prod.mk.inj (pure_ok h)
      obtain ⟨rfl, hany⟩ := checkEnum_ok hc
      exact c.enum nm es data pos term w s hx hany
    | .struct nm ms, data, pos, term, v, sz, h => by
      obtain ⟨vs, pos1, rfl, hx, rfl, ht⟩ := decTy_struct_ok h
      exact c.struct nm ms data pos term vs pos1 hx (decTy_post_ms c ms ms _ _ data pos [] vs pos1 hx) ht
    | .union nm arms, data, pos, term, v, sz, h => by
      obtain ⟨d, x, idx, an, dd, t, w, s, rfl, hx, hget, hd, hw, rfl, hlen, ht⟩ := decTy_union_ok h
      exact c.union nm arms data pos term d x idx an dd t w s hx hget hd hw
        (decTy_post_arm c arms idx an dd t hget _ _ _ _ _ hw) hlen ht
  theorem decTy_post_ms {e P Q} (c : DecCases e P Q) : (ms : List Member) → ∀ all fs ps data pos hints vs pe,
      decMs e all ms fs ps data pos hints = .ok (vs, pe) → Q all ms fs ps data pos hints vs pe
    | [], all, fs, ps, data, pos, hints, vs, pe, h => by
      rw [decMs_nil] at h
      obtain ⟨rfl, rfl⟩ := Prod.mk.inj (pure_ok h)
      exact c.nil all fs ps data pos hints
    | .mk n t k :: r, all, fs, ps, data, pos, hints, vs, pe, h => by
      obtain ⟨f, fs', p, ps', v, sz, hints', vs', rfl, rfl, rfl, hx, hy⟩ := decMs_cons_ok h
      exact c.cons all n t k r f fs' p ps' data pos hints v sz hints' vs' pe (fieldDec_ok hx)
        (decTy_post_ty c t _ _ _ _ _) hy (decTy_post_ms c r all fs' ps' data _ hints' vs' pe hy)
  theorem decTy_post_arm {e P Q} (c : DecCases e P Q) : (arms : List Arm) → ∀ (idx : Nat) (an : String) (dd : Nat) (t : Ty),
      arms[idx]? = some (Arm.mk an dd t) → ∀ data pos term v sz,
      decTy e t data pos term = .ok (v, sz) → P t data pos term v sz
    | [], idx, an, dd, t, h => by simp at h
    | .mk an' d' t' :: r, 0, an, dd, t, h => by
      have : t' = t := by simp at h; exact h.2.2
      subst this
      exact decTy_post_ty c t'
    | .mk an' d' t' :: r, idx + 1, an, dd, t, h => decTy_post_arm c r idx an dd t (by simpa using h)
end

theorem decTy_post {e P Q} (c : DecCases e P Q) :
    (∀ t data pos term v sz, decTy e t data pos term = .ok (v, sz) → P t data pos term v sz) ∧
    (∀ ms all fs ps data pos hints vs pe, decMs e all ms fs ps data pos hints = .ok (vs, pe) →
      Q all ms fs ps data pos hints vs pe) :=
  ⟨decTy_post_ty c, decTy_post_ms c⟩

end Py

end Prophy
