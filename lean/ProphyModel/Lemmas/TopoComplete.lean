/-
  Completeness of the rotation-based topological sort (C15 / C13): on every definition set whose dependencies among the
  defined names are acyclic (a rank function), `Topo.sort` returns a result.

  `settle_complete`: at one position every rotation brings a node of strictly smaller rank to the front, so the number of
  suffix nodes ranked below the head (`cnt`) strictly decreases; it is at most `len(suffix) ≤ total`.  `stuck` would need a
  self-dependency, which the rank excludes.  Include nodes may stand anywhere and carry any name: a NODE rank `nr` is used
  (a definition: the rank of its name; an Include node: one more than the ranks of its dependencies).
-/
import ProphyModel.Topo
import ProphyModel.Lemmas.TopoSort
namespace Prophy
namespace Topo
open Prophy.C15

theorem countP_lt_of_mem {α : Type} {p q : α → Bool} (hpq : ∀ x, p x = true → q x = true) {y : α}
    (hp : p y = false) (hq : q y = true) : ∀ {s : List α}, y ∈ s → s.countP p < s.countP q
  | n :: r, h => by
    have hmono : r.countP p ≤ r.countP q := List.countP_mono_left fun x _ => hpq x
    rw [List.countP_cons, List.countP_cons]
    rcases List.mem_cons.1 h with rfl | h
    · rw [hp, hq]
      simp only [Bool.false_eq_true, if_false, if_true]
      omega
    · have ih := countP_lt_of_mem hpq hp hq h
      by_cases hn : p n = true
      · rw [if_pos hn, if_pos (hpq n hn)]; omega
      · rw [if_neg hn]
        split <;> omega

/-- number of nodes of `s` whose rank is below `b` (`nr` ranks NODES: a definition by the rank of its
    name, an Include node above whatever it is made to depend on) -/
def cnt (nr : TNode → Nat) (b : Nat) (s : List TNode) : Nat :=
  s.countP (fun n => decide (nr n < b))

theorem cnt_lt (nr : TNode → Nat) {a b : Nat} (y : TNode) (hya : ¬ nr y < a) (hyb : nr y < b)
    (s : List TNode) (hy : y ∈ s) : cnt nr a s < cnt nr b s :=
  countP_lt_of_mem (fun x hx => decide_eq_true (Nat.lt_of_lt_of_le (of_decide_eq_true hx) (by omega)))
    (decide_eq_false hya) (decide_eq_true hyb) hy

/-- the unplaced available names are names of definitions (non-Include nodes) of the suffix -/
def Covered (known available : List String) (s : List TNode) : Prop :=
  ∀ d, known.contains d = false → available.contains d = true → d ∈ availableOf s

def Ranked (rank : String → Nat) (nr : TNode → Nat) (available : List String) (s : List TNode) : Prop :=
  ∀ n ∈ s, ∀ d ∈ n.deps, available.contains d = true → rank d < nr n

theorem Covered.perm {known available : List String} {s s' : List TNode}
    (h : Covered known available s) (hp : s'.Perm s) : Covered known available s' := by
  intro d hk ha
  have := h d hk ha
  exact ((availableOf_perm hp).mem_iff).2 this

theorem Ranked.perm {rank : String → Nat} {nr : TNode → Nat} {available : List String} {s s' : List TNode}
    (h : Ranked rank nr available s) (hp : s'.Perm s) : Ranked rank nr available s' :=
  fun n hn => h n (hp.mem_iff.1 hn)

theorem settle_complete (rank : String → Nat) (nr : TNode → Nat)
    (hnr : ∀ n, n.incl = false → nr n = rank n.name) (known available : List String) :
    ∀ (fuel : Nat) (node : TNode) (rest : List TNode),
      Covered known available (node :: rest) →
      Ranked rank nr available (node :: rest) →
      cnt nr (nr node) (node :: rest) < fuel →
      ∃ r, settle known available fuel (node :: rest) = some r
  | 0, _, _, _, _, h => by omega
  | fuel + 1, node, rest, hc, hr, hf => by
    rw [settle_succ]
    rcases rotate_spec node rest known available with ⟨_, hrot⟩ | ⟨dep, hp, hnone, hrot⟩ |
      ⟨dep, a, y, c, hp, rfl, hy, hrot⟩ <;> rw [hrot]
    · exact ⟨_, rfl⟩                                  -- done
    · -- stuck: an unplaced available dependency that is not later in the suffix is the head itself: excluded by the rank
      exfalso
      obtain ⟨hmem, hk, ha⟩ := pick_some hp
      have hrank : rank dep < nr node := hr node (List.mem_cons_self ..) dep hmem ha
      obtain ⟨m, hm, hmi, hmn⟩ := mem_availableOf.1 (hc dep hk ha)
      rcases List.mem_cons.1 hm with rfl | hm
      · rw [hnr m hmi, hmn] at hrank; omega
      · have := hnone m hm
        simp [isD, hmi, hmn] at this
    · obtain ⟨hmem, _, ha⟩ := pick_some hp        -- moved
      have hrank : rank dep < nr node := hr node (List.mem_cons_self ..) dep hmem ha
      have hy' : y.name = dep ∧ y.incl = false := by simpa [isD] using hy
      have hperm := moved_perm node y a c
      apply settle_complete rank nr hnr known available fuel y (node :: (a ++ c)) (hc.perm hperm) (hr.perm hperm)
      have h1 : cnt nr (nr y) (y :: node :: (a ++ c)) = cnt nr (nr y) (node :: (a ++ y :: c)) :=
        List.Perm.countP_eq _ hperm
      have h2 : cnt nr (nr y) (node :: (a ++ y :: c)) < cnt nr (nr node) (node :: (a ++ y :: c)) :=
        cnt_lt nr y (by omega) (by rw [hnr y hy'.2, hy'.1]; exact hrank) _ (hperm.mem_iff.1 (List.mem_cons_self ..))
      omega

theorem sortFrom_complete (rank : String → Nat) (nr : TNode → Nat)
    (hnr : ∀ n, n.incl = false → nr n = rank n.name) (total : Nat) (available : List String) :
    ∀ (k : Nat) (s : List TNode) (known : List String),
      s.length ≤ total → Covered known available s → Ranked rank nr available s →
      ∃ r, sortFrom total available k s known = some r
  | 0, s, _, _, _, _ => ⟨s, rfl⟩
  | k + 1, [], known, _, _, _ => by
    simp [sortFrom_succ, settle_nil]
  | k + 1, node :: rest, known, hl, hc, hr => by
    have hcnt : cnt nr (nr node) (node :: rest) < total + 1 := by
      have : cnt nr (nr node) (node :: rest) ≤ (node :: rest).length := List.countP_le_length
      omega
    obtain ⟨r, hs⟩ := settle_complete rank nr hnr known available (total + 1) node rest hc hr hcnt
    have hperm := settle_perm _ _ _ _ _ hs
    simp only [sortFrom_succ, hs]
    cases r with
    | nil => exact ⟨_, rfl⟩
    | cons m r' =>
      have hc' : Covered known available (m :: r') := hc.perm hperm
      have hr' : Ranked rank nr available (m :: r') := hr.perm hperm
      have hlen : (m :: r').length = (node :: rest).length := hperm.length_eq
      have hc'' : Covered (if m.incl then known else m.name :: known) available r' := by
        intro d hk ha
        by_cases hmi : m.incl = true
        · simp only [hmi, if_true] at hk
          rcases mem_availableOf.1 (hc' d hk ha) with ⟨x, hx, hxi, hxn⟩
          rcases List.mem_cons.1 hx with rfl | hx
          · rw [hmi] at hxi; cases hxi
          · exact mem_availableOf.2 ⟨x, hx, hxi, hxn⟩
        · have hmi' : m.incl = false := by simpa using hmi
          simp only [hmi', Bool.false_eq_true, if_false, List.contains_cons,
            Bool.or_eq_false_iff] at hk
          rcases mem_availableOf.1 (hc' d hk.2 ha) with ⟨x, hx, hxi, hxn⟩
          rcases List.mem_cons.1 hx with rfl | hx
          · simp [hxn] at hk
          · exact mem_availableOf.2 ⟨x, hx, hxi, hxn⟩
      have hr'' : Ranked rank nr available r' := fun n hn => hr' n (List.mem_cons_of_mem _ hn)
      obtain ⟨t, ht⟩ := sortFrom_complete rank nr hnr total available k r' _
        (by simp at hlen hl; omega) hc'' hr''
      exact ⟨m :: t, by simp [ht]⟩

def maxRank (rank : String → Nat) : List String → Nat
  | [] => 0
  | d :: r => max (rank d) (maxRank rank r)

theorem le_maxRank (rank : String → Nat) : ∀ (l : List String) (d : String), d ∈ l → rank d ≤ maxRank rank l
  | [], _, h => by simp at h
  | x :: l, d, h => by
    simp only [maxRank]
    rcases List.mem_cons.1 h with rfl | h
    · omega
    · have := le_maxRank rank l d h; omega

/-- Nothing is asked of the Include nodes (nothing depends on THEM: they are not `available` and `find_first_dep` skips
    them; one may carry the name of a definition); no uniqueness of names, no condition on the builtins. -/
theorem sort_complete' (g : List TNode) (rank : String → Nat)
    (hr : ∀ n ∈ g, n.incl = false → ∀ d ∈ n.deps, d ∈ availableOf g → rank d < rank n.name) :
    ∃ r, sort g = some r := by
  unfold sort
  apply sortFrom_complete rank
    (fun n => if n.incl then maxRank rank n.deps + 1 else rank n.name)
    (by intro n hn; simp [hn]) g.length (availableOf g) g.length g builtins (Nat.le_refl _)
  · intro d _ ha
    simpa using ha
  · intro n hn d hd ha
    by_cases hi : n.incl = true
    · have := le_maxRank rank n.deps d hd
      simp only [hi, if_true]; omega
    · have hi' : n.incl = false := by simpa using hi
      simp only [hi', Bool.false_eq_true, if_false]
      exact hr n hn hi' d hd (by simpa using ha)

/-- `sort_complete'` under two more hypotheses (distinct definition names, none of them a builtin), which the proof does not use -/
theorem sort_complete (g : List TNode) (rank : String → Nat)
    (_hn : (availableOf g).Nodup)
    (_hb : ∀ n ∈ g, n.incl = false → n.name ∉ builtins)
    (hr : ∀ n ∈ g, n.incl = false → ∀ d ∈ n.deps, d ∈ availableOf g → rank d < rank n.name) :
    ∃ r, sort g = some r :=
  sort_complete' g rank hr

/-- non-vacuity: a chain given in reverse order needs the maximal number of rotations at
    position 0 and is sorted -/
example : (sort [⟨"D", ["C"], false⟩, ⟨"C", ["B"], false⟩, ⟨"B", ["A"], false⟩, ⟨"A", [], false⟩]).map (·.map (·.name))
    = some ["A", "B", "C", "D"] := by decide

/-- non-vacuity with Include nodes: one carries the name of a definition, one is given a dependency
    on a definition (the hypothesis of `sort_complete'` holds with the rank A < B < S) -/
example : (sort [⟨"S", ["B"], true⟩, ⟨"S", ["B"], false⟩, ⟨"B", ["A"], false⟩, ⟨"i", [], true⟩, ⟨"A", [], false⟩]).map
    (·.map (fun n => (n.name, n.incl)))
    = some [("A", false), ("B", false), ("S", true), ("S", false), ("i", true)] := by decide

end Topo
end Prophy

#print axioms Prophy.Topo.sort_complete'
#print axioms Prophy.Topo.sort_complete
