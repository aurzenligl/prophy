/- A successful run of the Python decoder never steps back, and on a type that is not unlimited consumes a byte
   (an instance of `decTy_post`): what ends the `while` loop of greedy arrays and bounds the loop's end from below. -/
import ProphyModel.Lemmas.WFAccept
import ProphyModel.Lemmas.PyDecodeStep
namespace Prophy
open Prophy Accept
namespace Py

/-- a successful decode of a message of accepted, not unlimited type consumes at least one byte; the loop over
    the members never steps back -/
theorem decTy_pos_cases (e : Endian) : DecCases e
    (fun t _ _ _ _ sz => front t = true → pyRt t = true → (stTy t).unl = false → 1 ≤ sz)
    (fun all ms fs _ _ pos _ _ pe => pos ≤ pe ∧ (ms ≠ [] → fs = stMs ms → frontMs all ms [] = true →
      pyRtMs all ms [] = true → (stMs ms).any (·.unl) = false → pos + 1 ≤ pe)) where
  prim p data pos term i sz hx _ _ _ := by
    have := (decScalar_spec hx).2.1
    have := Prim.size_pos p
    omega
  byte data pos term i sz hx _ _ _ := by
    have := (decScalar_spec hx).2.1
    have := Prim.size_pos .u8
    omega
  enum nm es data pos term i sz hx _ _ _ _ := by
    have := (decScalar_spec hx).2.1
    have := Prim.size_pos .u32
    omega
  struct nm ms data pos term vs pos1 _ ih _ hf hp hu := by
    simp only [front, Bool.and_eq_true, Bool.not_eq_true'] at hf
    have hne : ms ≠ [] := by intro h0; subst h0; simp at hf
    have := ih.2 hne rfl hf.2 hp hu
    omega
  union nm arms data pos term d x idx an dd t w s _ _ _ _ _ _ _ _ _ _ := by
    simp only [unionSt, flagSize]; omega
  nil all fs ps data pos hints := ⟨Nat.le_refl _, fun h => absurd rfl h⟩
  cons all n t k r f fs p ps data pos hints v sz hints' vs pe hres iht _ ihm := by
    have hnp := le_nextPos p (pos + padTo pos f.align + sz)
    refine ⟨by omega, fun _ hfs hf hp hu => ?_⟩
    obtain ⟨rfl, -⟩ := List.cons.inj hfs
    have hft := (Accept.frontMs_head_tail hf).1
    obtain ⟨hpt, _, _, harr, _, _, _, _⟩ := (Accept.pyRtMs_cons all n t k r []).1 hp
    simp only [stMs, List.any_cons, Bool.or_eq_false_iff] at hu
    suffices 1 ≤ sz by omega
    have hel : (stTy t).unl = false → ∀ q w s, decTy e t data q false = .ok (w, s) → 1 ≤ s :=
      fun hut q w s hq => iht hq hft hpt hut
    have hkind := Accept.posKind_head all n t k r hf hp (by rintro rfl; simp [fieldSt] at hu)
    cases hres with
    | sizer c sz _ _ hx =>
      have := (decSizer_spec hx).2.2.1
      have := Prim.size_pos (sizerPrim t)
      omega
    | plain v sz hk _ hx => subst hk; exact hel hu.1 _ _ _ hx
    | absent x hk _ => subst hk; simp only [fieldSt, flagSize]; omega
    | present flag x v sz hk _ _ _ => subst hk; simp only [fieldSt, flagSize]; omega
    | bytes b sz _ hl _ hle _ =>
      rcases hkind with rfl | rfl | ⟨c, hc0, rfl⟩
      · exact absurd rfl hl.arr.1
      · exact absurd rfl hl.arr.2
      · have := hl.fixed c rfl; omega
    | arr ws cur sz _ hl hst _ hsz =>
      rcases hkind with rfl | rfl | ⟨c, hc0, rfl⟩
      · exact absurd rfl hl.arr.1
      · exact absurd rfl hl.arr.2
      · have := hl.fixed c rfl
        have := hst.length_le (hel (harr rfl))
        omega

theorem decTy_pos (e : Endian) : (t : Ty) → front t = true → pyRt t = true → (stTy t).unl = false →
    ∀ (data : Bytes) (pos : Nat) (term : Bool) (v : Val) (sz : Nat),
      decTy e t data pos term = .ok (v, sz) → 1 ≤ sz :=
  fun t hf hp hu data pos term v sz h => (decTy_post (decTy_pos_cases e)).1 t data pos term v sz h hf hp hu

theorem decMs_mono (e : Endian) (all : List Member) :
    ∀ (ms : List Member) (fs : List St) (ps : List (Option Nat)) (data : Bytes) (pos : Nat)
      (hints : List (String × Nat)) (vs : List Val) (posEnd : Nat),
      decMs e all ms fs ps data pos hints = .ok (vs, posEnd) → pos ≤ posEnd :=
  fun ms fs ps data pos hints vs pe h => ((decTy_post (decTy_pos_cases e)).2 ms all fs ps data pos hints vs pe h).1

theorem decMs_pos (e : Endian) (all : List Member) : (ms : List Member) → ms ≠ [] →
      frontMs all ms [] = true → pyRtMs all ms [] = true → (stMs ms).any (·.unl) = false →
      ∀ (ps : List (Option Nat)) (data : Bytes) (pos : Nat) (hints : List (String × Nat))
        (vs : List Val) (posEnd : Nat),
        decMs e all ms (stMs ms) ps data pos hints = .ok (vs, posEnd) → pos + 1 ≤ posEnd :=
  fun ms hne hf hp hu ps data pos hints vs pe h =>
    ((decTy_post (decTy_pos_cases e)).2 ms all _ ps data pos hints vs pe h).2 hne rfl hf hp hu

end Py
end Prophy
