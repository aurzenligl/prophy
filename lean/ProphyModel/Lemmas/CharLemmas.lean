/- Two facts about characters and runs that the lexer lemmas and the literal lemmas share. -/
namespace Prophy

theorem beq_false_of (p : Char → Bool) {c : Char} (y : Char) (hc : p c = true) (hy : p y = false) :
    (c == y) = false := by
  cases hb : c == y with
  | false => rfl
  | true => rw [eq_of_beq hb, hy] at hc; cases hc

theorem dropWhile_head (p : Char → Bool) (l : List Char) (x : Char)
    (h : (l.dropWhile p).head? = some x) : p x = false := by
  have := List.head?_dropWhile_not p l
  rw [h] at this
  exact this

end Prophy
