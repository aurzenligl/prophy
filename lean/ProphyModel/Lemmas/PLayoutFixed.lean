/- Types of fixed size in prophyc's terms.  The C++ encoder uses `PL.nodeTy_size_fixed` (node size = `Spec.sizeTy`);
   the other statements (alignments of possibly empty lists, kinds at most 2, `fixedMs_of_kind`) stand for themselves. -/
import ProphyModel.Lemmas.MemberLen
import ProphyModel.Lemmas.WFAccept

namespace Prophy

theorem PL.memsOf_align_cppenc : (ms : List Member) → max 1 (PL.maxAlign (PL.memsOf ms)) = Spec.alignMs ms
  | [] => rfl
  | m :: r => by
    have := Spec.alignMs_pos (m :: r)
    rw [PL.memsOf_align (m :: r) (by simp)]
    omega

theorem PL.armsOf_align_cppenc : (arms : List Arm) → max 1 (PL.maxNodeAlign (PL.armsOf arms)) = Spec.alignArms arms
  | [] => rfl
  | a :: r => by
    have := (Spec.alignArms_isAl (a :: r)).pos
    rw [PL.armsOf_align (a :: r) (by simp)]
    omega

theorem Cpp.fixedMs_of_kind : (ms : List Member) → Cpp.okMs ms = true →
    (∀ m ∈ PL.memsOf ms, m.kind = 0 ∧ m.isDynamic = false) →
    (∀ l, (PL.memsOf ms).getLast? = some l → l.greedy = false) → Spec.fixedMs ms = true
  | [], _, _, _ => rfl
  | .mk n t k :: r, h, h1, h2 => by
    obtain ⟨hot, _, _, _, hlast, hor⟩ := (Cpp.okMs_cons n t k r).1 h
    have hm := h1 (PL.memOf (PL.nodeTy t) k) (by simp [PL.memsOf])
    rw [PL.memOf_kind] at hm
    have iht := PL.fixed_of_kind_ok t hot hm.1
    rw [Spec.fixedMs_cons]
    cases r with
    | nil =>
      have hg := h2 (PL.memOf (PL.nodeTy t) k) (by simp [PL.memsOf])
      refine ⟨?_, iht, rfl⟩
      cases k <;> simp_all [PL.memOf, MKind.isStatic]
    | cons m' r' =>
      have ihr := Cpp.fixedMs_of_kind (m' :: r') hor
        (fun m hm' => h1 m (by simp only [PL.memsOf, List.mem_cons]; exact Or.inr hm'))
        (fun l hl => h2 l (by
          obtain ⟨n', t', k'⟩ := m'
          simp only [PL.memsOf] at hl ⊢
          rw [List.getLast?_cons_cons]; exact hl))
      refine ⟨?_, iht, ihr⟩
      rcases hlast with hl | hl
      · cases hl
      · cases k <;> simp_all [PL.memOf, MKind.isStatic, Accept.isGreedy]
theorem Cpp.fixedArms_of_ok : (arms : List Arm) → Cpp.okArms arms = true → Spec.fixedArms arms = true :=
  PL.fixedArms_of_ok

namespace PL

def endLoop : List Mem → Nat → Nat
  | [], bs => bs
  | m :: r, bs => endLoop r (bs + m.size + padTo bs m.align)

end PL

theorem PL.nodeTy_size_fixed (t : Ty) (h : Spec.fixedTy t = true) : (PL.nodeTy t).size = Spec.sizeTy t :=
  PL.nodeTy_size_ok t (PL.ok_of_fixed t h)

theorem PL.memsOf_size_fixed : (ms : List Member) → Spec.fixedMs ms = true →
    ∀ bs, PL.endLoop (PL.memsOf ms) bs = Spec.endMs ms bs false
  | [], _, bs => by simp [PL.memsOf, PL.endLoop, Spec.endMs]
  | .mk n t k :: r, h, bs => by
    obtain ⟨hk, ht, hr⟩ := (Spec.fixedMs_cons n t k r).1 h
    have hsz := PL.memOf_size_slot t k (PL.nodeTy_size_fixed t ht)
    have hma := PL.memOf_align_member n t k
    have ih := PL.memsOf_size_fixed r hr
    simp only [PL.memsOf, PL.endLoop]
    rw [ih, hsz, hma, Spec.endMs_cons, Spec.endsBlock_of_fixed n t k r h]
    simp only [Bool.false_eq_true, if_false, alignUp]
    congr 1; omega

theorem PL.armsOf_size_fixed : (arms : List Arm) → Spec.fixedArms arms = true →
    PL.maxSize (PL.armsOf arms) = Spec.maxArm arms :=
  fun arms h => PL.armsOf_size_ok arms (PL.okArms_of_fixed arms h)

namespace PL

theorem maxKind_le_two : (ms : List Mem) → (∀ m ∈ ms, m.kind ≤ 2) → maxKind ms ≤ 2
  | [], _ => by simp [maxKind]
  | m :: r, h => by
    have ih := maxKind_le_two r (fun x hx => h x (List.mem_cons_of_mem _ hx))
    have hm : (m.kind : Nat) ≤ 2 := h m (List.mem_cons_self ..)
    simp only [maxKind]
    exact Nat.max_le.2 ⟨hm, ih⟩

theorem structKind_le_two (ms : List Mem) (h : ∀ m ∈ ms, m.kind ≤ 2) : structKind ms ≤ 2 := by
  have hk := maxKind_le_two ms h
  unfold structKind
  cases ms.getLast? with
  | none => simp
  | some l =>
    simp only [foldl_maxKind]
    have h0 : Nat.max 0 (maxKind ms) ≤ 2 := Nat.max_le.2 ⟨by omega, hk⟩
    have h1 : Nat.max (Nat.max 0 (maxKind ms)) 1 ≤ 2 := Nat.max_le.2 ⟨h0, by omega⟩
    split
    · exact Nat.le_refl _
    · split
      · exact h1
      · exact h0

end PL

mutual
  theorem PL.kind_le_two : (t : Ty) → (PL.nodeTy t).kind ≤ 2
    | .prim _ => by simp [PL.nodeTy]
    | .byte => by simp [PL.nodeTy]
    | .enum _ _ => by simp [PL.nodeTy]
    | .union _ _ => by simp [PL.nodeTy, PL.unionNode]
    | .struct _ ms => by
      simp only [PL.nodeTy]
      exact PL.structKind_le_two _ (PL.memsOf_kind_le_two ms)
  theorem PL.memsOf_kind_le_two : (ms : List Member) → ∀ m ∈ PL.memsOf ms, m.kind ≤ 2
    | [] => by simp [PL.memsOf]
    | .mk _ t k :: r => by
      intro m hm
      simp only [PL.memsOf, List.mem_cons] at hm
      rcases hm with rfl | hm
      · rw [PL.memOf_kind]; exact PL.kind_le_two t
      · exact PL.memsOf_kind_le_two r m hm
end

open WF

theorem Spec.mslen : (vs : List Val) → ∀ (ms all : List Member) (allv : List Val),
      Spec.fixedMs ms = true → hasMs all ms vs = true → ∀ (off : Nat),
      off + Spec.clen (Spec.chunksMs all allv ms vs off false) = Spec.endMs ms off false :=
  fsz_ms

end Prophy
