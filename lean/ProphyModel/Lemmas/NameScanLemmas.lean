/-
  Lemmas for C12 (names): the name scan of `check_cpp_names` (`NameScan.scan`) against calc's lexer (`Expr.lex false`).
-/
import ProphyModel.Expr
import ProphyModel.NameScan
import ProphyModel.Lemmas.ExprLex
import ProphyModel.Lemmas.ExprAlternating
namespace Prophy
namespace NameScan
open Prophy.Expr

theorem scanGo_nil (b : Bool) : scanGo b [] = [] := rfl

theorem scanGo_start (c : Char) (r : List Char) (hs : isIdStart c = true) :
    scanGo false (c :: r) = String.ofList (c :: r.takeWhile isIdChar) :: scanGo true r := by
  rw [scanGo]; simp [hs]

theorem scanGo_skip (b : Bool) (c : Char) (r : List Char) (hs : b = true ∨ isIdStart c = false) :
    scanGo b (c :: r) = scanGo (isIdChar c) r := by
  rw [scanGo]
  rcases hs with hs | hs <;> simp [hs]

theorem scanGo_flag (b b' : Bool) (cs : List Char) (hh : ∀ x, cs.head? = some x → isIdStart x = false) :
    scanGo b cs = scanGo b' cs := by
  cases cs with
  | nil => rw [scanGo_nil, scanGo_nil]
  | cons c r =>
    rw [scanGo_skip b c r (Or.inr (hh c rfl)), scanGo_skip b' c r (Or.inr (hh c rfl))]

theorem scanGo_ids : ∀ (pre rest : List Char), (∀ x ∈ pre, isIdChar x = true) →
    scanGo true (pre ++ rest) = scanGo true rest
  | [], _, _ => rfl
  | c :: pre, rest, h => by
    rw [List.cons_append, scanGo_skip true c _ (Or.inl rfl), h c (List.mem_cons_self ..)]
    exact scanGo_ids pre rest (fun x hx => h x (List.mem_cons_of_mem _ hx))

/-- after a maximal run, the scan goes on as from a fresh start -/
theorem scanGo_run (b : Bool) (r : List Char) :
    scanGo true r = scanGo b (r.dropWhile isIdChar) := by
  conv => lhs; rw [← List.takeWhile_append_dropWhile (p := isIdChar) (l := r)]
  rw [scanGo_ids _ _ (takeWhile_all isIdChar r)]
  exact scanGo_flag _ _ _
    (fun x hx => not_idStart_of_not_idChar x (dropWhile_head isIdChar r x hx))

theorem scanF_eq_scanGo (n : Nat) : ∀ (b : Bool) (cs : List Char), cs.length < n → scanF n b cs = scanGo b cs := by
  induction n with
  | zero => intro b cs hn; omega
  | succ n ih =>
    intro b cs hn
    cases cs with
    | nil => rw [scanGo_nil]; rfl
    | cons c r =>
      simp only [List.length_cons] at hn
      rw [scanF]
      by_cases hc : (!b && isIdStart c) = true
      · rw [if_pos hc]
        simp only [Bool.and_eq_true, Bool.not_eq_true'] at hc
        obtain ⟨rfl, hs⟩ := hc
        have hi := isIdStart_isIdChar c hs
        rw [takeWhileAcc_eq]
        simp only [List.reverse_nil, List.nil_append, List.takeWhile_cons, List.dropWhile_cons, hi, if_true]
        rw [scanGo_start c r hs, scanGo_run true r]
        have hlen : (r.dropWhile isIdChar).length < n := by
          have := (List.dropWhile_suffix (l := r) isIdChar).length_le
          omega
        rw [ih true _ hlen]
      · rw [if_neg hc, ih _ r (by omega)]
        have : b = true ∨ isIdStart c = false := by
          cases b <;> cases h : isIdStart c <;> simp_all
        rw [scanGo_skip b c r this]

theorem scan_eq_scanGo (cs : List Char) : scan cs = scanGo false cs :=
  scanF_eq_scanGo _ _ _ (Nat.lt_succ_self _)

theorem identsOf_cons_other (t : Tok) (ts : List Tok) (h : ∀ s, t ≠ Tok.ident s) :
    identsOf (t :: ts) = identsOf ts := by
  cases t with
  | ident s => exact absurd rfl (h s)
  | _ => rfl

/-- `b`: the state of `okSeq` in which the rest is read; after a number no name follows -/
theorem scanGo_step {c : Char} {r : List Char} {ot : Option Tok} {rest : List Char} {b : Bool}
    (h : Step false c r ot rest) (hi : isIdStart c = false) (hn : NextOk b rest)
    (hb : c.isDigit = true → b = false) : scanGo false (c :: r) = scanGo false rest := by
  rw [scanGo_skip false c r (Or.inr hi)]
  rcases h.shape with ⟨hc, -, rfl | ⟨-, rfl⟩⟩ | ⟨hc, pre, rfl, hall, -⟩
  · rw [hc]
  · rw [hc, scanGo_skip false c rest (Or.inr hi), hc]
  · -- a number: its characters are identifier characters, and what follows is no name
    have hd : c.isDigit = true := by
      rw [isIdChar_eq, hi, Bool.false_or] at hc
      exact hc
    rw [hc, scanGo_ids pre rest hall]
    refine scanGo_flag _ _ _ (fun x hx => ?_)
    cases rest with
    | nil => cases hx
    | cons y r2 => cases hx; exact (hn _ _ rfl).noName (hb hd)

theorem scanGo_is_idents {n : Nat} {cs : List Char} {ts : List Tok} (hl : lex false n cs = some ts) :
    ∀ st, okSeq st ts = true → scanGo false cs = identsOf ts := by
  refine lex_ok_induction (P := fun _ cs ts => scanGo false cs = identsOf ts) (fun _ => rfl) ?_ hl
  intro st c r ot rest ts hh hn ih
  cases hi : isIdStart c with
  | true =>
    -- a name: the scan reports the same run
    rw [lexHead_ident false c r hi, takeWhileAcc_eq] at hh
    simp only [List.reverse_nil, List.nil_append, List.takeWhile_cons, List.dropWhile_cons,
      isIdStart_isIdChar c hi, if_true, Option.some.injEq, Prod.mk.injEq] at hh
    obtain ⟨rfl, rfl⟩ := hh
    rw [scanGo_start c r hi, scanGo_run false r, ih]
    rfl
  | false =>
    have hst := lexHead_step hh
    rw [scanGo_step hst hi hn (fun hd => by obtain ⟨v, rfl⟩ := hst.tok.digit hd; rfl), ih]
    cases ot with
    | none => rfl
    | some t =>
      refine (identsOf_cons_other t ts (fun s e => ?_)).symm
      rw [hst.tok.ident s (by rw [e])] at hi
      cases hi

end NameScan
end Prophy
