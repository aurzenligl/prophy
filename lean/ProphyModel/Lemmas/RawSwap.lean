/- C09, the generated raw `prophy::swap` on whole messages: the fuel the model needs, the theorems, and witnesses that
   their hypotheses are needed. -/
import ProphyModel.Lemmas.RawSwapWalk
namespace Prophy
namespace Raw
open Accept PL WF

mutual
  /-- depth of the model's call tree on a schema (`swapTy` -> `swapParts` -> `swapMembers` ...); `swapMembers` calls
      itself once per member, so the members of a struct count as well as the nesting -/
  def depthTy : Ty → Nat
    | .struct _ ms => 2 + depthMs ms
    | .union _ arms => 1 + depthArms arms
    | _ => 1
  def depthMs : List Member → Nat
    | [] => 0
    | .mk _ t _ :: r => 1 + max (depthTy t + 1) (depthMs r)
  def depthArms : List Arm → Nat
    | [] => 0
    | .mk _ _ t :: r => max (depthTy t) (depthArms r)
end

/-- offset of the unlimited last member's own bytes in the encoding of an unlimited struct -/
def unlStart : Ty → Val → Nat
  | .struct _ ms, .struct vs => lastStart ms vs ms vs 0 false
  | _, _ => 0

/-- the fuel `needTy t v` the model's swap needs is at most `depthTy t` + the encoded length -/
def BOK (v : Val) : Prop := ∀ (t : Ty), front t = true → pyRt t = true → v.isCounter = false →
  hasField [] .plain t v = true → needTy t v ≤ depthTy t + Spec.clen (Spec.chunksTy t v)

/-- `Deep BOK v`, written as a conjunction -/
def DeepB (v : Val) : Prop :=
  BOK v ∧ (∀ x, v = .present x → BOK x) ∧ (∀ xs, v = .arr xs → ∀ x ∈ xs, BOK x)

theorem bound_elems (t : Ty) (hf : front t = true) (hp : pyRt t = true) (hu : (Py.stTy t).unl = false) :
    (xs : List Val) → (∀ x ∈ xs, BOK x) → hasElems t xs = true →
    needElems t xs ≤ depthTy t + 1 + Spec.clen (Spec.chunksElems t xs)
  | [], _, _ => by simp only [needElems]; omega
  | x :: xs, hok, hh => by
    obtain ⟨hc, hx, hr⟩ := (hasElems_cons t x xs).1 hh
    have h1 := hok x (List.mem_cons_self ..) t hf hp hc hx
    have h2 := bound_elems t hf hp hu xs (fun y hy => hok y (List.mem_cons_of_mem _ hy)) hr
    have h3 := Spec.clen_pos t x hf hp hu hc hx
    simp only [needElems, Spec.chunksElems, Spec.clen_append]
    omega

theorem clen_fc_arr (all : List Member) (allv : List Val) (n : String) (t : Ty) (k : MKind) (xs : List Val)
    (hk : isArrayKind k = true) :
    Spec.clen (Spec.chunksElems t xs) ≤ Spec.clen (Spec.fieldChunks all allv n t k (.arr xs)) := by
  cases k <;> simp [isArrayKind] at hk <;> simp [Spec.fieldChunks, Spec.clen_append]

theorem clen_fc_bytes (all : List Member) (allv : List Val) (n : String) (t : Ty) (k : MKind) (b : Bytes)
    (hk : isArrayKind k = true) :
    b.length ≤ Spec.clen (Spec.fieldChunks all allv n t k (.bytes b)) := by
  cases k <;> simp [isArrayKind] at hk <;> simp [Spec.fieldChunks, Spec.clen, Spec.Chunk.len]

theorem bound_plain (all : List Member) (allv : List Val) (n : String) (t : Ty) (v : Val)
    (hf : front t = true) (hp : pyRt t = true) (hc : v.isCounter = false) (hnf : needField t v = needTy t v)
    (hh : hasField all .plain t v = true) (hdeep : Deep BOK v) :
    needField t v ≤ depthTy t + 1 + Spec.clen (Spec.fieldChunks all allv n t .plain v) := by
  have hh' : hasField [] .plain t v = true := by rw [hasField_plain_indep [] all]; exact hh
  have := hdeep.self t hf hp hc hh'
  rw [Spec.fieldChunks_plain all allv n t _ hc, hnf]
  omega

theorem bound_field (all : List Member) (allv : List Val) (n : String) (t : Ty) (k : MKind) (v : Val)
    (hf : front t = true) (hp : pyRt t = true) (hh : hasField all k t v = true)
    (hua : isArrayKind k = true → (Py.stTy t).unl = false) (hdeep : Deep BOK v) :
    needField t v ≤ depthTy t + 1 + Spec.clen (Spec.fieldChunks all allv n t k v) := by
  cases v with
  | sizer => simp only [needField]; omega
  | absent => exact Nat.zero_le _
  | present x =>
    obtain ⟨rfl, hxc, hxh⟩ := (hasField_present all k t x).1 hh
    have hx' : hasField [] .plain t x = true := by rw [hasField_plain_indep [] all]; exact hxh
    have := hdeep.inner x rfl t hf hp hxc hx'
    simp only [needField, Spec.fieldChunks, Spec.clen_append]
    omega
  | arr xs =>
    obtain ⟨_, hlf, hel⟩ := (hasField_arr_iff all k t xs).1 hh
    have hk := isArrayKind_of_lenFits hlf
    have h1 := bound_elems t hf hp (hua hk) xs (hdeep.elems xs rfl) hel
    have h2 := clen_fc_arr all allv n t k xs hk
    simp only [needField]
    omega
  | bytes b =>
    obtain ⟨_, hlf⟩ := (hasField_bytes_iff all k t b).1 hh
    have h2 := clen_fc_bytes all allv n t k b
      (isArrayKind_of_lenFits hlf)
    simp only [needField]
    omega
  | int i =>
    obtain ⟨rfl, _⟩ := hasField_int all k t i hh
    exact bound_plain all allv n t _ hf hp rfl rfl hh hdeep
  | struct vs =>
    obtain ⟨rfl, _⟩ := hasField_struct all k t vs hh
    exact bound_plain all allv n t _ hf hp rfl rfl hh hdeep
  | union idx x =>
    obtain ⟨rfl, _⟩ := hasField_union all k t idx x hh
    exact bound_plain all allv n t _ hf hp rfl rfl hh hdeep

theorem bound_ms (all : List Member) (allv : List Val) : (ms : List Member) → ∀ (vs : List Val) (before : List Member),
    frontMs all ms before = true → pyRtMs all ms before = true → hasMs all ms vs = true →
    (∀ v ∈ vs, Deep BOK v) → ∀ (off : Nat) (ad : Bool),
    needMs ms vs ≤ depthMs ms + Spec.clen (Spec.chunksMs all allv ms vs off ad)
  | [], vs, _, _, _, _, _, _, _ => by cases vs <;> simp [needMs]
  | .mk n t k :: r, vs, before, hfm, hpm, hh, hdeep, off, ad => by
    cases vs with
    | nil => simp [hasMs] at hh
    | cons v vs =>
      obtain ⟨ht, hr⟩ := Accept.frontMs_head_tail hfm
      obtain ⟨hpt, _, _, hua, _, _, _, hpr⟩ := (Accept.pyRtMs_cons all n t k r before).1 hpm
      obtain ⟨_, hfd, hhr⟩ := (hasMs_cons all n t k r v vs).1 hh
      have h1 := bound_field all allv n t k v ht hpt hfd hua (hdeep v (List.mem_cons_self ..))
      have h2 := bound_ms all allv r vs _ hr hpr hhr (fun x hx => hdeep x (List.mem_cons_of_mem _ hx))
        (off + padTo off (if ad then Spec.blockAlign (.mk n t k :: r) else Spec.alignMember (.mk n t k))
          + Spec.clen (Spec.fieldChunks all allv n t k v)) (Spec.endsBlock (.mk n t k))
      rw [needMs_cons, Spec.chunksMs_cons]
      simp only [depthMs, Spec.clen_cons, Spec.clen_append, Spec.Chunk.len]
      omega

theorem bok_struct (vs : List Val) (hvs : ∀ v ∈ vs, Deep BOK v) : BOK (.struct vs) := by
  intro t hf hp hc hh
  obtain ⟨-, nm, ms, rfl, hhm⟩ := hasField_struct [] .plain t vs hh
  obtain ⟨_, _, _, hfm, hpm⟩ := Accept.struct_facts nm ms hf hp
  have := bound_ms ms vs ms vs [] hfm hpm hhm hvs 0 false
  simp only [needTy, depthTy, Spec.chunksTy, Spec.clen_append]
  omega

theorem depthArms_get : (arms : List Arm) → ∀ (idx : Nat) (a : Arm), arms[idx]? = some a →
    depthTy a.ty ≤ depthArms arms
  | [], idx, a, h => by simp at h
  | .mk n d t :: r, idx, a, h => by
    cases idx with
    | zero => simp at h; subst h; simp only [depthArms, Arm.ty]; omega
    | succ i =>
      simp at h
      have := depthArms_get r i a h
      simp only [depthArms]; omega

theorem bok_union (idx : Nat) (x : Val) (hx : BOK x) : BOK (.union idx x) := by
  intro t hf hp hc hh
  obtain ⟨-, nm, arms, an, d, t', rfl, harm, hxc, hxh⟩ := hasField_union [] .plain t idx x hh
  obtain ⟨hft', hpt', -⟩ := Accept.union_canon .big nm arms idx an d t' x hf hp harm hxc hxh
  have hd : depthTy t' ≤ depthArms arms := depthArms_get arms idx _ harm
  have := hx t' hft' hpt' hxc hxh
  simp only [needTy, harm, depthTy, Spec.chunksTy, Spec.clen_append, Spec.clen_cons, Spec.Chunk.len]
  omega

theorem bok_vacuous (v : Val) (h : ∀ t, hasField [] .plain t v = false) : BOK v := by
  intro t hf hp hc hh
  rw [h t] at hh; cases hh

theorem bok_int (i : Int) : BOK (.int i) := by
  intro t hf hp hc hh
  cases t <;> simp [hasField] at hh <;> simp [needTy, depthTy]

theorem deepB_ok (v : Val) : DeepB v :=
  have h := Val.deep_ind bok_int (fun t hf hp hc => by cases hc) bok_vacuous bok_struct bok_union v
  ⟨h.self, h.inner, h.elems⟩

theorem allB_ok : (vs : List Val) → ∀ v ∈ vs, DeepB v :=
  fun _ v _ => deepB_ok v

theorem needTy_le (t : Ty) (v : Val) (hf : front t = true) (hp : pyRt t = true) (hv : hasType t v = true) :
    needTy t v ≤ depthTy t + (Spec.enc t v .big).length := by
  simp only [hasType, Bool.and_eq_true, Bool.not_eq_true'] at hv
  have := (deepB_ok v).1 t hf hp hv.1 hv.2
  simpa only [Spec.enc, Spec.render_length] using this

end Raw

theorem Raw.swapTy_spec (t : Ty) (v : Val) (pre post : Bytes) (fuel pos : Nat)
    (hf : Accept.front t = true) (hp : Accept.pyRt t = true) (hd : Raw.partsOk t = true)
    (hv : hasType t v = true) (ha : WF.agreeTy t v = true) (hu : Spec.unlTy t = false)
    (hpre : pre.length = pos) (hal : Spec.alignTy t ∣ pos) (hfuel : Raw.needTy t v ≤ fuel) :
    Raw.swapTy fuel t (pre ++ Spec.enc t v .big ++ post) pos =
      some (pre ++ Spec.enc t v .little ++ post, pos + (Spec.enc t v .little).length) := by
  simp only [hasType, Bool.and_eq_true, Bool.not_eq_true'] at hv
  have := (Raw.deep_ok v).self t pre post fuel pos hf hp hd hv.1 hv.2 ha hu hpre hal hfuel
  simpa only [Spec.enc, Spec.render_length] using this

/-- C09 for unlimited messages (prefix variant): everything before the own bytes of the unlimited last member is
    converted, the rest of the buffer is untouched, the returned pointer is the aligned address of that member -/
theorem Raw.swapTy_unl_spec (t : Ty) (v : Val) (pre post : Bytes) (fuel pos : Nat)
    (hf : Accept.front t = true) (hp : Accept.pyRt t = true) (hd : Raw.partsOk t = true)
    (hv : hasType t v = true) (ha : WF.agreeTy t v = true) (hu : Spec.unlTy t = true)
    (hpre : pre.length = pos) (hal : Spec.alignTy t ∣ pos) (hfuel : Raw.needTy t v ≤ fuel) :
    Raw.swapTy fuel t (pre ++ Spec.enc t v .big ++ post) pos =
      some (pre ++ ((Spec.enc t v .little).take (Raw.unlStart t v) ++ (Spec.enc t v .big).drop (Raw.unlStart t v)) ++ post,
        pos + alignUp (Raw.unlStart t v) (Spec.alignTy t)) := by
  obtain ⟨hc, hh⟩ := (hasType_iff t v).1 hv
  obtain ⟨nm, ms, rfl⟩ := Spec.dynTy_struct t (Spec.dynTy_of_unl t hu)
  obtain ⟨vs, rfl⟩ : ∃ vs, v = .struct vs := by
    rcases hasField_plain_shape [] _ v hh with rfl | ⟨i, rfl⟩ | ⟨vs, rfl⟩ | ⟨i, x, rfl⟩
    · cases hc
    · exact (Bool.false_ne_true hh).elim
    · exact ⟨vs, rfl⟩
    · exact (Bool.false_ne_true hh).elim
  have h := Raw.swap_struct true nm ms vs pre post fuel pos hf hp hd hh ha hu (fun x _ => Raw.deep_ok x) hpre hal hfuel
  unfold Spec.enc
  rw [h]
  have hle := Raw.lastStart_le ms vs ms vs 0 false
  have htd := Raw.outMs_take_drop ms vs ms vs 0 false
  simp only [Nat.zero_add, Nat.sub_zero] at hle htd
  simp only [Raw.unlStart, Raw.retOff, if_true, Spec.chunksTy, Spec.render_append, render_cons, render_nil,
    Spec.Chunk.render, List.append_nil, Spec.alignTy]
  rw [List.take_append_of_le_length (by simpa using hle), List.drop_append_of_le_length (by simpa using hle), htd]
  simp [List.append_assoc]

/- `Raw.swap` on a whole message.  Beyond acceptance and `Raw.partsOk` (see `RawSwapMember`) the statements need fuel: the
   model recurses on a counter started at `4 * length + 256`, which a schema with a deeper call tree exhausts although
   the C++ code has no such limit; the hypothesis is `hfuel` (on the value) or `hdepth` (on the schema only). -/

theorem Raw.swap_spec_fuel (t : Ty) (v : Val) (tail : Bytes)
    (hf : Accept.front t = true) (hp : Accept.pyRt t = true) (hd : Raw.partsOk t = true)
    (hv : hasType t v = true) (ha : WF.agreeTy t v = true) (hu : Spec.unlTy t = false)
    (hfuel : Raw.needTy t v ≤ 4 * (Spec.enc t v .big ++ tail).length + 256) :
    Raw.swap t (Spec.enc t v .big ++ tail) = some (Spec.enc t v .little ++ tail, (Spec.enc t v .little).length) := by
  have := Raw.swapTy_spec t v [] tail (4 * (Spec.enc t v .big ++ tail).length + 256) 0 hf hp hd hv ha hu rfl
    (Nat.dvd_zero _) hfuel
  simpa [Raw.swap] using this

/-- C09 with the hypothesis `hdepth` on the schema only (`Raw.depthTy`: nesting and members, counted
    in calls of the model, is within the constant part of the model's fuel) -/
theorem Raw.swap_spec (t : Ty) (v : Val) (tail : Bytes)
    (hf : Accept.front t = true) (hp : Accept.pyRt t = true) (hd : Raw.partsOk t = true)
    (hv : hasType t v = true) (ha : WF.agreeTy t v = true) (hu : Spec.unlTy t = false)
    (hdepth : Raw.depthTy t ≤ 256) :
    Raw.swap t (Spec.enc t v .big ++ tail) = some (Spec.enc t v .little ++ tail, (Spec.enc t v .little).length) := by
  apply Raw.swap_spec_fuel t v tail hf hp hd hv ha hu
  have := Raw.needTy_le t v hf hp hv
  simp only [List.length_append]
  omega

/-- `Raw.swapTy_unl_spec` for `Raw.swap` on a whole message -/
theorem Raw.swap_unl_spec (t : Ty) (v : Val) (tail : Bytes)
    (hf : Accept.front t = true) (hp : Accept.pyRt t = true) (hd : Raw.partsOk t = true)
    (hv : hasType t v = true) (ha : WF.agreeTy t v = true) (hu : Spec.unlTy t = true)
    (hdepth : Raw.depthTy t ≤ 256) :
    Raw.swap t (Spec.enc t v .big ++ tail) =
      some ((Spec.enc t v .little).take (Raw.unlStart t v) ++ (Spec.enc t v .big).drop (Raw.unlStart t v) ++ tail,
        alignUp (Raw.unlStart t v) (Spec.alignTy t)) := by
  have hfuel : Raw.needTy t v ≤ 4 * (Spec.enc t v .big ++ tail).length + 256 := by
    have := Raw.needTy_le t v hf hp hv
    simp only [List.length_append]
    omega
  have := Raw.swapTy_unl_spec t v [] tail (4 * (Spec.enc t v .big ++ tail).length + 256) 0 hf hp hd hv ha hu rfl
    (Nat.dvd_zero _) hfuel
  simpa [Raw.swap] using this

/-! ## witnesses: the added hypotheses are needed

  (`#guard` evaluates the model; `decide` cannot be used because the generated field names are `String`s.) -/
namespace RawSwapExamples

/-- everything `Raw.swap_spec` assumes, except `partsOk` and the depth bound -/
def accepted (t : Ty) (v : Val) : Bool :=
  Accept.front t && Accept.pyRt t && hasType t v && WF.agreeTy t v && !Spec.unlTy t

def swapsRight (t : Ty) (v : Val) (tail : Bytes) : Bool :=
  Raw.swap t (Spec.enc t v .big ++ tail) == some (Spec.enc t v .little ++ tail, (Spec.enc t v .little).length)

/-- D23: part 2 (`y`, `z`) is 8-aligned, part 3 (`w`) 1-aligned: the end of `z` is aligned to 8 before `w` is read -/
def D23 : Ty := .struct "S" [.mk "n" (.prim .u32) .plain, .mk "x" .byte (.dyn "n" 0), .mk "y" (.prim .u64) .plain,
  .mk "z" .byte (.dyn "n" 0), .mk "w" (.prim .u8) .plain]
def d23 : Val := .struct [.sizer, .bytes [1], .int 77, .bytes [2], .int 5]
#guard accepted D23 d23 && !Raw.partsOk D23 && !swapsRight D23 d23 []
#guard Raw.namesOk [.mk "n" (.prim .u32) .plain, .mk "x" .byte (.dyn "n" 0), .mk "y" (.prim .u64) .plain,
    .mk "z" .byte (.dyn "n" 0), .mk "w" (.prim .u8) .plain] &&
  !Raw.monoOk [.mk "n" (.prim .u32) .plain, .mk "x" .byte (.dyn "n" 0), .mk "y" (.prim .u64) .plain,
    .mk "z" .byte (.dyn "n" 0), .mk "w" (.prim .u8) .plain]

/-- not D23 although the part alignments decrease (4 then 1): the `u32` array always ends 4-aligned (second
    disjunct of `Raw.pairOk`) -/
def Dec : Ty := .struct "S" [.mk "n" (.prim .u32) .plain, .mk "a" (.prim .u32) (.dyn "n" 0),
  .mk "b" (.prim .u32) (.dyn "n" 0), .mk "c" .byte (.dyn "n" 0)]
def dec : Val := .struct [.sizer, .arr [.int 1], .arr [.int 2], .bytes [3]]
#guard accepted Dec dec && Raw.partsOk Dec && swapsRight Dec dec [9, 9]

/-- name clash 1: a member `has_x` after an optional `x` -/
def Clash1 : Ty := .struct "S" [.mk "x" (.prim .u32) .optional, .mk "has_x" (.prim .u64) .plain]
def clash1 : Val := .struct [.present (.int 5), .int 7]
#guard accepted Clash1 clash1 && !Raw.partsOk Clash1 && !swapsRight Clash1 clash1 []

/-- name clash 2: a member called like a generated padder -/
def Clash2 : Ty := .struct "S" [.mk "x" (.prim .u8) .plain, .mk "_padding0" (.prim .u64) .plain]
def clash2 : Val := .struct [.int 5, .int 7]
#guard accepted Clash2 clash2 && !Raw.partsOk Clash2 && !swapsRight Clash2 clash2 []

/-- a shifted counter: the counter holds 3 for 2 elements, the swap also reverses the first two bytes of the tail -/
def Shift : Ty := .struct "S" [.mk "n" (.prim .u32) .plain, .mk "x" (.prim .u16) (.dyn "n" 1)]
def shift : Val := .struct [.sizer, .arr [.int 1, .int 2]]
#guard accepted Shift shift && !Raw.partsOk Shift && !swapsRight Shift shift [1, 2, 3, 4]

/-- fuel: 90 nested single-member structs around a `u8` -/
def nest : Nat → Ty
  | 0 => .prim .u8
  | n + 1 => .struct "N" [.mk "a" (nest n) .plain]
def nestv : Nat → Val
  | 0 => .int 1
  | n + 1 => .struct [nestv n]
#guard accepted (nest 90) (nestv 90) && Raw.partsOk (nest 90) && !swapsRight (nest 90) (nestv 90) []
#guard Raw.depthTy (nest 90) == 361 && Raw.needTy (nest 90) (nestv 90) == 271
#guard accepted (nest 80) (nestv 80) && Raw.partsOk (nest 80) && swapsRight (nest 80) (nestv 80) []

/-- a message the theorem covers: dynamic array of dynamic structs, optional, union, limited array, bytes -/
def Inner : Ty := .struct "I" [.mk "k" (.prim .u8) .plain, .mk "d" (.prim .u16) (.dyn "k" 0)]
def U : Ty := .union "U" [.mk "a" 1 (.prim .u8), .mk "b" 2 (.prim .u64)]
def Big : Ty := .struct "B" [.mk "n" (.prim .u32) .plain, .mk "xs" Inner (.dyn "n" 0), .mk "o" (.prim .u64) .optional,
  .mk "u" U .plain, .mk "m" (.prim .u16) .plain, .mk "l" (.prim .u32) (.limited "m" 3), .mk "e" (.enum "E" [("A", 1)]) .plain,
  .mk "bs" .byte (.fixed 3)]
def big : Val := .struct [.sizer, .arr [.struct [.sizer, .arr [.int 1, .int 2, .int 3]], .struct [.sizer, .arr []]],
  .present (.int 258), .union 1 (.int 772), .sizer, .arr [.int 5, .int 6], .int 1, .bytes [1, 2, 3]]
#guard accepted Big big && Raw.partsOk Big && decide (Raw.depthTy Big ≤ 256) && swapsRight Big big [7, 7, 7]

/-- an unlimited message: the greedy tail (and, in `Nested`, the whole unlimited last struct) is left big-endian -/
def Tail : Ty := .struct "T" [.mk "a" (.prim .u32) .plain, .mk "g" (.prim .u16) .greedy]
def tailv : Val := .struct [.int 1, .arr [.int 2, .int 3]]
def Nested : Ty := .struct "O" [.mk "x" (.prim .u16) .plain, .mk "t" Tail .plain]
def nestedv : Val := .struct [.int 5, tailv]
def unlRight (t : Ty) (v : Val) (tail : Bytes) : Bool :=
  Raw.swap t (Spec.enc t v .big ++ tail) ==
    some ((Spec.enc t v .little).take (Raw.unlStart t v) ++ (Spec.enc t v .big).drop (Raw.unlStart t v) ++ tail,
      alignUp (Raw.unlStart t v) (Spec.alignTy t))
#guard Spec.unlTy Tail && Raw.partsOk Tail && unlRight Tail tailv [9] && Raw.unlStart Tail tailv == 4
#guard Spec.unlTy Nested && Raw.partsOk Nested && unlRight Nested nestedv [9] && Raw.unlStart Nested nestedv == 4
#guard Raw.swap Nested (Spec.enc Nested nestedv .big) == some ([5, 0, 0, 0, 0, 0, 0, 1, 0, 2, 0, 3], 4)

end RawSwapExamples

end Prophy

#print axioms Prophy.Raw.swapTy_spec
#print axioms Prophy.Raw.swap_spec_fuel
#print axioms Prophy.Raw.swap_spec
#print axioms Prophy.Raw.swap_unl_spec
