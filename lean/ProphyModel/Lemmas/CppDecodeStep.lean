/-
  The generated C++ decoder statement by statement: what each bounds-checked leaf does while the cursor is inside the
  buffer, sequencing of statements (`DRes.andThen`: the C++ `&&` chain, with the position `pos` keeps when a statement
  returns false), and `decTy` / `decMs` / the statement of one member written as such sequences, per member kind.
-/
import ProphyModel.Cpp
import ProphyModel.Lemmas.Walk
import ProphyModel.Lemmas.Hints
import ProphyModel.Lemmas.CppCodecSize
namespace Prophy.Cpp

theorem remaining_of_le {size pos : Nat} (h : pos ≤ size) : remaining size pos = size - pos := by
  simp [remaining, h]

/-- `r && f ..`: on failure of `r` the reference `pos` is left at `q` -/
def DRes.andThen {α β : Type} (r : DRes α) (q : Nat) (f : α → Nat → List Nat → DRes β × Nat) : DRes β × Nat :=
  match r with
  | .ok a p rs => f a p rs
  | .fail rs => (.fail rs, q)
  | .fault => (.fault, q)
  | .throw rs => (.throw rs, q)

def DRes.map {α β : Type} (g : α → β) : DRes α → DRes β
  | .ok a p rs => .ok (g a) p rs
  | .fail rs => .fail rs
  | .fault => .fault
  | .throw rs => .throw rs

@[simp] theorem andThen_ok {α β : Type} (a : α) (p : Nat) (rs : List Nat) (q : Nat)
    (f : α → Nat → List Nat → DRes β × Nat) : (DRes.ok a p rs).andThen q f = f a p rs := rfl

theorem andThen_eq_ok {α β : Type} {r : DRes α} {q : Nat} {f : α → Nat → List Nat → DRes β × Nat}
    {b : β} {p' : Nat} {rs' : List Nat} {p : Nat} (h : r.andThen q f = (.ok b p' rs', p)) :
    ∃ a p1 rs1, r = .ok a p1 rs1 ∧ f a p1 rs1 = (.ok b p' rs', p) := by
  cases r with
  | ok a p1 rs1 => exact ⟨a, p1, rs1, rfl, h⟩
  | fail rs1 => cases h
  | fault => cases h
  | throw rs1 => cases h

theorem map_eq_ok {α β : Type} {g : α → β} {r : DRes α} {b : β} {p : Nat} {rs : List Nat}
    (h : r.map g = .ok b p rs) : ∃ a, r = .ok a p rs ∧ g a = b := by
  cases r with
  | ok a p1 rs1 =>
    injection h with h1 h2 h3
    subst h2 h3
    exact ⟨a, rfl, h1⟩
  | fail rs1 => cases h
  | fault => cases h
  | throw rs1 => cases h

theorem retag_eq {α β : Type} (r : DRes α × Nat) (g : α → β) : retag r g = (r.1.map g, r.2) := by
  obtain ⟨r, p⟩ := r
  cases r <;> rfl

theorem retag_ok {α β : Type} {r : DRes α × Nat} (g : α → β) {a : α} {pos : Nat} {rs : List Nat} {p : Nat}
    (h : r = (.ok a pos rs, p)) : retag r g = (.ok (g a) pos rs, p) := by subst h; rfl

theorem retag_eq_ok {α β : Type} {r : DRes α × Nat} {g : α → β} {b : β} {pos : Nat} {rs : List Nat} {p : Nat}
    (h : retag r g = (.ok b pos rs, p)) : ∃ a, r = (.ok a pos rs, p) ∧ g a = b := by
  rw [retag_eq] at h
  obtain ⟨r, q⟩ := r
  injection h with h1 h2
  obtain ⟨a, ha, hg⟩ := map_eq_ok h1
  simp only at ha h2
  exact ⟨a, by rw [ha, h2], hg⟩

def scalarAt (e : Endian) (k : Nat) (signed : Bool) (data : Bytes) (pos : Nat) : Int :=
  if signed then toSigned k (scalarVal e ((data.drop pos).take k)) else (scalarVal e ((data.drop pos).take k) : Int)

theorem decScalar_eq (e : Endian) (k : Nat) (signed : Bool) (data : Bytes) (pos : Nat) (rs : List Nat)
    (hpos : pos ≤ data.length) :
    decScalar e k signed data pos rs =
      if pos + k ≤ data.length then .ok (scalarAt e k signed data pos) (pos + k) rs else .fail rs := by
  unfold decScalar
  rw [remaining_of_le hpos]
  by_cases h : pos + k ≤ data.length
  · rw [if_neg (by omega), if_pos h]
    simp only [readScalar, h, if_true, scalarAt]
  · rw [if_pos (by omega), if_neg h]

theorem advance_eq (n size pos : Nat) (rs : List Nat) (hpos : pos ≤ size) :
    advance n size pos rs = if pos + n ≤ size then .ok () (pos + n) rs else .fail rs := by
  unfold advance
  rw [remaining_of_le hpos]
  by_cases h : pos + n ≤ size
  · rw [if_neg (by omega), if_pos h]
  · rw [if_pos (by omega), if_neg h]

theorem alignStep_eq (a size pos : Nat) (rs : List Nat) :
    alignStep a size pos rs = if pos + padTo pos a ≤ size then .ok () (pos + padTo pos a) rs else .fail rs := by
  unfold alignStep
  by_cases h : pos + padTo pos a ≤ size
  · simp only [if_pos h, if_neg (Nat.not_lt.2 h)]
  · simp only [if_neg h, if_pos (Nat.lt_of_not_le h)]

/-- `do_decode(optional<T>&)` and the union decoder skip an alignment gap only when there is one: the same as advancing
    by it -/
theorem optAdvance_eq (apad size pos : Nat) (rs : List Nat) :
    (if apad ≠ 0 then advance apad size pos rs else .ok () pos rs) = advance apad size pos rs := by
  by_cases h : apad = 0
  · subst h; simp [advance]
  · rw [if_pos h]

def padStep (padding : Int) (size pos1 : Nat) (rs1 : List Nat) : DRes Unit :=
  if padding < 0 then alignStep padding.natAbs size pos1 rs1
  else if padding > 0 then advance padding.toNat size pos1 rs1
  else .ok () pos1 rs1

theorem padStep_eq (p : Int) (size pos : Nat) (rs : List Nat) (hpos : pos ≤ size) :
    padStep p size pos rs = if PL.applyPad p pos ≤ size then .ok () (PL.applyPad p pos) rs else .fail rs := by
  unfold padStep PL.applyPad
  by_cases h1 : p < 0
  · rw [if_pos h1, if_pos h1, alignStep_eq]
  · rw [if_neg h1, if_neg h1]
    by_cases h2 : p > 0
    · rw [if_pos h2, advance_eq _ _ _ _ hpos]
    · have h0 : p.toNat = 0 := by omega
      rw [if_neg h2, h0, Nat.add_zero, if_pos hpos]

theorem ite_ok_eq_ok {α : Type} {c : Prop} [Decidable c] {a a' : α} {q q' : Nat} {rs rs1 rs' : List Nat}
    (h : (if c then DRes.ok a q rs else .fail rs1) = .ok a' q' rs') : c ∧ a = a' ∧ q = q' ∧ rs = rs' := by
  split at h
  · rename_i hc
    injection h with h1 h2 h3
    exact ⟨hc, h1, h2, h3⟩
  · cases h

theorem decScalar_eq_ok {e : Endian} {k : Nat} {signed : Bool} {data : Bytes} {pos : Nat} {rs : List Nat} {i : Int}
    {pos' : Nat} {rs' : List Nat} (hpos : pos ≤ data.length) (h : decScalar e k signed data pos rs = .ok i pos' rs') :
    pos + k ≤ data.length ∧ i = scalarAt e k signed data pos ∧ pos' = pos + k ∧ rs' = rs := by
  rw [decScalar_eq _ _ _ _ _ _ hpos] at h
  obtain ⟨h1, h2, h3, h4⟩ := ite_ok_eq_ok h
  exact ⟨h1, h2.symm, h3.symm, h4.symm⟩

theorem advance_eq_ok {n size pos : Nat} {rs : List Nat} {u : Unit} {q : Nat} {rs' : List Nat} (hpos : pos ≤ size)
    (h : advance n size pos rs = .ok u q rs') : q = pos + n ∧ q ≤ size ∧ rs' = rs := by
  rw [advance_eq _ _ _ _ hpos] at h
  obtain ⟨h1, _, h3, h4⟩ := ite_ok_eq_ok h
  exact ⟨h3.symm, by omega, h4.symm⟩

theorem padStep_eq_ok {pd : Int} {size pos : Nat} {rs : List Nat} {u : Unit} {q : Nat} {rs' : List Nat}
    (hpos : pos ≤ size) (h : padStep pd size pos rs = .ok u q rs') : q = PL.applyPad pd pos ∧ q ≤ size ∧ rs' = rs := by
  rw [padStep_eq _ _ _ _ hpos] at h
  obtain ⟨h1, _, h3, h4⟩ := ite_ok_eq_ok h
  exact ⟨h3.symm, by omega, h4.symm⟩

theorem decN_succ (f : Nat → List Nat → DRes Val × Nat) (n pos : Nat) (rs : List Nat) :
    decN f (n + 1) pos rs =
      (f pos rs).1.andThen (f pos rs).2 fun v pos1 rs1 => retag (decN f n pos1 rs1) (v :: ·) := by
  rw [decN]
  cases hf : f pos rs with
  | mk r p =>
    cases r with
    | ok v pos1 rs1 =>
      simp only [andThen_ok]
      cases hd : decN f n pos1 rs1 with
      | mk r2 p2 => cases r2 <;> rfl
    | fail rs1 => rfl
    | fault => rfl
    | throw rs1 => rfl

theorem decGreedyDyn_succ (f : Nat → List Nat → DRes Val × Nat) (fuel pos : Nat) (rs : List Nat) :
    decGreedyDyn f (fuel + 1) pos rs =
      match (f pos rs).1 with
      | .ok a pos1 rs1 => (decGreedyDyn f fuel pos1 rs1).map (a :: ·)
      | .fail rs1 => .ok [] pos rs1
      | .fault => .fault
      | .throw rs1 => .throw rs1 := by
  rw [decGreedyDyn]
  cases f pos rs with
  | mk r p =>
    cases r with
    | ok a pos1 rs1 => simp only; cases decGreedyDyn f fuel pos1 rs1 <;> rfl
    | fail rs1 => rfl
    | fault => rfl
    | throw rs1 => rfl

/-- the value `decArray` builds from the decoded elements -/
def arrVal (t : Ty) (vs : List Val) : Val :=
  match t with
  | .byte => toBytesVal vs
  | _ => .arr vs

theorem arrVal_of_ne_byte {t : Ty} (h : t ≠ .byte) (vs : List Val) : arrVal t vs = .arr vs := by
  cases t <;> first | rfl | exact absurd rfl h

theorem decArray_eq (f : Nat → List Nat → DRes Val × Nat) (t : Ty) (cnt size pos : Nat) (rs : List Nat) :
    decArray f t cnt size pos rs =
      if isMessage t = false ∧ remaining size pos < (cnt * (codecSize t).toNat) % sizeMax then (.fail rs, pos)
      else retag (decN f cnt pos rs) (arrVal t) := by
  unfold decArray
  cases hm : isMessage t with
  | true =>
    have hb : arrVal t = Val.arr := by funext vs; cases t <;> first | rfl | cases hm
    simp only [if_true, Bool.true_eq_false, false_and, if_false, hb]
    cases decN f cnt pos rs with
    | mk r p => cases r <;> rfl
  | false =>
    simp only [Bool.false_eq_true, if_false, true_and]
    split
    · rfl
    · cases decN f cnt pos rs with
      | mk r p => cases r <;> cases t <;> rfl

/-- conversion of a decoded counter to `size_t` -/
def toSize (c : Int) : Nat := if c < 0 then sizeMax - c.natAbs else c.toNat

/-- the limit `do_decode_resize` is generated with: that of the first array bound to the counter -/
def limitOf (n : String) (all : List Member) : Option Nat :=
  (all.find? (fun m => m.kind.sizer? = some n)).bind fun m =>
    match m.kind with
    | .limited _ l => some l
    | _ => none

def overLimit (lim : Option Nat) (cnt : Nat) : Bool :=
  match lim with
  | some l => decide (cnt > l)
  | none => false

/-- the checks of `do_decode_resize` on the counter value `cnt`, read up to `pos1`; `over`: beyond the array's limit -/
def resizeStep {α : Type} (over : Bool) (el cnt size pos1 : Nat) (rs1 : List Nat) (a : α) : DRes α × Nat :=
  if over then (.fail rs1, pos1)
  else if cnt > remaining size pos1 / el then (.fail rs1, pos1)
  else if cnt > resizeLimit then (.throw (cnt :: rs1), pos1)
  else (.ok a pos1 (cnt :: rs1), pos1)

/-- The statement(s) of one member: the `step` inside `Cpp.decMs`, which is a `let` in a mutual block and cannot be
    named there, copied with `decTy e t data` replaced by `elem`.  `decMs_cons` is the only tie between the two texts: an
    edit of the `step` in Cpp.lean has to be repeated here. -/
def memberStep (e : Endian) (all : List Member) (n : String) (t : Ty) (k : MKind) (msize : Nat)
    (data : Bytes) (pos : Nat) (rs : List Nat) (lens : List (String × Nat))
    (elem : Nat → List Nat → DRes Val × Nat) : DRes (Val × List (String × Nat)) × Nat :=
  let size := data.length
  match k with
  | .plain =>
    if isSizer n all then
      let p := sizerPrimOf n all
      match decScalar e p.size p.isSigned data pos rs with
      | .ok c pos1 rs1 =>
        let cnt : Nat := if c < 0 then sizeMax - c.natAbs else c.toNat
        let lim : Option Nat := (all.find? (fun m => m.kind.sizer? = some n)).bind fun m =>
          match m.kind with
          | .limited _ l => some l
          | _ => none
        if (match lim with | some l => decide (cnt > l) | none => false) then (.fail rs1, pos1)
        else if cnt > remaining size pos1 / resizeElem n all then (.fail rs1, pos1)
        else if cnt > resizeLimit then (.throw (cnt :: rs1), pos1)
        else
          let bound := all.filterMap (fun m => if m.kind.sizer? = some n then some (m.name, cnt) else none)
          (.ok (Val.sizer, bound ++ lens) pos1 (cnt :: rs1), pos1)
      | .fail rs1 => (.fail rs1, pos)
      | .fault => (.fault, pos)
      | .throw rs1 => (.throw rs1, pos)
    else retag (elem pos rs) (fun v => (v, lens))
  | .optional =>
    match decScalar e 4 false data pos rs with
    | .ok disc pos1 rs1 =>
      let apad := if cppAlign t > 4 then cppAlign t - 4 else 0
      match (if apad ≠ 0 then advance apad size pos1 rs1 else .ok () pos1 rs1) with
      | .ok _ pos2 rs2 =>
        if disc ≠ 0 then retag (elem pos2 rs2) (fun v => (Val.present v, lens))
        else
          match advance (if codecSize t ≥ 0 then (codecSize t).toNat else sizeMax - 1) size pos2 rs2 with
          | .ok _ pos3 rs3 => (.ok (Val.absent, lens) pos3 rs3, pos3)
          | .fail rs3 => (.fail rs3, pos2)
          | .fault => (.fault, pos2)
          | .throw rs3 => (.throw rs3, pos2)
      | .fail rs2 => (.fail rs2, pos1)
      | .fault => (.fault, pos1)
      | .throw rs2 => (.throw rs2, pos1)
    | .fail rs1 => (.fail rs1, pos)
    | .fault => (.fault, pos)
    | .throw rs1 => (.throw rs1, pos)
  | .fixed c => retag (decArray elem t c size pos rs) (fun v => (v, lens))
  | .dyn _ _ => retag (decArray elem t ((lens.lookup n).getD 0) size pos rs) (fun v => (v, lens))
  | .limited _ _ =>
    match decArray elem t ((lens.lookup n).getD 0) size pos rs with
    | (.ok v _ rs1, _) =>
      match advance msize size pos rs1 with
      | .ok _ pos2 rs2 => (.ok (v, lens) pos2 rs2, pos2)
      | .fail rs2 => (.fail rs2, pos)
      | .fault => (.fault, pos)
      | .throw rs2 => (.throw rs2, pos)
    | (.fail rs1, _) => (.fail rs1, pos)
    | (.fault, _) => (.fault, pos)
    | (.throw rs1, _) => (.throw rs1, pos)
  | .greedy =>
    if codecSize t ≥ 0 then
      let cnt := remaining size pos / (codecSize t).toNat
      if cnt > resizeLimit then (.throw (cnt :: rs), pos)
      else retag (decArray elem t cnt size pos (cnt :: rs)) (fun v => (v, lens))
    else
      match decGreedyDyn elem (size + 1) pos rs with
      | .ok vs pos1 rs1 => (.ok (Val.arr vs, lens) pos1 rs1, pos1)
      | .fail rs1 => (.fail rs1, pos)
      | .fault => (.fault, pos)
      | .throw rs1 => (.throw rs1, pos)

theorem toSize_of_nonneg {c : Int} (h : 0 ≤ c) : toSize c = c.toNat := if_neg (by omega)

theorem toSize_of_neg {c : Int} (h : c < 0) : toSize c = sizeMax - c.natAbs := if_pos h

theorem overLimit_eq_false_iff (n : String) (all : List Member) (cnt : Nat) :
    overLimit (limitOf n all) cnt = false ↔
      ∀ m, all.find? (fun m => decide (m.kind.sizer? = some n)) = some m → ∀ s l, m.kind = .limited s l → cnt ≤ l := by
  unfold overLimit limitOf
  cases all.find? (fun m => decide (m.kind.sizer? = some n)) with
  | none =>
    constructor
    · intro _ m hm
      cases hm
    · intro _
      rfl
  | some m =>
    simp only [Option.bind, Option.some.injEq, forall_eq']
    cases m.kind with
    | limited s l =>
      simp only [decide_eq_false_iff_not, Nat.not_lt, MKind.limited.injEq]
      constructor
      · rintro h s' l' ⟨_, rfl⟩
        exact h
      · intro h
        exact h s l ⟨rfl, rfl⟩
    | _ => simp only [reduceCtorEq, false_implies, implies_true]

theorem resizeStep_of_ok {α : Type} {el cnt size pos1 : Nat} (rs1 : List Nat) (a : α)
    (hrem : cnt ≤ remaining size pos1 / el) (hrl : cnt ≤ resizeLimit) :
    resizeStep false el cnt size pos1 rs1 a = (.ok a pos1 (cnt :: rs1), pos1) := by
  unfold resizeStep
  rw [if_neg (by simp), if_neg (by omega), if_neg (by omega)]

theorem resizeStep_inv {α : Type} (over : Bool) (el cnt size pos1 : Nat) (rs1 : List Nat) (a : α)
    (hb : pos1 ≤ size) (r : DRes α) (p : Nat) (h : resizeStep over el cnt size pos1 rs1 a = (r, p)) :
    p = pos1 ∧
    (r = .fail rs1 ∨
     (cnt * el ≤ size - pos1 ∧ resizeLimit < cnt ∧ r = .throw (cnt :: rs1)) ∨
     (over = false ∧ cnt * el ≤ size - pos1 ∧ cnt ≤ resizeLimit ∧ r = .ok a pos1 (cnt :: rs1))) := by
  unfold resizeStep at h
  rw [remaining_of_le hb] at h
  split at h
  · injection h with h1 h2
    exact ⟨h2.symm, Or.inl h1.symm⟩
  · rename_i hov
    split at h
    · injection h with h1 h2
      exact ⟨h2.symm, Or.inl h1.symm⟩
    · rename_i hrem
      have hfit : cnt * el ≤ size - pos1 := Nat.mul_le_of_le_div _ _ _ (by omega)
      split at h
      · rename_i hl
        injection h with h1 h2
        exact ⟨h2.symm, Or.inr (Or.inl ⟨hfit, hl, h1.symm⟩)⟩
      · rename_i hl
        injection h with h1 h2
        exact ⟨h2.symm, Or.inr (Or.inr ⟨by simpa using hov, hfit, by omega, h1.symm⟩)⟩

theorem resizeStep_eq_ok {α : Type} {over : Bool} {el cnt size pos1 : Nat} {rs1 : List Nat} {a x : α}
    {q : Nat} {rs' : List Nat} {p : Nat} (hb : pos1 ≤ size)
    (h : resizeStep over el cnt size pos1 rs1 a = (.ok x q rs', p)) :
    over = false ∧ cnt ≤ resizeLimit ∧ a = x ∧ pos1 = q := by
  rcases (resizeStep_inv over el cnt size pos1 rs1 a hb _ _ h).2 with hr | ⟨_, _, hr⟩ | ⟨ho, _, hl, hr⟩
  · cases hr
  · cases hr
  · injection hr with h3 h4
    exact ⟨ho, hl, h3.symm, h4.symm⟩

theorem memberStep_sizer (e : Endian) (all : List Member) (n : String) (t : Ty) (msize : Nat)
    (data : Bytes) (pos : Nat) (rs : List Nat) (lens : List (String × Nat))
    (elem : Nat → List Nat → DRes Val × Nat) (hs : isSizer n all = true) :
    memberStep e all n t .plain msize data pos rs lens elem =
      (decScalar e (sizerPrimOf n all).size (sizerPrimOf n all).isSigned data pos rs).andThen pos fun c pos1 rs1 =>
        resizeStep (overLimit (limitOf n all) (toSize c)) (resizeElem n all) (toSize c) data.length pos1 rs1
          (Val.sizer, Py.boundHints all n (toSize c) ++ lens) := by
  unfold memberStep
  simp only [hs, if_true]
  cases decScalar e (sizerPrimOf n all).size (sizerPrimOf n all).isSigned data pos rs <;> rfl

theorem memberStep_plain (e : Endian) (all : List Member) (n : String) (t : Ty) (msize : Nat) (data : Bytes)
    (pos : Nat) (rs : List Nat) (lens : List (String × Nat)) (elem : Nat → List Nat → DRes Val × Nat)
    (hns : isSizer n all = false) :
    memberStep e all n t .plain msize data pos rs lens elem = retag (elem pos rs) (fun v => (v, lens)) := by
  simp [memberStep, hns]

theorem memberStep_optional (e : Endian) (all : List Member) (n : String) (t : Ty) (msize : Nat)
    (data : Bytes) (pos : Nat) (rs : List Nat) (lens : List (String × Nat))
    (elem : Nat → List Nat → DRes Val × Nat) :
    memberStep e all n t .optional msize data pos rs lens elem =
      (decScalar e 4 false data pos rs).andThen pos fun disc pos1 rs1 =>
        (advance (if cppAlign t > 4 then cppAlign t - 4 else 0) data.length pos1 rs1).andThen pos1 fun _ pos2 rs2 =>
          if disc ≠ 0 then retag (elem pos2 rs2) (fun v => (Val.present v, lens))
          else
            (advance (if codecSize t ≥ 0 then (codecSize t).toNat else sizeMax - 1) data.length pos2 rs2).andThen pos2
              fun _ pos3 rs3 => (.ok (Val.absent, lens) pos3 rs3, pos3) := by
  unfold memberStep
  simp only [optAdvance_eq]
  cases decScalar e 4 false data pos rs with
  | ok disc pos1 rs1 =>
    simp only [andThen_ok]
    cases advance (if cppAlign t > 4 then cppAlign t - 4 else 0) data.length pos1 rs1 with
    | ok u pos2 rs2 =>
      simp only [andThen_ok]
      split
      · rfl
      · cases advance (if codecSize t ≥ 0 then (codecSize t).toNat else sizeMax - 1) data.length pos2 rs2 <;> rfl
    | _ => rfl
  | _ => rfl

theorem memberStep_fixed (e : Endian) (all : List Member) (n : String) (t : Ty) (c msize : Nat) (data : Bytes)
    (pos : Nat) (rs : List Nat) (lens : List (String × Nat)) (elem : Nat → List Nat → DRes Val × Nat) :
    memberStep e all n t (.fixed c) msize data pos rs lens elem =
      retag (decArray elem t c data.length pos rs) (fun v => (v, lens)) := rfl

theorem memberStep_dyn (e : Endian) (all : List Member) (n : String) (t : Ty) (s : String) (sh msize : Nat)
    (data : Bytes) (pos : Nat) (rs : List Nat) (lens : List (String × Nat))
    (elem : Nat → List Nat → DRes Val × Nat) :
    memberStep e all n t (.dyn s sh) msize data pos rs lens elem =
      retag (decArray elem t ((lens.lookup n).getD 0) data.length pos rs) (fun v => (v, lens)) := rfl

/-- `do_decode_in_place` (position by value) `&& do_decode_advance(byte_size)` -/
theorem memberStep_limited (e : Endian) (all : List Member) (n : String) (t : Ty) (s : String) (c msize : Nat)
    (data : Bytes) (pos : Nat) (rs : List Nat) (lens : List (String × Nat))
    (elem : Nat → List Nat → DRes Val × Nat) :
    memberStep e all n t (.limited s c) msize data pos rs lens elem =
      (decArray elem t ((lens.lookup n).getD 0) data.length pos rs).1.andThen pos fun v _ rs1 =>
        (advance msize data.length pos rs1).andThen pos fun _ pos2 rs2 => (.ok (v, lens) pos2 rs2, pos2) := by
  unfold memberStep
  simp only
  cases decArray elem t ((lens.lookup n).getD 0) data.length pos rs with
  | mk r p =>
    cases r with
    | ok v p1 rs1 => simp only [andThen_ok]; cases advance msize data.length pos rs1 <;> rfl
    | _ => rfl

theorem memberStep_greedy (e : Endian) (all : List Member) (n : String) (t : Ty) (msize : Nat)
    (data : Bytes) (pos : Nat) (rs : List Nat) (lens : List (String × Nat))
    (elem : Nat → List Nat → DRes Val × Nat) :
    memberStep e all n t .greedy msize data pos rs lens elem =
      if codecSize t ≥ 0 then
        if remaining data.length pos / (codecSize t).toNat > resizeLimit then
          (.throw (remaining data.length pos / (codecSize t).toNat :: rs), pos)
        else retag (decArray elem t (remaining data.length pos / (codecSize t).toNat) data.length pos
          (remaining data.length pos / (codecSize t).toNat :: rs)) (fun v => (v, lens))
      else (decGreedyDyn elem (data.length + 1) pos rs).andThen pos fun vs pos1 rs1 =>
        (.ok (Val.arr vs, lens) pos1 rs1, pos1) := by
  unfold memberStep
  simp only
  split
  · rfl
  · cases decGreedyDyn elem (data.length + 1) pos rs <;> rfl

theorem decMs_nil (e : Endian) (all : List Member) (ls : List (Nat × Nat × Int)) (data : Bytes) (pos : Nat)
    (rs : List Nat) (lens : List (String × Nat)) :
    decMs e all [] ls data pos rs lens = (.ok [] pos rs, pos) := by
  rfl

theorem decMs_nil_layout (e : Endian) (all : List Member) (ms : List Member) (data : Bytes) (pos : Nat)
    (rs : List Nat) (lens : List (String × Nat)) :
    decMs e all ms [] data pos rs lens = (.ok [] pos rs, pos) := by
  cases ms with
  | nil => rfl
  | cons m r => cases m; rfl

theorem decMs_cons (e : Endian) (all : List Member) (n : String) (t : Ty) (k : MKind) (r : List Member)
    (msize a : Nat) (padding : Int) (ls : List (Nat × Nat × Int)) (data : Bytes) (pos : Nat)
    (rs : List Nat) (lens : List (String × Nat)) :
    decMs e all (.mk n t k :: r) ((msize, a, padding) :: ls) data pos rs lens =
      (memberStep e all n t k msize data pos rs lens (fun q rs' => decTy e t data q rs')).1.andThen
        (memberStep e all n t k msize data pos rs lens (fun q rs' => decTy e t data q rs')).2 fun vl pos1 rs1 =>
          (padStep padding data.length pos1 rs1).andThen pos1 fun _ pos2 rs2 =>
            retag (decMs e all r ls data pos2 rs2 vl.2) (vl.1 :: ·) := by
  have h : decMs e all (.mk n t k :: r) ((msize, a, padding) :: ls) data pos rs lens =
      match memberStep e all n t k msize data pos rs lens (fun q rs' => decTy e t data q rs') with
      | (.ok (v, lens') pos1 rs1, _) =>
        match padStep padding data.length pos1 rs1 with
        | .ok _ pos2 rs2 =>
          match decMs e all r ls data pos2 rs2 lens' with
          | (.ok vs pos3 rs3, p) => (.ok (v :: vs) pos3 rs3, p)
          | other => other
        | .fail rs2 => (.fail rs2, pos1)
        | .fault => (.fault, pos1)
        | .throw rs2 => (.throw rs2, pos1)
      | (.fail rs1, p) => (.fail rs1, p)
      | (.fault, p) => (.fault, p)
      | (.throw rs1, p) => (.throw rs1, p) := by
    cases k <;> rw [decMs] <;> rfl
  rw [h]
  cases memberStep e all n t k msize data pos rs lens (fun q rs' => decTy e t data q rs') with
  | mk x p =>
    cases x with
    | ok vl pos1 rs1 =>
      obtain ⟨v, lens'⟩ := vl
      simp only [andThen_ok]
      cases padStep padding data.length pos1 rs1 with
      | ok u pos2 rs2 =>
        simp only [andThen_ok]
        cases decMs e all r ls data pos2 rs2 lens' with
        | mk y p3 => cases y <;> rfl
      | _ => rfl
    | _ => rfl

theorem decTy_prim (e : Endian) (p : Prim) (data : Bytes) (pos : Nat) (rs : List Nat) :
    decTy e (.prim p) data pos rs = ((decScalar e p.size p.isSigned data pos rs).map Val.int, pos) := by
  rw [decTy]; cases decScalar e p.size p.isSigned data pos rs <;> rfl

theorem decTy_byte (e : Endian) (data : Bytes) (pos : Nat) (rs : List Nat) :
    decTy e .byte data pos rs = ((decScalar e 1 false data pos rs).map Val.int, pos) := by
  rw [decTy]; cases decScalar e 1 false data pos rs <;> rfl

theorem decTy_enum (e : Endian) (nm : String) (es : List (String × Nat)) (data : Bytes) (pos : Nat) (rs : List Nat) :
    decTy e (.enum nm es) data pos rs = ((decScalar e 4 false data pos rs).map Val.int, pos) := by
  rw [decTy]; cases decScalar e 4 false data pos rs <;> rfl

theorem decTy_struct (e : Endian) (nm : String) (ms : List Member) (data : Bytes) (pos : Nat) (rs : List Nat) :
    decTy e (.struct nm ms) data pos rs = retag (decMs e ms ms (PL.structMembers ms) data pos rs []) Val.struct := by
  rw [decTy]

theorem decTy_union (e : Endian) (n : String) (arms : List Arm) (data : Bytes) (pos : Nat) (rs : List Nat) :
    decTy e (.union n arms) data pos rs =
      (decScalar e 4 false data pos rs).andThen pos fun d pos1 rs1 =>
        (advance (discPad n arms) data.length pos1 rs1).andThen pos1 fun _ pos2 rs2 =>
          (decArms e arms d data pos2 rs2 0).andThen pos2 fun iv _ rs3 =>
            (advance ((PL.nodeTy (.union n arms)).size - PL.discSize - discPad n arms) data.length pos2 rs3).andThen pos2
              fun _ pos4 rs4 => (.ok (.union iv.1 iv.2) pos4 rs4, pos4) := by
  rw [decTy]
  simp only [optAdvance_eq, discPad]
  cases decScalar e 4 false data pos rs with
  | ok d pos1 rs1 =>
    simp only [andThen_ok]
    cases advance (if (PL.nodeTy (.union n arms)).align > PL.discSize
        then (PL.nodeTy (.union n arms)).align - PL.discSize else 0) data.length pos1 rs1 with
    | ok u pos2 rs2 =>
      simp only [andThen_ok]
      cases decArms e arms d data pos2 rs2 0 with
      | ok iv pos3 rs3 =>
        obtain ⟨idx, v⟩ := iv
        simp only [andThen_ok]
        cases advance ((PL.nodeTy (.union n arms)).size - PL.discSize -
          (if (PL.nodeTy (.union n arms)).align > PL.discSize
            then (PL.nodeTy (.union n arms)).align - PL.discSize else 0)) data.length pos2 rs3 <;> rfl
      | _ => rfl
    | _ => rfl
  | _ => rfl

theorem decArms_cons (e : Endian) (an : String) (d : Nat) (t : Ty) (r : List Arm) (disc : Int) (data : Bytes)
    (pos : Nat) (rs : List Nat) (idx : Nat) :
    decArms e (.mk an d t :: r) disc data pos rs idx =
      if (d : Int) = disc then (decTy e t data pos rs).1.map (fun v => (idx, v))
      else decArms e r disc data pos rs (idx + 1) := by
  rw [decArms]
  split
  · cases decTy e t data pos rs with
    | mk x p => cases x <;> rfl
  · rfl

end Prophy.Cpp
