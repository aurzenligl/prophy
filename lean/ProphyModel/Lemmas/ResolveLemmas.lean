/-
  The two `while` loops with a `seen` set of prophyc's evaluator (`calc.p_expression_name`,
  `model._collect_constants.get_last_in_chain`): `seen` holds distinct KEYS of `vars` (`SeenIn`), so the loops end within
  `vars.length + 1` steps; the walk relations `Chain` / `KChain` and soundness and completeness of both loops.
-/
import ProphyModel.Resolve
import ProphyModel.Lemmas.ListLemmas
namespace Prophy
namespace Resolve

theorem contains_iff_p26 {α : Type} [DecidableEq α] (l : List α) (a : α) : l.contains a = true ↔ a ∈ l := by
  simp

/-- the invariant of `seen`: distinct elements of `dom` (the keys of `vars`) -/
def SeenIn {α : Type} (dom seen : List α) : Prop := seen.Nodup ∧ ∀ x, x ∈ seen → x ∈ dom

theorem SeenIn.nil {α : Type} (dom : List α) : SeenIn dom [] := ⟨List.nodup_nil, fun _ h => nomatch h⟩

theorem SeenIn.length_le {α : Type} [DecidableEq α] {dom seen : List α} (h : SeenIn dom seen) :
    seen.length ≤ dom.length := h.1.length_le_of_subset h.2

theorem SeenIn.cons {α : Type} {dom seen : List α} {cur : α} (h : SeenIn dom seen) (hc : ¬ cur ∈ seen)
    (hd : cur ∈ dom) : SeenIn dom (cur :: seen) := by
  refine ⟨List.nodup_cons.mpr ⟨hc, h.1⟩, ?_⟩
  intro x hx
  rcases List.mem_cons.mp hx with e | hx
  · exact e ▸ hd
  · exact h.2 x hx

theorem loop_succ (vars : Vars) (fuel : Nat) (seen : List String) (cur : String) :
    loop vars (fuel + 1) seen cur =
      if cur ∈ seen then .error .selfDefined
      else match vars.lookup cur with
        | Option.none => .error .notFound
        | some (.int v) => .ok v
        | some (.name s) => loop vars fuel (cur :: seen) s
        | some .none => .error .notFound := by
  simp only [loop, List.contains_eq_mem, decide_eq_true_eq]
  by_cases h : cur ∈ seen
  · rw [if_pos h, if_pos h]
  · rw [if_neg h, if_neg h]
    cases List.lookup cur vars with
    | none => rfl
    | some w => cases w <;> rfl

/-- with `fuel + seen.length > vars.length` the loop does not run out of fuel: each iteration adds a new key to `seen`. -/
theorem loop_ne_fuel (vars : Vars) :
    ∀ (fuel : Nat) (seen : List String) (cur : String), SeenIn (vars.map (·.1)) seen →
      vars.length + 1 ≤ fuel + seen.length → loop vars fuel seen cur ≠ .error .fuel := by
  intro fuel seen cur
  fun_induction loop vars fuel seen cur with
  | case1 seen cur =>                                  -- out of fuel: `seen` would be longer than the dictionary
    intro hi hf
    have := hi.length_le
    rw [List.length_map] at this
    omega
  | case2 => exact fun _ _ h => nomatch h              -- a name seen before
  | case3 => exact fun _ _ h => nomatch h              -- no entry
  | case4 => exact fun _ _ h => nomatch h              -- an integer
  | case5 fuel seen cur hc s hl ih =>                  -- a name: one step
    intro hi hf
    exact ih (hi.cons (by simpa using hc) (List.mem_map.mpr ⟨_, mem_of_lookup hl, rfl⟩)) (by simp only [List.length_cons]; omega)
  | case6 => exact fun _ _ h => nomatch h              -- the entry `None`

theorem loop_mono (vars : Vars) :
    ∀ (fuel : Nat) (seen : List String) (cur : String) (d : Nat),
      loop vars fuel seen cur ≠ .error .fuel → loop vars (fuel + d) seen cur = loop vars fuel seen cur := by
  intro fuel seen cur d
  fun_induction loop vars fuel seen cur with
  | case1 => exact fun h => absurd rfl h                                              -- out of fuel
  | case2 _ _ _ hc => intro _; rw [Nat.succ_add, loop, if_pos hc]                     -- a name seen before
  | case3 _ _ _ hc hl => intro _; rw [Nat.succ_add, loop, if_neg hc, hl]              -- no entry
  | case4 _ _ _ hc v hl => intro _; rw [Nat.succ_add, loop, if_neg hc, hl]            -- an integer
  | case5 fuel seen cur hc s hl ih =>                                                 -- a name: one step
    intro h
    rw [Nat.succ_add, loop, if_neg hc, hl]
    exact ih h
  | case6 _ _ _ hc hl => intro _; rw [Nat.succ_add, loop, if_neg hc, hl]              -- the entry `None`

theorem loop_eq_of_ne_fuel (vars : Vars) (n m : Nat) (seen : List String) (cur : String)
    (hn : loop vars n seen cur ≠ .error .fuel) (hm : loop vars m seen cur ≠ .error .fuel) :
    loop vars n seen cur = loop vars m seen cur := by
  by_cases h : n ≤ m
  · obtain ⟨d, rfl⟩ : ∃ d, m = n + d := ⟨m - n, by omega⟩
    exact (loop_mono vars n seen cur d hn).symm
  · obtain ⟨d, rfl⟩ : ∃ d, n = m + d := ⟨n - m, by omega⟩
    exact loop_mono vars m seen cur d hm

theorem mem_shift {α : Type} {a b : α} {path seen : List α} :
    (b ∈ a :: path ∨ b ∈ seen) ↔ (b ∈ path ∨ b ∈ a :: seen) := by
  simp only [List.mem_cons]
  exact or_assoc.trans or_left_comm

theorem disjoint_shift {α : Type} {a : α} {path seen : List α} (ha : ¬ a ∈ path)
    (hdis : ∀ x, x ∈ a :: path → ¬ x ∈ seen) : ∀ x, x ∈ path → ¬ x ∈ a :: seen := by
  intro x hx hs
  rcases List.mem_cons.mp hs with e | hs
  · exact ha (e ▸ hx)
  · exact hdis x (List.mem_cons_of_mem _ hx) hs

/-- `Chain vars a path b`: following NAME entries of `vars` from `a` visits exactly the names `path` (in this order, `a` first,
    `b` not included) and arrives at `b`.  (`Chain vars a [] a`: no step.) -/
inductive Chain (vars : Vars) : String → List String → String → Prop
  | nil (a : String) : Chain vars a [] a
  | cons {a c b : String} {path : List String} :
      vars.lookup a = some (.name c) → Chain vars c path b → Chain vars a (a :: path) b

/-- `b` is an end of the walk: it is no key, or its entry is an int or `None` -/
def Terminal (vars : Vars) (b : String) : Prop := ∀ s, vars.lookup b ≠ some (.name s)

theorem Terminal.of_int {vars : Vars} {b : String} {v : Int} (h : vars.lookup b = some (.int v)) : Terminal vars b :=
  fun s hs => by rw [h] at hs; cases hs

theorem Terminal.of_missing {vars : Vars} {b : String} (h : vars.lookup b = Option.none ∨ vars.lookup b = some .none) :
    Terminal vars b :=
  fun s hs => by rcases h with h | h <;> rw [h] at hs <;> cases hs

theorem chain_snoc_p26 {vars : Vars} {a b c : String} {path : List String}
    (h : Chain vars a path b) (hl : vars.lookup b = some (.name c)) : Chain vars a (path ++ [b]) c := by
  induction h with
  | nil a => exact .cons hl (.nil c)
  | cons h1 _ ih => exact .cons h1 (ih hl)

/-- the walk is deterministic -/
theorem chain_det_p26 {vars : Vars} {a b : String} {p : List String} (h : Chain vars a p b) :
    ∀ {b' : String} {p' : List String}, Chain vars a p' b' → p.length = p'.length → p = p' ∧ b = b' := by
  induction h with
  | nil a =>
    intro b' p' h' hlen
    cases h' with
    | nil => exact ⟨rfl, rfl⟩
    | cons _ _ => simp at hlen
  | cons h1 _ ih =>
    intro b' p' h' hlen
    cases h' with
    | nil => simp at hlen
    | cons h1' h2' =>
      rw [h1] at h1'
      cases h1'
      have := ih h2' (by simpa using hlen)
      exact ⟨by rw [this.1], this.2⟩

theorem chain_prefix_terminal {vars : Vars} {a b : String} {p : List String} (h : Chain vars a p b) :
    ∀ {t : String} {q : List String}, Chain vars a q t → Terminal vars t → ∃ r, Chain vars b r t ∧ q = p ++ r := by
  induction h with
  | nil a => intro t q hq _; exact ⟨q, hq, rfl⟩
  | cons h1 _ ih =>
    intro t q hq ht
    cases hq with
    | nil => exact absurd h1 (ht _)
    | cons h1' h2' =>
      rw [h1] at h1'
      cases h1'
      obtain ⟨r, hr, e⟩ := ih h2' ht
      exact ⟨r, hr, by rw [e]; rfl⟩

theorem chain_terminal_unique {vars : Vars} {a b : String} {p : List String} (h : Chain vars a p b)
    (hb : Terminal vars b) {b' : String} {p' : List String} (h' : Chain vars a p' b') (hb' : Terminal vars b') :
    p = p' ∧ b = b' := by
  obtain ⟨r, hr, e⟩ := chain_prefix_terminal h h' hb'
  cases hr with
  | nil => exact ⟨by rw [e, List.append_nil], rfl⟩
  | cons h1 _ => exact absurd h1 (hb _)

theorem chain_from_mem {vars : Vars} {a b : String} {p : List String} (h : Chain vars a p b) :
    ∀ x, x ∈ p → ∃ q, Chain vars x q b ∧ q.length ≤ p.length := by
  induction h with
  | nil a => intro x hx; simp at hx
  | @cons a c b path h1 h2 ih =>
    intro x hx
    rcases List.mem_cons.mp hx with e | hx
    · subst e; exact ⟨_, .cons h1 h2, Nat.le_refl _⟩
    · obtain ⟨q, hq, hlen⟩ := ih x hx
      exact ⟨q, hq, by simp only [List.length_cons]; omega⟩

/-- a walk that reaches a terminal name repeats no name: otherwise it would go round for ever -/
theorem chain_terminal_nodup {vars : Vars} {a b : String} {p : List String} (h : Chain vars a p b)
    (hb : Terminal vars b) : (p ++ [b]).Nodup := by
  induction h with
  | nil a => simp
  | @cons a c b path h1 h2 ih =>
    have ih := ih hb
    simp only [List.cons_append]
    refine List.nodup_cons.mpr ⟨?_, ih⟩
    intro hm
    rcases List.mem_append.mp hm with hm | hm
    · obtain ⟨q, hq, hlen⟩ := chain_from_mem h2 a hm
      have := chain_terminal_unique (Chain.cons h1 h2) hb hq hb
      have : (a :: path).length = q.length := by rw [this.1]
      simp only [List.length_cons] at this
      omega
    · simp only [List.mem_singleton] at hm
      subst hm
      exact hb _ h1

theorem chain_head_mem {vars : Vars} {a b : String} {p : List String} (h : Chain vars a p b) : a ∈ p ++ [b] := by
  cases h with
  | nil => simp
  | cons _ _ => simp

theorem chain_cycle_no_terminal {vars : Vars} {a b t : String} {p q : List String} (h : Chain vars a p b)
    (hb : b ∈ p) (hq : Chain vars a q t) (ht : Terminal vars t) : False := by
  obtain ⟨r, hr, e⟩ := chain_prefix_terminal h hq ht
  have hnd := chain_terminal_nodup hq ht
  rw [e, List.append_assoc] at hnd
  have hdis := (List.nodup_append.mp hnd).2.2
  exact hdis b hb b (chain_head_mem hr) rfl

/-- the answer of the loop at a name whose entry is not a name -/
def endAnswer : Option Val → Except Err Int
  | some (.int v) => .ok v
  | _ => .error .notFound

theorem endAnswer_eq_ok {o : Option Val} {v : Int} : endAnswer o = .ok v ↔ o = some (.int v) := by
  cases o with
  | none => exact ⟨fun h => (nomatch h), fun h => (nomatch h)⟩
  | some w => cases w <;> exact ⟨fun h => (by cases h <;> rfl), fun h => (by cases h <;> rfl)⟩

theorem endAnswer_ne_selfDefined (o : Option Val) : endAnswer o ≠ .error .selfDefined := by
  cases o with
  | none => exact fun h => nomatch h
  | some w => cases w <;> exact fun h => nomatch h

theorem endAnswer_ne_fuel (o : Option Val) : endAnswer o ≠ .error .fuel := by
  cases o with
  | none => exact fun h => nomatch h
  | some w => cases w <;> exact fun h => nomatch h

theorem endAnswer_eq_notFound {vars : Vars} {b : String} (ht : Terminal vars b) :
    endAnswer (vars.lookup b) = .error .notFound ↔ (vars.lookup b = Option.none ∨ vars.lookup b = some .none) := by
  cases hl : vars.lookup b with
  | none => exact ⟨fun _ => .inl rfl, fun _ => rfl⟩
  | some w =>
    cases w with
    | none => exact ⟨fun _ => .inr rfl, fun _ => rfl⟩
    | int w => exact ⟨fun h => (nomatch h), fun h => (by rcases h with h | h <;> cases h)⟩
    | name s => exact absurd hl (ht s)

theorem nodup_snoc {α : Type} {l : List α} {b : α} : (l ++ [b]).Nodup ↔ l.Nodup ∧ ¬ b ∈ l := by
  rw [List.nodup_append]
  constructor
  · exact fun ⟨h1, _, h3⟩ => ⟨h1, fun hb => h3 b hb b (List.mem_singleton.mpr rfl) rfl⟩
  · exact fun ⟨h1, h2⟩ => ⟨h1, List.nodup_cons.mpr ⟨fun hx => (nomatch hx), List.nodup_nil⟩, fun a ha c hc e =>
      h2 ((e.trans (List.mem_singleton.mp hc)) ▸ ha)⟩

/-- `x` is the answer of a walk from `cur` along distinct names outside `seen`, of at most `fuel` steps, to a name `b`:
    either `b` was visited before and `x` is `selfDefined`, or `b` is new and terminal and its entry decides `x` -/
def WalkAnswer (vars : Vars) (fuel : Nat) (seen : List String) (cur : String) (x : Except Err Int) : Prop :=
  ∃ path b, Chain vars cur path b ∧ path.Nodup ∧ (∀ x, x ∈ path → ¬ x ∈ seen) ∧ path.length + 1 ≤ fuel ∧
    (((b ∈ path ∨ b ∈ seen) ∧ x = .error .selfDefined) ∨
     (¬ b ∈ path ∧ ¬ b ∈ seen ∧ Terminal vars b ∧ x = endAnswer (vars.lookup b)))

theorem WalkAnswer.stop {vars : Vars} {fuel : Nat} {seen : List String} {cur : String} {x : Except Err Int}
    (h : (cur ∈ seen ∧ x = .error .selfDefined) ∨
      (¬ cur ∈ seen ∧ Terminal vars cur ∧ x = endAnswer (vars.lookup cur))) : WalkAnswer vars (fuel + 1) seen cur x := by
  refine ⟨[], cur, .nil cur, List.nodup_nil, fun _ hx => (nomatch hx), Nat.le_add_left .., ?_⟩
  rcases h with ⟨hc, he⟩ | ⟨hc, ht, he⟩
  · exact .inl ⟨.inr hc, he⟩
  · exact .inr ⟨fun hx => (nomatch hx), hc, ht, he⟩

theorem WalkAnswer.step {vars : Vars} {fuel : Nat} {seen : List String} {cur s : String} {x : Except Err Int}
    (hc : ¬ cur ∈ seen) (hl : vars.lookup cur = some (.name s)) (h : WalkAnswer vars fuel (cur :: seen) s x) :
    WalkAnswer vars (fuel + 1) seen cur x := by
  obtain ⟨path, b, hch, hnd, hdis, hlen, hb⟩ := h
  have hcp : ¬ cur ∈ path := fun hm => hdis cur hm (List.mem_cons_self ..)
  refine ⟨cur :: path, b, .cons hl hch, List.nodup_cons.mpr ⟨hcp, hnd⟩, ?_, Nat.succ_le_succ hlen, ?_⟩
  · intro x hx
    rcases List.mem_cons.mp hx with e | hx
    · exact e ▸ hc
    · exact fun hs => hdis x hx (List.mem_cons_of_mem _ hs)
  · rcases hb with ⟨hb, he⟩ | ⟨hb1, hb2, ht, he⟩
    · exact .inl ⟨mem_shift.mpr hb, he⟩
    · exact .inr ⟨fun hm => (mem_shift.mp (.inl hm)).elim hb1 hb2, fun hs => hb2 (List.mem_cons_of_mem _ hs), ht, he⟩

theorem loop_terminal (vars : Vars) (fuel : Nat) (seen : List String) (cur : String) (hc : ¬ cur ∈ seen)
    (ht : Terminal vars cur) : loop vars (fuel + 1) seen cur = endAnswer (vars.lookup cur) := by
  rw [loop_succ, if_neg hc]
  cases hl : vars.lookup cur with
  | none => rfl
  | some w =>
    cases w with
    | none => rfl
    | int w => rfl
    | name s => exact absurd hl (ht s)

theorem loop_sound (vars : Vars) :
    ∀ (fuel : Nat) (seen : List String) (cur : String), loop vars fuel seen cur ≠ .error .fuel →
      WalkAnswer vars fuel seen cur (loop vars fuel seen cur)
  | 0, seen, cur, h => absurd rfl h
  | fuel + 1, seen, cur, h => by
    by_cases hc : cur ∈ seen
    · exact .stop (.inl ⟨hc, by rw [loop_succ, if_pos hc]⟩)
    · by_cases hn : ∃ s, vars.lookup cur = some (.name s)
      · obtain ⟨s, hl⟩ := hn
        rw [loop_succ, if_neg hc, hl] at h ⊢
        exact .step hc hl (loop_sound vars fuel (cur :: seen) s h)
      · have ht : Terminal vars cur := fun s hs => hn ⟨s, hs⟩
        exact .stop (.inr ⟨hc, ht, loop_terminal vars fuel seen cur hc ht⟩)

theorem loop_complete {vars : Vars} {a b : String} {path : List String} (h : Chain vars a path b) :
    ∀ (fuel : Nat) (seen : List String), path.Nodup → (∀ x, x ∈ path → ¬ x ∈ seen) → path.length + 1 ≤ fuel →
      ((b ∈ path ∨ b ∈ seen) → loop vars fuel seen a = .error .selfDefined) ∧
      (¬ b ∈ path → ¬ b ∈ seen → Terminal vars b → loop vars fuel seen a = endAnswer (vars.lookup b)) := by
  induction h with
  | nil a =>
    intro fuel seen _ _ hf
    obtain ⟨f, rfl⟩ : ∃ f, fuel = f + 1 := ⟨fuel - 1, by omega⟩
    refine ⟨fun hb => ?_, fun _ hc hb => loop_terminal vars f seen a hc hb⟩
    rw [loop_succ, if_pos (hb.resolve_left fun hx => (nomatch hx))]
  | @cons a c b path h1 h2 ih =>
    intro fuel seen hnd hdis hf
    obtain ⟨f, rfl⟩ : ∃ f, fuel = f + 1 := ⟨fuel - 1, by omega⟩
    have hc : ¬ a ∈ seen := hdis a (List.mem_cons_self ..)
    have hnd' := List.nodup_cons.mp hnd
    rw [loop_succ, if_neg hc, h1]
    obtain ⟨ih1, ih2⟩ := ih f (a :: seen) hnd'.2 (disjoint_shift hnd'.1 hdis)
      (by rw [List.length_cons] at hf; omega)
    refine ⟨fun hb => ih1 (mem_shift.mp hb), fun hb1 hb2 ht => ih2 (fun hm => hb1 (List.mem_cons_of_mem _ hm)) ?_ ht⟩
    exact fun hs => (mem_shift.mpr (.inr hs)).elim hb1 hb2

def keysOf (vars : Vars) : List Key := vars.map (fun p => Key.name p.1)

theorem lookupKey_some_mem (vars : Vars) (k : Key) (v : Val) (h : lookupKey vars k = some v) : k ∈ keysOf vars := by
  cases k with
  | name s => exact List.mem_map.mpr ⟨(s, v), mem_of_lookup h, rfl⟩
  | int v => cases h
  | none => cases h

theorem keysOf_length (vars : Vars) : (keysOf vars).length = vars.length := List.length_map ..

theorem lastInChain_succ (vars : Vars) (fuel : Nat) (seen : List Key) (key : Key) :
    lastInChain vars (fuel + 1) seen key =
      if key ∈ seen then key
      else match lookupKey vars key with
        | Option.none => key
        | some v => if valToKey v = key then key else lastInChain vars fuel (key :: seen) (valToKey v) := by
  simp only [lastInChain, List.contains_eq_mem, decide_eq_true_eq]
  by_cases h : key ∈ seen
  · rw [if_pos h, if_pos h]
  · rw [if_neg h, if_neg h]
    cases lookupKey vars key with
    | none => rfl
    | some w => rfl

/-- with `fuel + seen.length > vars.length` more fuel changes nothing: the loop has stopped by its own conditions before
    the fuel is used up (the fuel-exhausted branch `| 0, _, key => key` is never the one that answers). -/
theorem lastInChain_mono (vars : Vars) :
    ∀ (fuel : Nat) (seen : List Key) (key : Key) (d : Nat), SeenIn (keysOf vars) seen →
      vars.length + 1 ≤ fuel + seen.length →
      lastInChain vars (fuel + d) seen key = lastInChain vars fuel seen key := by
  intro fuel seen key d
  fun_induction lastInChain vars fuel seen key with
  | case1 seen key =>                                  -- out of fuel: `seen` would be longer than the dictionary
    intro hi hf
    have := hi.length_le
    rw [keysOf_length] at this
    omega
  | case2 fuel seen key hc => intro _ _; rw [Nat.succ_add, lastInChain, if_pos hc]          -- a key seen before
  | case3 fuel seen key hc hl => intro _ _; rw [Nat.succ_add, lastInChain, if_neg hc, hl]   -- no entry
  | case4 fuel seen v hc hl =>                                                               -- an entry that maps the key to itself
    intro _ _; rw [Nat.succ_add, lastInChain, if_neg hc, hl]; exact if_pos rfl
  | case5 fuel seen key hc v hl hv ih =>                                                     -- one step
    intro hi hf
    rw [Nat.succ_add, lastInChain, if_neg hc, hl]
    simp only [if_neg hv]
    exact ih (hi.cons (by simpa using hc) (lookupKey_some_mem vars _ _ hl)) (by simp only [List.length_cons]; omega)

/-- `KChain vars a path b`: following entries of the dictionary that do not map a key to itself, from `a`, visits exactly
    `path` (`a` first, `b` not included) and arrives at `b`.  Only NAME keys have entries, so every element of `path` is a
    name; `b` may be an int or `None` (the VALUE of a constant, when the chain of typedef names ends in a constant). -/
inductive KChain (vars : Vars) : Key → List Key → Key → Prop
  | nil (a : Key) : KChain vars a [] a
  | cons {a b : Key} {v : Val} {path : List Key} :
      lookupKey vars a = some v → valToKey v ≠ a → KChain vars (valToKey v) path b → KChain vars a (a :: path) b

/-- where the Python loop stops by its second condition: `constants.get(key, key) == key` -/
def KStop (vars : Vars) (b : Key) : Prop :=
  lookupKey vars b = Option.none ∨ ∃ v, lookupKey vars b = some v ∧ valToKey v = b

theorem lastInChain_sound (vars : Vars) :
    ∀ (fuel : Nat) (seen : List Key) (key : Key), SeenIn (keysOf vars) seen → vars.length + 1 ≤ fuel + seen.length →
      ∃ path, KChain vars key path (lastInChain vars fuel seen key) ∧ path.Nodup ∧ (∀ x, x ∈ path → ¬ x ∈ seen) ∧
        (lastInChain vars fuel seen key ∈ path ∨ lastInChain vars fuel seen key ∈ seen ∨
          KStop vars (lastInChain vars fuel seen key)) := by
  intro fuel seen key
  fun_induction lastInChain vars fuel seen key with
  | case1 seen key =>                                  -- out of fuel: `seen` would be longer than the dictionary
    intro hi hf
    have := hi.length_le
    rw [keysOf_length] at this
    omega
  | case2 fuel seen key hc =>                          -- a key seen before
    exact fun _ _ => ⟨[], .nil key, by simp, by simp, .inr (.inl (by simpa using hc))⟩
  | case3 fuel seen key hc hl =>                       -- no entry
    exact fun _ _ => ⟨[], .nil key, by simp, by simp, .inr (.inr (.inl hl))⟩
  | case4 fuel seen v hc hl =>                         -- an entry that maps the key to itself
    exact fun _ _ => ⟨[], .nil _, by simp, by simp, .inr (.inr (.inr ⟨v, hl, rfl⟩))⟩
  | case5 fuel seen key hc v hl hv ih =>               -- one step
    intro hi hf
    have hc : ¬ key ∈ seen := by simpa using hc
    obtain ⟨path, hch, hnd, hdis, hb⟩ := ih (hi.cons hc (lookupKey_some_mem vars _ _ hl))
      (by simp only [List.length_cons]; omega)
    refine ⟨key :: path, .cons hl hv hch, List.nodup_cons.mpr ⟨fun hm => hdis key hm (by simp), hnd⟩, ?_, ?_⟩
    · intro x hx
      rcases List.mem_cons.mp hx with e | hx
      · subst e; exact hc
      · exact fun hs => hdis x hx (List.mem_cons_of_mem _ hs)
    · rw [← or_assoc] at hb ⊢
      exact hb.imp_left mem_shift.mpr

theorem lastInChain_complete {vars : Vars} {a b : Key} {path : List Key} (h : KChain vars a path b) :
    ∀ (fuel : Nat) (seen : List Key), path.Nodup → (∀ x, x ∈ path → ¬ x ∈ seen) →
      (b ∈ path ∨ b ∈ seen ∨ KStop vars b) → path.length + 1 ≤ fuel → lastInChain vars fuel seen a = b := by
  induction h with
  | nil a =>
    intro fuel seen _ _ hb hf
    obtain ⟨f, rfl⟩ : ∃ f, fuel = f + 1 := ⟨fuel - 1, by simp at hf; omega⟩
    rw [lastInChain_succ]
    by_cases hc : a ∈ seen
    · simp [hc]
    · simp only [hc, if_false]
      rcases hb with hb | hb | hb
      · simp at hb
      · exact absurd hb hc
      · rcases hb with hb | ⟨v, hl, hv⟩
        · simp [hb]
        · simp [hl, hv]
  | @cons a b v path h1 hne h2 ih =>
    intro fuel seen hnd hdis hb hf
    obtain ⟨f, rfl⟩ : ∃ f, fuel = f + 1 := ⟨fuel - 1, by simp at hf; omega⟩
    rw [lastInChain_succ]
    have hc : ¬ a ∈ seen := hdis a (by simp)
    simp only [hc, if_false, h1, hne]
    have hnd' := List.nodup_cons.mp hnd
    apply ih f (a :: seen) hnd'.2 (disjoint_shift hnd'.1 hdis)
    · rw [← or_assoc] at hb ⊢
      exact hb.imp_left mem_shift.mp
    · simp only [List.length_cons] at hf; omega

end Resolve
end Prophy
