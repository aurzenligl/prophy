/- The table of length hints that both decoders thread through the loop over the members of a struct: what a decoded
   counter enters (`Py.boundHints`), what the table holds afterwards, and a shape for "the arrays whose counter has been
   read have an entry with property `Q`" (`Hinted`) with its two steps.  Instances: `HintInv` (Counters) and `Cpp.TableOk`
   with both steps, `HintsOk_dt` with `Hinted.counter`; `Py.HintsOk` has the shape and its own steps (no unique names);
   `Py.HintsLe` bounds the entries and is none. -/
import ProphyModel.Schema
namespace Prophy
open Prophy

namespace Py

/-- the length hints a decoded counter `c` of the sizer `n` hands to the arrays bound to it -/
def boundHints (all : List Member) (n : String) (c : Nat) : List (String × Nat) :=
  all.filterMap (fun m => if m.kind.sizer? = some n then some (m.name, c) else none)

end Py

theorem lookup_boundHints (n : String) (c : Nat) (key : String) : (L : List Member) →
    (Py.boundHints L n c).lookup key =
      if L.any (fun m => decide (m.kind.sizer? = some n) && key == m.name) then some c else none
  | [] => rfl
  | a :: L => by
    have ih := lookup_boundHints n c key L
    unfold Py.boundHints at ih ⊢
    rw [List.filterMap_cons, List.any_cons]
    by_cases ha : a.kind.sizer? = some n
    · simp only [ha, if_true, List.lookup_cons, decide_true, Bool.true_and]
      cases hk : key == a.name
      · simpa using ih
      · simp
    · simpa only [ha, if_false, decide_false, Bool.false_and, Bool.false_or] using ih

theorem lookup_bound_hit {all : List Member} (n : String) (c : Nat) (hints : List (String × Nat)) {m : Member}
    (hm : m ∈ all) (hs : m.kind.sizer? = some n) : (Py.boundHints all n c ++ hints).lookup m.name = some c := by
  rw [List.lookup_append, lookup_boundHints, if_pos (List.any_eq_true.2 ⟨m, hm, by simp [hs]⟩)]; rfl

theorem lookup_bound_miss {all : List Member} (huq : ∀ m ∈ all, ∀ m' ∈ all, m.name = m'.name → m = m') (n : String)
    (c : Nat) (hints : List (String × Nat)) {m : Member} (hm : m ∈ all) (hs : m.kind.sizer? ≠ some n) :
    (Py.boundHints all n c ++ hints).lookup m.name = hints.lookup m.name := by
  rw [List.lookup_append, lookup_boundHints, if_neg]; rfl
  rw [List.any_eq_true]
  rintro ⟨m', hm', h⟩
  simp only [Bool.and_eq_true, decide_eq_true_eq, beq_iff_eq] at h
  obtain rfl := huq m hm m' hm' h.2
  exact hs h.1

theorem named_snoc {before : List Member} {m0 : Member} {s : String} (h : ∃ x ∈ before ++ [m0], x.name = s) :
    (∃ x ∈ before, x.name = s) ∨ s = m0.name := by
  obtain ⟨x, hx, hxn⟩ := h
  rcases List.mem_append.1 hx with hx | hx
  · exact Or.inl ⟨x, hx, hxn⟩
  · rw [List.mem_singleton.1 hx] at hxn; exact Or.inr hxn.symm

/-- `Q m s` holds of the table's entry for every array `m` of `ms` whose counter `s` has been read (`seen`) -/
def Hinted (seen : String → Prop) (ms : List Member) (hints : List (String × Nat))
    (Q : Member → String → Option Nat → Prop) : Prop :=
  ∀ m ∈ ms, ∀ s, m.kind.sizer? = some s → seen s → Q m s (hints.lookup m.name)

/-- past a member that is nobody's counter the table is the same -/
theorem Hinted.other {seen seen' : String → Prop} {all ms ms' : List Member} {hints : List (String × Nat)}
    {Q : Member → String → Option Nat → Prop} {n : String} (h : Hinted seen ms hints Q)
    (hsub : ∀ m ∈ ms', m ∈ ms ∧ m ∈ all) (hseen : ∀ s, seen' s → seen s ∨ s = n) (hns : isSizer n all = false) :
    Hinted seen' ms' hints Q := by
  intro m hm s hs hs'
  rcases hseen s hs' with h1 | rfl
  · exact h m (hsub m hm).1 s hs h1
  · have : isSizer s all = true := by
      simp only [isSizer, List.any_eq_true, decide_eq_true_eq]
      exact ⟨m, (hsub m hm).2, hs⟩
    rw [hns] at this; cases this

/-- past the counter `n`, read as `c`: the arrays bound to it find `c`, the others what they found -/
theorem Hinted.counter {seen seen' : String → Prop} {all ms ms' : List Member} {hints : List (String × Nat)}
    {Q : Member → String → Option Nat → Prop} {n : String} {c : Nat}
    (huq : ∀ m ∈ all, ∀ m' ∈ all, m.name = m'.name → m = m') (h : Hinted seen ms hints Q)
    (hsub : ∀ m ∈ ms', m ∈ ms ∧ m ∈ all) (hseen : ∀ s, seen' s → seen s ∨ s = n)
    (hnew : ∀ m ∈ ms', m.kind.sizer? = some n → Q m n (some c)) :
    Hinted seen' ms' (Py.boundHints all n c ++ hints) Q := by
  intro m hm s hs hs'
  by_cases hsn : s = n
  · subst hsn
    rw [lookup_bound_hit s c hints (hsub m hm).2 hs]; exact hnew m hm hs
  · rw [lookup_bound_miss huq n c hints (hsub m hm).2 (by rw [hs]; exact fun h => hsn (Option.some.inj h))]
    exact h m (hsub m hm).1 s hs ((hseen s hs').resolve_right hsn)

end Prophy
