/- The chunks of the canonical encoding member by member (`Spec.fieldChunks`, `Spec.chunksMs_cons`) and how they
   render: scalars and zeros.  Facts about docs/encoding.rst alone, shared by every codec's development. -/
import ProphyModel.Typing
import ProphyModel.Lemmas.Render
namespace Prophy

def Spec.fieldChunks (all : List Member) (allv : List Val) (n : String) (t : Ty) (k : MKind) (v : Val) : List Spec.Chunk :=
  match k, v with
  | .plain, .sizer => [.scalar (Spec.sizeTy t) (Spec.counter n all allv + sizerShift n all)]
  | .plain, v => Spec.chunksTy t v
  | .optional, .absent => [.pad (max Spec.flagSize (Spec.alignTy t) + Spec.sizeTy t)]
  | .optional, .present x =>
    [.scalar Spec.flagSize 1, .pad (max Spec.flagSize (Spec.alignTy t) - Spec.flagSize)] ++ Spec.chunksTy t x
  | .fixed _, .arr xs => Spec.chunksElems t xs
  | .fixed _, .bytes b => [.raw b]
  | .dyn _ _, .arr xs => Spec.chunksElems t xs
  | .dyn _ _, .bytes b => [.raw b]
  | .limited _ c, .arr xs =>
    let es := Spec.chunksElems t xs
    es ++ [.pad (c * Spec.sizeTy t - Spec.clen es)]
  | .limited _ c, .bytes b => [.raw b, .pad (c - b.length)]
  | .greedy, .arr xs => Spec.chunksElems t xs
  | .greedy, .bytes b => [.raw b]
  | _, _ => []

theorem Spec.chunksMs_cons (all : List Member) (allv : List Val) (n : String) (t : Ty) (k : MKind)
    (r : List Member) (v : Val) (vs : List Val) (off : Nat) (ad : Bool) :
    Spec.chunksMs all allv (.mk n t k :: r) (v :: vs) off ad =
      .pad (padTo off (if ad then Spec.blockAlign (.mk n t k :: r) else Spec.alignMember (.mk n t k))) ::
        (Spec.fieldChunks all allv n t k v ++
          Spec.chunksMs all allv r vs
            (off + padTo off (if ad then Spec.blockAlign (.mk n t k :: r) else Spec.alignMember (.mk n t k))
              + Spec.clen (Spec.fieldChunks all allv n t k v))
            (Spec.endsBlock (.mk n t k))) := by
  -- `fieldChunks` is the `match` of the loop body: once the left side is unfolded the two sides coincide
  conv => lhs; unfold Spec.chunksMs
  rfl

theorem Spec.chunksMs_nil (all : List Member) (allv vs : List Val) (off : Nat) (ad : Bool) :
    Spec.chunksMs all allv [] vs off ad = [] := by
  cases vs <;> rfl

theorem Spec.chunksElems_nil (t : Ty) : Spec.chunksElems t [] = [] := by
  cases t <;> rfl

theorem Spec.chunksElems_cons (t : Ty) (x : Val) (xs : List Val) :
    Spec.chunksElems t (x :: xs) = Spec.chunksTy t x ++ Spec.chunksElems t xs := rfl

theorem Spec.chunksTy_struct (n : String) (ms : List Member) (vs : List Val) :
    Spec.chunksTy (.struct n ms) (.struct vs) =
      Spec.chunksMs ms vs ms vs 0 false ++
        [.pad (padTo (Spec.clen (Spec.chunksMs ms vs ms vs 0 false)) (Spec.alignMs ms))] := rfl

theorem Spec.chunksTy_union_some (n : String) (arms : List Arm) (idx : Nat) (v : Val) (an : String) (d : Nat) (t : Ty)
    (h : arms[idx]? = some (.mk an d t)) :
    Spec.chunksTy (.union n arms) (.union idx v) =
      [.scalar Spec.flagSize d, .pad (max Spec.flagSize (Spec.alignArms arms) - Spec.flagSize)] ++ Spec.chunksTy t v
        ++ [.pad (Spec.sizeTy (.union "" arms) - max Spec.flagSize (Spec.alignArms arms) - Spec.clen (Spec.chunksTy t v))] := by
  simp only [Spec.chunksTy, h]

theorem Spec.fieldChunks_plain (all : List Member) (allv : List Val) (n : String) (t : Ty) (v : Val)
    (h : v.isCounter = false) : Spec.fieldChunks all allv n t .plain v = Spec.chunksTy t v := by
  cases v <;> simp_all [Spec.fieldChunks, Val.isCounter]

theorem zeros_add (a b : Nat) : zeros (a + b) = zeros a ++ zeros b := by
  simp [zeros, List.replicate_append_replicate]

theorem zeros_zero : zeros 0 = [] := rfl

theorem render_scalar (e : Endian) (k n : Nat) : Spec.render e [.scalar k n] = scalarBytes e k n := by
  simp [Spec.render, Spec.Chunk.render]

theorem render_cons (e : Endian) (c : Spec.Chunk) (r : List Spec.Chunk) :
    Spec.render e (c :: r) = c.render e ++ Spec.render e r := rfl

theorem render_nil (e : Endian) : Spec.render e [] = [] := rfl

theorem scalarBytes_zero (e : Endian) (k : Nat) : scalarBytes e k 0 = zeros k := by
  have h : ∀ k, leBytes k 0 = zeros k := by
    intro k
    induction k with
    | zero => rfl
    | succ k ih => simp only [leBytes, ih, zeros, List.replicate_succ]; rfl
  cases e <;> simp [scalarBytes, h, zeros]

theorem clen_cons (c : Spec.Chunk) (r : List Spec.Chunk) : Spec.clen (c :: r) = c.len + Spec.clen r := rfl
theorem clen_nil : Spec.clen [] = 0 := rfl

theorem Spec.length_le_clen_elems (t : Ty) : (xs : List Val) → (∀ x ∈ xs, 0 < Spec.clen (Spec.chunksTy t x)) →
    xs.length ≤ Spec.clen (Spec.chunksElems t xs)
  | [], _ => by simp
  | x :: xs, h => by
    have h1 := h x (List.mem_cons_self ..)
    have h2 := Spec.length_le_clen_elems t xs (fun y hy => h y (List.mem_cons_of_mem _ hy))
    simp only [Spec.chunksElems, Spec.clen_append, List.length_cons]
    omega

theorem Spec.galTy_struct (nm : String) (ms : List Member) (vs : List Val) :
    Spec.galTy (.struct nm ms) (.struct vs) =
      ((!(Spec.unlMs ms) || padTo (Spec.clen (Spec.chunksMs ms vs ms vs 0 false)) (Spec.alignMs ms) == 0) &&
        Spec.galMs ms vs) := rfl

theorem Spec.galMs_tail (m : Member) (r : List Member) (v : Val) (vs : List Val)
    (h : Spec.galMs (m :: r) (v :: vs) = true) : Spec.galMs r vs = true := by
  cases r with
  | nil => cases vs <;> rfl
  | cons m' r' =>
    cases vs with
    | nil => obtain ⟨n', t', k'⟩ := m'; cases k' <;> cases r' <;> rfl
    | cons v' vs' =>
      obtain ⟨n, t, k⟩ := m
      cases k <;> exact h

theorem Spec.galMs_single (n : String) (t : Ty) (v : Val) (h : Spec.galMs [.mk n t .plain] [v] = true) :
    Spec.galTy t v = true := h

end Prophy
