/- C08: the raw C++ struct layout is the wire layout.  Built around `Groups` / `GOne` / `Groups.cons` (the generated
   groups of the remaining members, one step of the layout) and `rawSlot`, which RawSwap* import it for.  Up to `fo`:
   general facts about `partition`, `zipIdx`, `filter` -/
import ProphyModel.Raw
import ProphyModel.Lemmas.PLayoutSpec
import ProphyModel.Lemmas.Lay
namespace Prophy

namespace Raw
open PL Accept Cpp

theorem partition_ne_nil {α : Type} (p : α → Bool) (l : List α) : partition p l ≠ [] := by
  fun_induction partition p l <;> simp_all

theorem partition_all_false {α : Type} (p : α → Bool) (l : List α) (h : ∀ x ∈ l, p x = false) :
    partition p l = [l] := by
  fun_induction partition p l <;> simp_all

/-- put `x` into the first list -/
def consHead {β : Type} (x : β) : List (List β) → List (List β)
  | [] => [[x]]
  | p :: ps => (x :: p) :: ps

theorem partition_cons_ne {α : Type} (p : α → Bool) (x : α) (l : List α) (h : l ≠ []) :
    partition p (x :: l) = if p x then [x] :: partition p l else consHead x (partition p l) := by
  cases l with
  | nil => exact absurd rfl h
  | cons y r =>
    simp only [partition]
    split
    · rfl
    · split <;> simp_all [consHead]

theorem partition_head {α : Type} (p : α → Bool) (x : α) : (l : List α) →
    ∃ hd tl, partition p (x :: l) = (x :: hd) :: tl
  | [] => ⟨[], [], rfl⟩
  | y :: r => by
    obtain ⟨hd, tl, h⟩ := partition_head p y r
    rw [partition_cons_ne p x (y :: r) (by simp), h]
    cases p x
    · exact ⟨y :: hd, tl, rfl⟩
    · exact ⟨[], _, rfl⟩

theorem partition_flatten {α : Type} (p : α → Bool) (l : List α) : (partition p l).flatten = l := by
  fun_induction partition p l <;> simp_all

theorem consHead_map {α β : Type} (f : α → β) (x : α) (P : List (List α)) :
    (consHead x P).map (List.map f) = consHead (f x) (P.map (List.map f)) := by cases P <;> rfl

theorem partition_map {α β : Type} (f : α → β) (p : β → Bool) : (l : List α) →
    partition p (l.map f) = (partition (fun x => p (f x)) l).map (List.map f)
  | [] => rfl
  | [x] => rfl
  | x :: y :: r => by
    have ih := partition_map f p (y :: r)
    rw [List.map_cons, partition_cons_ne _ _ _ (by simp), partition_cons_ne _ _ _ (by simp), ih]
    split
    · rfl
    · exact (consHead_map f x _).symm

theorem zipIdx_map_fst {α β : Type} (f : α → β) : (l : List α) → (k : Nat) →
    (l.zipIdx k).map (fun x => f x.1) = l.map f
  | [], _ => rfl
  | a :: l, k => by simp [List.zipIdx_cons, zipIdx_map_fst f l]

theorem zipIdx_map_pos {α β : Type} (A : β) (f : α → β) : (l : List α) → (k : Nat) → 0 < k →
    (l.zipIdx k).map (fun x => if x.2 = 0 then A else f x.1) = l.map f
  | [], _, _ => rfl
  | a :: l, k, hk => by
    have : k ≠ 0 := by omega
    simp [List.zipIdx_cons, zipIdx_map_pos A f l (k + 1) (by omega), this]

theorem zipIdx_map_zero {α β : Type} (A : β) (f : α → β) (a : α) (l : List α) :
    ((a :: l).zipIdx 0).map (fun x => if x.2 = 0 then A else f x.1) = A :: l.map f := by
  simp [List.zipIdx_cons, zipIdx_map_pos A f l 1 (by omega)]

theorem filter_names {α : Type} (nm : α → String) (c : Nat) : (l : List α) →
    (∀ a ∈ l, (nm a).startsWith "_padding" = false) →
    (l.map (fun a => (nm a, c))).filter (fun p => !(p.1.startsWith "_padding")) = l.map (fun a => (nm a, c))
  | [], _ => rfl
  | a :: l, h => by
    simp [h a (by simp), filter_names nm c l (fun x hx => h x (by simp [hx]))]

theorem has_not_pad (n : String) : ("has_" ++ n).startsWith "_padding" = false := by
  rw [String.startsWith_string_eq_false_iff]
  simp [String.toList_append]

theorem pad_is_pad (idx : Nat) : (s!"_padding{idx}").startsWith "_padding" = true := by
  rw [String.startsWith_string_iff]
  show "_padding".toList <+: ("_padding" ++ toString idx).toList
  simp [String.toList_append]

/-- `Raw.offsets` without the generated `_padding` members -/
def fo (fs : List Field) (off : Nat) : List (String × Nat) :=
  (offsets fs off).filter (fun p => !(p.1.startsWith "_padding"))

theorem fo_nil (off : Nat) : fo [] off = [] := rfl

theorem offsets_append : (fs gs : List Field) → (off : Nat) →
    offsets (fs ++ gs) off = offsets fs off ++ offsets gs (off + totalSize fs)
  | [], gs, off => by simp [offsets, totalSize]
  | f :: fs, gs, off => by
    simp only [List.cons_append, offsets, totalSize, offsets_append fs gs, Nat.add_assoc]

theorem fo_append (fs gs : List Field) (off : Nat) :
    fo (fs ++ gs) off = fo fs off ++ fo gs (off + totalSize fs) := by
  simp only [fo, offsets_append, List.filter_append]

theorem totalSize_append : (fs gs : List Field) → totalSize (fs ++ gs) = totalSize fs + totalSize gs
  | [], gs => by simp [totalSize]
  | f :: fs, gs => by simp only [List.cons_append, totalSize, totalSize_append fs gs, Nat.add_assoc]

theorem fo_padders (p idx off : Nat) : fo (padders p idx).1 off = [] := by
  unfold padders
  simp only []
  split <;> split <;> split <;>
    simp only [fo, offsets, List.append_nil, List.nil_append, List.cons_append, List.length_cons, List.length_nil,
      List.filter_cons, List.filter_nil, pad_is_pad, Bool.not_true, Bool.false_eq_true, if_false]

/-- the padding members of 1, 2 and 4 bytes are the binary digits of a padding below 8 -/
theorem totalSize_padders (p idx : Nat) (h : p < 8) : totalSize (padders p idx).1 = p := by
  have h8 : p = 0 ∨ p = 1 ∨ p = 2 ∨ p = 3 ∨ p = 4 ∨ p = 5 ∨ p = 6 ∨ p = 7 := by omega
  rcases h8 with rfl | rfl | rfl | rfl | rfl | rfl | rfl | rfl <;> rfl

/-- `flagFields`, the member's own field (`countOf`), `padFields`: the body of `Raw.memberFields`, put together in `memFields` -/
def flagFields (n : String) (t : Ty) (k : MKind) (idx : Nat) : List Field × Nat :=
  match k with
  | .optional =>
    let fp := (PL.memOf (PL.nodeTy t) .optional).size - (PL.nodeTy t).size - 4
    let (p, i) := if fp > 0 then padders fp idx else ([], idx)
    (Field.mk ("has_" ++ n) 4 1 :: p, i)
  | _ => ([], idx)

def countOf : MKind → Nat
  | .fixed c => c
  | .limited _ c => c
  | _ => 1

def padFields (padding : Int) (idx : Nat) : List Field × Nat :=
  if padding > 0 then padders padding.toNat idx else ([], idx)

def memFields (n : String) (t : Ty) (k : MKind) (padding : Int) (idx : Nat) : List Field × Nat :=
  ((flagFields n t k idx).1 ++ [Field.mk n (sizeofTy t) (countOf k)] ++ (padFields padding (flagFields n t k idx).2).1,
   (padFields padding (flagFields n t k idx).2).2)

/-- `isDyn` of `Raw.memberFields`: the member ends a part -/
def isDynMem (m : PL.Mem) : Bool := m.kind == 1 || m.isDynamic

theorem memberFields_cons (all : List Member) (n : String) (t : Ty) (k : MKind) (r : List Member)
    (s a : Nat) (padding : Int) (ls : List (Nat × Nat × Int)) (mem : PL.Mem) (mems : List PL.Mem) (idx : Nat) :
    memberFields all (.mk n t k :: r) ((s, a, padding) :: ls) (mem :: mems) idx =
      ((memFields n t k padding idx).1, isDynMem mem) ::
        memberFields all r ls mems (memFields n t k padding idx).2 := by
  cases k <;> (simp only [memberFields, memFields, flagFields, padFields, countOf]; try rfl)

theorem memberFields_nil_ls (all ms : List Member) (mems : List PL.Mem) (idx : Nat) :
    memberFields all ms [] mems idx = [] := by
  cases ms <;> simp [memberFields]

/-- the bytes a member's own fields (flag, flag padding, value) take in the generated struct -/
def rawSlot (t : Ty) : MKind → Nat
  | .optional => max 4 (Spec.alignTy t) + sizeofTy t
  | k => sizeofTy t * countOf k

/-- bytes the flag of an optional member (with its padding) takes before the value -/
def flagLen (t : Ty) (k : MKind) : Nat :=
  match k with | .optional => max Spec.flagSize (Spec.alignTy t) | _ => 0

theorem totalSize_flagFields (n : String) (t : Ty) (k : MKind) (idx : Nat) :
    totalSize (flagFields n t k idx).1 = flagLen t k := by
  have hal := Spec.alignTy_isAl t
  cases k <;> simp only [flagFields, totalSize, flagLen, Spec.flagSize]
  unfold IsAl at hal
  have hfp : (PL.memOf (PL.nodeTy t) .optional).size - (PL.nodeTy t).size - 4 = max 4 (Spec.alignTy t) - 4 := by
    rw [PL.memOf_size, PL.nodeTy_align']
    simp only [PL.discSize]
    omega
  simp only [hfp]
  by_cases h : max 4 (Spec.alignTy t) - 4 > 0
  · rw [if_pos h, totalSize_padders _ _ (by omega)]
    simp only [Field.size]
    omega
  · rw [if_neg h]
    simp only [totalSize, Field.size]
    omega

theorem totalSize_padFields (p : Int) (idx : Nat) (h : p.toNat < 8) : totalSize (padFields p idx).1 = p.toNat := by
  unfold padFields
  split
  · exact totalSize_padders _ _ h
  · simp only [totalSize]; omega

theorem totalSize_memFields (n : String) (t : Ty) (k : MKind) (p : Int) (idx : Nat) (h : p.toNat < 8) :
    totalSize (memFields n t k p idx).1 = rawSlot t k + p.toNat := by
  simp only [memFields, totalSize_append, totalSize_flagFields, totalSize_padFields _ _ h, totalSize, Field.size]
  cases k <;> simp only [rawSlot, countOf, flagLen, Spec.flagSize] <;> omega

theorem unlMs_of_fixed_p11 : (ms : List Member) → Spec.fixedMs ms = true → Spec.unlMs ms = false :=
  Spec.unlMs_of_fixed

theorem rawSlot_eq_slot (t : Ty) (k : MKind) (h : sizeofTy t = Spec.sizeTy t) (hk : k.isStatic = true) :
    rawSlot t k = Spec.slot t k := by
  cases k with
  | plain => show sizeofTy t * 1 = Spec.sizeTy t; rw [h, Nat.mul_one]
  | optional => show max 4 (Spec.alignTy t) + sizeofTy t = max Spec.flagSize (Spec.alignTy t) + Spec.sizeTy t; rw [h]; rfl
  | fixed c => show sizeofTy t * c = c * Spec.sizeTy t; rw [h, Nat.mul_comm]
  | limited s c => show sizeofTy t * c = c * Spec.sizeTy t; rw [h, Nat.mul_comm]
  | dyn s sh => exact (Bool.noConfusion hk)
  | greedy => exact (Bool.noConfusion hk)

theorem structSizeof_single (G : List (List Field × Bool × Nat)) (A : Nat) (h : ∀ g ∈ G, g.2.1 = false) :
    structSizeof G A = alignUp (totalSize (G.flatMap (·.1))) A := by
  simp only [structSizeof]
  rw [partition_all_false _ _ h]
  simp

/-- `groupsOf` for a suffix of the member list -/
def groupsAux (all ms : List Member) (ls : List (Nat × Nat × Int)) (mems : List PL.Mem) (idx : Nat) : List MG :=
  (ms.zip ((memberFields all ms ls mems idx).zip (ls.zip mems))).map fun (m, (f, d), (_, a, _), mem) =>
    { m := m, fields := f, isDyn := d, align := a, kind := mem.kind }

theorem groupsOf_eq (ms : List Member) :
    groupsOf ms = groupsAux ms ms (PL.structMembers ms) (PL.memsOf ms) 0 := rfl

theorem groupsAux_cons (all : List Member) (n : String) (t : Ty) (k : MKind) (r : List Member)
    (a b : Nat) (padding : Int) (ls : List (Nat × Nat × Int)) (mem : PL.Mem) (mems : List PL.Mem) (idx : Nat) :
    groupsAux all (.mk n t k :: r) ((a, b, padding) :: ls) (mem :: mems) idx =
      { m := .mk n t k, fields := (memFields n t k padding idx).1,
        isDyn := isDynMem mem, align := b, kind := mem.kind } ::
      groupsAux all r ls mems (memFields n t k padding idx).2 := by
  unfold groupsAux
  rw [memberFields_cons]
  rfl

theorem groupsAux_nil (all : List Member) (ls : List (Nat × Nat × Int)) (mems : List Mem) (idx : Nat) :
    groupsAux all [] ls mems idx = [] := by simp [groupsAux]

/-- `Raw.groupsOf` from the members `ms` on, in the document's terms: the twin of `Cpp.lay` -/
def groupsLay (S : Nat) (any : Bool) : List Member → Bool → Nat → Nat → List MG
  | [], _, _, _ => []
  | .mk n t k :: r, ad, bs, idx =>
    { m := .mk n t k
      fields := (memFields n t k (padOf S any (.mk n t k) r (bs + mslot (.mk n t k))) idx).1
      isDyn := isDynMem (memOf (nodeTy t) k)
      align := aN S ad (.mk n t k :: r)
      kind := (memOf (nodeTy t) k).kind } ::
    groupsLay S any r (Spec.endsBlock (.mk n t k))
      (alignUp (bs + mslot (.mk n t k)) (aN S (Spec.endsBlock (.mk n t k)) r))
      (memFields n t k (padOf S any (.mk n t k) r (bs + mslot (.mk n t k))) idx).2

theorem groupsAux_lay (all : List Member) (S : Nat) (any : Bool) : (ms : List Member) → (ad : Bool) → (bs idx : Nat) →
    groupsAux all ms (lay S any ms ad bs) (memsOf ms) idx = groupsLay S any ms ad bs idx
  | [], _, _, _ => groupsAux_nil ..
  | .mk n t k :: r, ad, bs, idx => by
    rw [lay_cons, show memsOf (.mk n t k :: r) = memOf (nodeTy t) k :: memsOf r from rfl, groupsAux_cons,
      groupsAux_lay all S any r]
    rfl

theorem groupsOf_eq_lay (ms : List Member) (ho : okMs ms = true) :
    groupsOf ms = groupsLay (Spec.alignMs ms) (Spec.dynMs ms) ms false 0 0 := by
  rw [groupsOf_eq, structMembers_eq_lay ms ho, groupsAux_lay]

/-- the groups `gs` are those generated for the remaining members `ms`; `o` is the offset reached inside the current
    part, `ad`: the first of `ms` starts a part (prophyc's static offset and the padder index are hidden here) -/
def Groups (S : Nat) (any : Bool) (gs : List MG) (ms : List Member) (ad : Bool) (o : Nat) : Prop :=
  ∃ bs idx A, gs = groupsLay S any ms ad bs idx ∧ LayInv S any ms ad o bs A ∧ aN S ad ms ∣ o ∧ okMs ms = true

theorem Groups.init (ms : List Member) (ho : okMs ms = true) :
    Groups (Spec.alignMs ms) (Spec.dynMs ms) (groupsOf ms) ms false 0 :=
  ⟨0, 0, _, groupsOf_eq_lay ms ho, LayInv.init ms, Nat.dvd_zero _, ho⟩

theorem groups_spec_p13 (ms : List Member) (hf : frontMs ms ms [] = true) :
    Groups (Spec.alignMs ms) (Spec.dynMs ms) (groupsOf ms) ms false 0 :=
  Groups.init ms (Cpp.okMs_of_front _ _ _ hf)

theorem Groups.nil {S : Nat} {any : Bool} {gs : List MG} {ad : Bool} {o : Nat} (h : Groups S any gs [] ad o) : gs = [] := by
  obtain ⟨_, _, _, h, _⟩ := h
  exact h

/-- what is known of the group `g` of member `n t k` (followed by `r`) whose first field lies at `o` in its part -/
structure GOne (S : Nat) (any : Bool) (g : MG) (n : String) (t : Ty) (k : MKind) (r : List Member) (ad : Bool) (o : Nat) :
    Prop where
  hm : g.m = .mk n t k
  hkind : g.kind = (nodeTy t).kind
  hdyn : g.isDyn = isDynMem (memOf (nodeTy t) k)
  halign : g.align = aN S ad (.mk n t k :: r)
  hfields : ∃ p idx, g.fields = (memFields n t k p idx).1
  hdvd : Spec.alignMember (.mk n t k) ∣ o
  /-- the fields of a member inside a block end where the next member (or the struct's end) is aligned; only the last
      member of a dynamic struct may be left unpadded (right); if it is padded, its alignment is the struct's (`palign = S`
      in `walk_last`).  `rawSlot t k = Spec.slot t k` follows from the first hypothesis, but only through
      `sizeofTy_fixed_ok`, which rests on `Groups.cons`: so it is asked for -/
  hend : Spec.endsBlock (.mk n t k) = false → rawSlot t k = Spec.slot t k →
    (o + totalSize g.fields = alignUp (o + Spec.slot t k) (aN S false r) ∧
      (r = [] → any = true → Spec.alignMember (.mk n t k) = S)) ∨
    (r = [] ∧ any = true ∧ totalSize g.fields = Spec.slot t k)

/-- offset inside its part at which the next group starts (0 in a new part) -/
def nextOff (S : Nat) (n : String) (t : Ty) (k : MKind) (r : List Member) (o : Nat) : Nat :=
  if Spec.endsBlock (.mk n t k) then 0 else alignUp (o + Spec.slot t k) (aN S false r)

theorem nextOff_ends {S : Nat} {n : String} {t : Ty} {k : MKind} {r : List Member} {o : Nat}
    (he : Spec.endsBlock (.mk n t k) = true) : nextOff S n t k r o = 0 := if_pos he

theorem nextOff_static {S : Nat} {n : String} {t : Ty} {k : MKind} {r : List Member} {o : Nat}
    (he : Spec.endsBlock (.mk n t k) = false) : nextOff S n t k r o = alignUp (o + Spec.slot t k) (aN S false r) :=
  if_neg (by rw [he]; exact Bool.false_ne_true)

/-- a member inside a block that is not the last one: its fields end where the next member starts -/
theorem GOne.end_eq_next {S : Nat} {any : Bool} {g : MG} {n : String} {t : Ty} {k : MKind} {m' : Member} {r' : List Member}
    {ad : Bool} {o : Nat} (h : GOne S any g n t k (m' :: r') ad o) (he : Spec.endsBlock (.mk n t k) = false)
    (hs : rawSlot t k = Spec.slot t k) : o + totalSize g.fields = nextOff S n t k (m' :: r') o := by
  rw [nextOff_static he]
  rcases h.hend he hs with ⟨h, _⟩ | ⟨h, _⟩
  · exact h
  · cases h

theorem Groups.cons {S : Nat} (hS : IsAl S) {any : Bool} {gs : List MG} {n : String} {t : Ty} {k : MKind}
    {r : List Member} {ad : Bool} {o : Nat} (h : Groups S any gs (.mk n t k :: r) ad o) :
    ∃ g gs', gs = g :: gs' ∧ GOne S any g n t k r ad o ∧
      Groups S any gs' r (Spec.endsBlock (.mk n t k)) (nextOff S n t k r o) := by
  obtain ⟨bs, idx, A, rfl, inv, ho, hok⟩ := h
  obtain ⟨ht, hopt, hsz, _, _, hr⟩ := (okMs_cons n t k r).1 hok
  have hsl : mslot (.mk n t k) = Spec.slot t k := memOf_slot_ok t k ht
  have hL : Spec.endsBlock (.mk n t k) = false → LenOk (.mk n t k) (mslot (.mk n t k)) (mslot (.mk n t k)) :=
    fun he => ⟨fun _ => rfl, fun h => by rw [he] at h; cases h⟩
  refine ⟨_, _, rfl, ⟨rfl, memOf_kind _ _, rfl, rfl, ⟨_, _, rfl⟩,
    Nat.dvd_trans (alignMember_dvd_aN S ad _ r) ho, fun he hraw => ?_⟩, ?_⟩
  · -- a member inside a block: `LayInv.step` with the member's static size on both sides
    have hstep := (inv.step hS (hL he)).1 0 (Nat.dvd_zero _)
    rw [he, Nat.zero_add, alignUp_of_dvd _ _ ho] at hstep
    rw [← hsl] at hraw ⊢
    show _ + totalSize (memFields n t k (padOf S any (.mk n t k) r (bs + mslot (.mk n t k))) idx).1 = _ ∧ _ ∨ _
    by_cases hneg : padOf S any (.mk n t k) r (bs + mslot (.mk n t k)) < 0
    · -- an alignment request generates no padders; inside a block only the struct's end can ask for one
      have hflag : dynFlag any (.mk n t k) r = true := by
        unfold padOf at hneg
        split at hneg
        · rename_i hc; exact (Bool.and_eq_true_iff.1 hc).1
        · omega
      cases r with
      | cons m' r' => rw [show dynFlag any (.mk n t k) (m' :: r') = Spec.endsBlock (.mk n t k) from rfl, he] at hflag; cases hflag
      | nil =>
        refine Or.inr ⟨rfl, hflag, ?_⟩
        rw [totalSize_memFields _ _ _ _ _ (by omega), hraw]
        omega
    · refine Or.inl ⟨?_, fun hr hd => ?_⟩
      · unfold padLen at hstep
        rw [if_neg hneg] at hstep
        rw [totalSize_memFields _ _ _ _ _ (by rw [hstep]; exact padTo_lt8 _ _ (aN_isAl S hS false r)), hraw, hstep]
        unfold alignUp; omega
      · subst hr hd
        have hle := Nat.le_of_dvd hS.pos (inv.memS _ (List.mem_cons_self ..))
        have hSp := hS.pos
        by_cases hlt : Spec.alignMember (.mk n t k) < S
        · simp [padOf_eq, padBetween, dynFlag, aN, hlt] at hneg
          omega
        · omega
  · cases he : Spec.endsBlock (.mk n t k) with
    | true =>
      rw [nextOff_ends he]
      exact ⟨_, _, _, rfl, inv.restart hS he 0, Nat.dvd_zero _, hr⟩
    | false =>
      obtain ⟨-, A', inv'⟩ := inv.step hS (hL he)
      rw [he, alignUp_of_dvd _ _ ho] at inv'
      rw [show nextOff S n t k r o = alignUp (o + mslot (.mk n t k)) (aN S false r) by simp [nextOff, he, hsl]]
      exact ⟨_, _, _, rfl, inv'.aligned hS, dvd_alignUp _ _ (aN_isAl S hS false r).pos, hr⟩

theorem blocks_groupsAux (all : List Member) : (ms : List Member) → (ls : List (Nat × Nat × Int)) → (mems : List Mem) →
    (idx : Nat) →
    ((memberFields all ms ls mems idx).zip ls).map
        (fun (x : (List Field × Bool) × (Nat × Nat × Int)) => (x.1.1, x.1.2, x.2.2.1))
      = (groupsAux all ms ls mems idx).map (fun g => (g.fields, g.isDyn, g.align))
  | [], _, _, _ => by simp [memberFields, groupsAux]
  | .mk n t k :: r, [], _, _ => by simp [memberFields_nil_ls, groupsAux]
  | .mk n t k :: r, (s, a, p) :: ls, [], _ => by simp [memberFields, groupsAux]
  | .mk n t k :: r, (s, a, p) :: ls, mem :: mems, idx => by
    rw [memberFields_cons, groupsAux_cons, List.zip_cons_cons, List.map_cons, List.map_cons,
      blocks_groupsAux all r ls mems]

theorem blocksOf_eq_map (ms : List Member) :
    blocksOf ms ms (structMembers ms) (memsOf ms) = (groupsOf ms).map (fun g => (g.fields, g.isDyn, g.align)) := by
  rw [groupsOf_eq, ← blocks_groupsAux]
  simp only [blocksOf]

theorem isDynMem_fixed (t : Ty) (k : MKind) (hx : Spec.fixedTy t = true)
    (hk : k.isStatic = true) : isDynMem (memOf (nodeTy t) k) = false := by
  have := kind_of_fixed t hx
  cases k <;> simp_all [isDynMem, memOf, MKind.isStatic]

theorem fixed_groups {S : Nat} (hS : IsAl S) : (ms : List Member) → ∀ (gs : List MG) (ad : Bool) (o : Nat),
    Groups S false gs ms ad o → Spec.fixedMs ms = true →
    (∀ m ∈ ms, sizeofTy m.ty = Spec.sizeTy m.ty) →
    (∀ g ∈ gs, g.isDyn = false) ∧
      alignUp (o + totalSize (gs.flatMap (·.fields))) S = alignUp (Spec.endMs ms o false) S
  | [], gs, _, o, h, _, _ => by
    rw [h.nil]
    exact ⟨fun _ h => (by cases h), by simp [totalSize, Spec.endMs]⟩
  | .mk n t k :: r, gs, ad, o, h, hx, hmem => by
    obtain ⟨g, gs', rfl, h1, h2⟩ := h.cons hS
    obtain ⟨hk, hxt, hxr⟩ := (Spec.fixedMs_cons n t k r).1 hx
    have he := Spec.endsBlock_of_fixed n t k r hx
    have hraw := rawSlot_eq_slot t k (hmem _ (List.mem_cons_self ..)) hk
    rw [he, nextOff_static he] at h2
    obtain ⟨ih1, ih2⟩ := fixed_groups hS r gs' false _ h2 hxr (fun m hm => hmem m (List.mem_cons_of_mem _ hm))
    have hend : o + totalSize g.fields = alignUp (o + Spec.slot t k) (aN S false r) := by
      rcases h1.hend he hraw with ⟨h, _⟩ | ⟨_, h, _⟩
      · exact h
      · cases h
    refine ⟨fun x hx => ?_, ?_⟩
    · rcases List.mem_cons.1 hx with rfl | hx
      · rw [h1.hdyn]; exact isDynMem_fixed t k hxt hk
      · exact ih1 x hx
    · rw [List.flatMap_cons, totalSize_append, ← Nat.add_assoc, hend, ih2, Spec.endMs_cons, he]
      simp only [Bool.false_eq_true, if_false]
      rw [alignUp_of_dvd _ _ h1.hdvd]
      cases r with
      | nil => simp only [Spec.endMs, aN]; exact alignUp_idem _ _ hS.pos
      | cons m' r' => exact congrArg (alignUp · S) (Spec.endMs_alignUp m' r' _)

theorem sizeof_struct_of_members (n : String) (ms : List Member) (hf : okMs ms = true) (hx : Spec.fixedMs ms = true)
    (hmem : ∀ m ∈ ms, sizeofTy m.ty = Spec.sizeTy m.ty) : sizeofTy (.struct n ms) = Spec.sizeTy (.struct n ms) := by
  have hG := Groups.init ms hf
  rw [Spec.dynMs_of_fixed ms hx] at hG
  obtain ⟨h1, h2⟩ := fixed_groups (Spec.alignMs_isAl ms) ms _ false 0 hG hx hmem
  have hA : (nodeTy (.struct "" ms)).align = Spec.alignMs ms := nodeTy_align' _
  simp only [sizeofTy, Spec.sizeTy]
  rw [blocksOf_eq_map, structSizeof_single _ _ (by simpa using h1), hA, List.flatMap_map]
  rw [Nat.zero_add] at h2
  exact h2

theorem alignofTy_spec (t : Ty) : alignofTy t = Spec.alignTy t := by
  cases t with
  | prim p => simp only [alignofTy, Spec.alignTy]
  | byte => simp only [alignofTy, Spec.alignTy]
  | enum n es => simp only [alignofTy, Spec.alignTy]
  | struct n ms => simp only [alignofTy]; rw [PL.nodeTy_align']; simp only [Spec.alignTy]
  | union n arms => simp only [alignofTy]; rw [PL.nodeTy_align']; simp only [Spec.alignTy]

theorem maxArmAlign_spec : (arms : List Arm) → maxArmAlign arms = Spec.alignArms arms
  | [] => by simp only [maxArmAlign, Spec.alignArms]
  | .mk _ _ t :: r => by simp only [maxArmAlign, Spec.alignArms, alignofTy_spec, maxArmAlign_spec r]

theorem union_align (arms : List Arm) :
    max Spec.flagSize (Spec.alignArms arms) = 4 ∨ max Spec.flagSize (Spec.alignArms arms) = 8 := by
  have := Spec.alignArms_isAl arms
  unfold IsAl at this
  simp only [Spec.flagSize]
  omega

/-- discriminator, padding to the arms' offset, the arms padded to their own alignment, the whole padded to the union's:
    aligning first to the smaller alignment changes nothing -/
theorem sizeof_union_of_arms (n : String) (arms : List Arm) (h : maxArmSizeof arms = Spec.maxArm arms) :
    sizeofTy (.union n arms) = Spec.sizeTy (.union n arms) := by
  simp only [sizeofTy, Spec.sizeTy]
  have hal : (PL.nodeTy (.union "" arms)).align = max Spec.flagSize (Spec.alignArms arms) := PL.nodeTy_align' _
  generalize (PL.nodeTy (.union "" arms)).align = a at hal
  subst hal
  rw [h, maxArmAlign_spec]
  have hb := Spec.alignArms_isAl arms
  have ha : IsAl (max Spec.flagSize (Spec.alignArms arms)) := IsAl.max IsAl.four hb
  have h4 : 4 + (if max Spec.flagSize (Spec.alignArms arms) = 8 then 4 else 0) = max Spec.flagSize (Spec.alignArms arms) := by
    rcases union_align arms with h | h <;> simp [h]
  rw [h4, alignUp_add_left _ _ _ (Nat.dvd_refl _), alignUp_add_left _ _ _ (Nat.dvd_refl _),
    alignUp_alignUp ha.pos (IsAl.dvd_of_le hb ha (Nat.le_max_right _ _))]

mutual
  theorem sizeofTy_fixed_ok : (t : Ty) → Cpp.okTy t = true → Spec.fixedTy t = true → sizeofTy t = Spec.sizeTy t
    | .prim _, _, _ => by simp only [sizeofTy, Spec.sizeTy]
    | .byte, _, _ => by simp only [sizeofTy, Spec.sizeTy]
    | .enum _ _, _, _ => by simp only [sizeofTy, Spec.sizeTy]
    | .struct n ms, hf, hx => by
      have hx' : Spec.fixedMs ms = true := by simpa [Spec.fixedTy] using hx
      exact sizeof_struct_of_members n ms hf hx' (sizeofMs_fixed_ok ms hf hx')
    | .union n arms, hf, hx => by
      have hx' : Spec.fixedArms arms = true := by simpa [Spec.fixedTy] using hx
      exact sizeof_union_of_arms n arms (sizeofArms_fixed_ok arms hf hx')
  theorem sizeofMs_fixed_ok : (ms : List Member) → Cpp.okMs ms = true →
      Spec.fixedMs ms = true → ∀ m ∈ ms, sizeofTy m.ty = Spec.sizeTy m.ty
    | [], _, _, m, hm => by simp at hm
    | .mk n t k :: r, h, hx, m, hm => by
      obtain ⟨ht, _, _, _, _, hr⟩ := (Cpp.okMs_cons n t k r).1 h
      obtain ⟨_, hxt, hxr⟩ := (Spec.fixedMs_cons n t k r).1 hx
      simp only [List.mem_cons] at hm
      rcases hm with rfl | hm
      · exact sizeofTy_fixed_ok t ht hxt
      · exact sizeofMs_fixed_ok r hr hxr m hm
  theorem sizeofArms_fixed_ok : (arms : List Arm) → Cpp.okArms arms = true → Spec.fixedArms arms = true →
      maxArmSizeof arms = Spec.maxArm arms
    | [], _, _ => by simp only [maxArmSizeof, Spec.maxArm]
    | .mk n d t :: r, h, hx => by
      obtain ⟨ht, _, hr⟩ := (Cpp.okArms_cons n d t r).1 h
      obtain ⟨hxt, hxr⟩ := (Spec.fixedArms_cons n d t r).1 hx
      simp only [maxArmSizeof, Spec.maxArm, sizeofTy_fixed_ok t ht hxt, sizeofArms_fixed_ok r hr hxr]
end

theorem sizeofArms_fixed_aux : (arms : List Arm) → Accept.frontArms arms = true → Spec.fixedArms arms = true →
    maxArmSizeof arms = Spec.maxArm arms :=
  fun arms h => sizeofArms_fixed_ok arms (Cpp.okArms_of_front arms h)

/-- the blocks of the documented layout are prophyc's parts (`model.partition` with "ends a block" as the predicate) -/
theorem blocks_eq_partition : (l : List Member) → Spec.blocks l = partition Spec.endsBlock l
  | [] => rfl
  | [_] => rfl
  | m :: m' :: r => by
    have ih := blocks_eq_partition (m' :: r)
    simp only [Spec.blocks, partition, ih]
    cases partition Spec.endsBlock (m' :: r) <;> rfl

theorem blocks_cons_ne (m : Member) (l : List Member) (h : l ≠ []) :
    Spec.blocks (m :: l) = if Spec.endsBlock m then [m] :: Spec.blocks l else consHead m (Spec.blocks l) := by
  rw [blocks_eq_partition, blocks_eq_partition]
  exact partition_cons_ne _ m l h

theorem blocks_ne_nil (l : List Member) : Spec.blocks l ≠ [] := by
  rw [blocks_eq_partition]
  exact partition_ne_nil _ l

def prependHead {β : Type} (a : List β) : List (List β) → List (List β)
  | [] => [a]
  | h :: t => (a ++ h) :: t

/-- `Spec.blockOffsets` with the first block started at `off`: the form in which the induction goes through -/
def specOffs : List (List Member) → Nat → List (List (String × Nat))
  | [], _ => []
  | b :: bs, off => Spec.runOffsets b off :: bs.map (fun b => Spec.runOffsets b 0)

theorem specOffs_zero (B : List (List Member)) : specOffs B 0 = B.map (fun b => Spec.runOffsets b 0) := by
  cases B <;> rfl

/-- the entries of one member in `Spec.runOffsets` -/
def entriesOf : Member → Nat → List (String × Nat)
  | .mk n t k, o =>
    match k with
    | .optional => [("has_" ++ n, o), (n, o + max Spec.flagSize (Spec.alignTy t))]
    | _ => [(n, o)]

theorem runOffsets_cons (n : String) (t : Ty) (k : MKind) (r : List Member) (off : Nat) :
    Spec.runOffsets (.mk n t k :: r) off =
      entriesOf (.mk n t k) (alignUp off (Spec.alignMember (.mk n t k))) ++
        Spec.runOffsets r (alignUp off (Spec.alignMember (.mk n t k)) + Spec.slot t k) := by
  cases k <;> simp [Spec.runOffsets, entriesOf, Spec.slot, Nat.add_assoc]

theorem runOffsets_alignUp (m : Member) (r : List Member) (off : Nat) :
    Spec.runOffsets (m :: r) (alignUp off (Spec.alignMember m)) = Spec.runOffsets (m :: r) off := by
  obtain ⟨n, t, k⟩ := m
  rw [runOffsets_cons, runOffsets_cons, alignUp_idem _ _ (Spec.alignMember_pos _)]

theorem specOffs_cons_single (n : String) (t : Ty) (k : MKind) (B : List (List Member)) (off : Nat) :
    specOffs ([.mk n t k] :: B) off = entriesOf (.mk n t k) (alignUp off (Spec.alignMember (.mk n t k))) :: specOffs B 0 := by
  rw [specOffs_zero]
  simp only [specOffs]
  rw [runOffsets_cons]
  have : ∀ o, Spec.runOffsets [] o = [] := fun o => rfl
  rw [this, List.append_nil]

theorem specOffs_consHead (n : String) (t : Ty) (k : MKind) (B : List (List Member)) (hB : B ≠ []) (off : Nat) :
    specOffs (consHead (.mk n t k) B) off =
      prependHead (entriesOf (.mk n t k) (alignUp off (Spec.alignMember (.mk n t k))))
        (specOffs B (alignUp off (Spec.alignMember (.mk n t k)) + Spec.slot t k)) := by
  cases B with
  | nil => exact absurd rfl hB
  | cons p ps => simp only [consHead, specOffs, prependHead, runOffsets_cons]

theorem specOffs_alignUp (m : Member) (r : List Member) (off : Nat) :
    specOffs (Spec.blocks (m :: r)) (alignUp off (Spec.alignMember m)) = specOffs (Spec.blocks (m :: r)) off := by
  obtain ⟨b, bs, h⟩ := partition_head Spec.endsBlock m r
  rw [blocks_eq_partition, h]
  simp only [specOffs, runOffsets_alignUp]

theorem fo_padFields (p : Int) (idx off : Nat) : fo (padFields p idx).1 off = [] := by
  unfold padFields
  split
  · exact fo_padders _ _ _
  · rfl

theorem fo_flagFields (n : String) (t : Ty) (k : MKind) (idx off : Nat) :
    fo (flagFields n t k idx).1 off = match k with
      | .optional => [("has_" ++ n, off)]
      | _ => [] := by
  cases k <;> simp only [flagFields, fo_nil]
  have h1 : ∀ (fs : List Field), fo (Field.mk ("has_" ++ n) 4 1 :: fs) off = ("has_" ++ n, off) :: fo fs (off + 4) := by
    intro fs
    simp [fo, offsets, has_not_pad, Field.size]
  rw [h1]
  split
  · rw [fo_padders]
  · rfl

theorem fo_memFields (n : String) (t : Ty) (k : MKind) (p : Int) (idx off : Nat)
    (hn : n.startsWith "_padding" = false) : fo (memFields n t k p idx).1 off = entriesOf (.mk n t k) off := by
  have h1 : ∀ (o : Nat), fo [Field.mk n (sizeofTy t) (countOf k)] o = [(n, o)] := by
    intro o
    simp [fo, offsets, hn]
  simp only [memFields, fo_append, fo_padFields, fo_flagFields, totalSize_flagFields, h1, List.append_nil]
  cases k <;> simp [entriesOf, flagLen, Spec.flagSize]

theorem isDynMem_eq_endsPart (nd : PL.Node) (k : MKind) (hg : isGreedy k = false) :
    isDynMem (memOf nd k) = endsPart (memOf nd k) := by
  cases k <;> simp_all [isDynMem, endsPart, memOf, isGreedy]

theorem GOne.isDyn_eq {S : Nat} {any : Bool} {g : MG} {n : String} {t : Ty} {k : MKind} {r : List Member} {ad : Bool}
    {o : Nat} (h : GOne S any g n t k r ad o) (hM : Cpp.MemberOk t k) (hg : isGreedy k = false)
    (hk2 : (nodeTy t).kind ≠ 2) : g.isDyn = Spec.endsBlock (.mk n t k) := by
  rw [h.hdyn, isDynMem_eq_endsPart _ _ hg, endsPart_memOf_ok n t k hM hk2]

theorem rawSlot_of_not_ends_ok (n : String) (t : Ty) (k : MKind) (hM : Cpp.MemberOk t k)
    (heb : Spec.endsBlock (.mk n t k) = false) : rawSlot t k = Spec.slot t k := by
  obtain ⟨hk, hfx⟩ := static_fixed_of_not_endsBlock n t k hM heb
  exact rawSlot_eq_slot t k (sizeofTy_fixed_ok t hM.ok hfx) hk

/-- `specOffs` for the parts of the generated struct -/
def partOffs : List (List MG) → Nat → List (List (String × Nat))
  | [], _ => []
  | p :: ps, off => fo (p.flatMap (·.fields)) off :: ps.map (fun p => fo (p.flatMap (·.fields)) 0)

theorem partOffs_zero (P : List (List MG)) : partOffs P 0 = P.map (fun p => fo (p.flatMap (·.fields)) 0) := by
  cases P <;> rfl

theorem partOffs_cons_single (g : MG) (P : List (List MG)) (off : Nat) :
    partOffs ([g] :: P) off = fo g.fields off :: partOffs P 0 := by
  rw [partOffs_zero]
  simp [partOffs]

theorem partOffs_consHead (g : MG) (P : List (List MG)) (hP : P ≠ []) (off : Nat) :
    partOffs (consHead g P) off = prependHead (fo g.fields off) (partOffs P (off + totalSize g.fields)) := by
  cases P with
  | nil => exact absurd rfl hP
  | cons p ps => simp only [consHead, partOffs, prependHead, List.flatMap_cons, fo_append]

theorem offs_of_groups {S : Nat} (hS : IsAl S) {any : Bool} : (ms : List Member) → ∀ (gs : List MG) (ad : Bool) (o : Nat),
    Groups S any gs ms ad o → okMs ms = true → (∀ m ∈ ms, m.name.startsWith "_padding" = false) →
    partOffs (partition (fun (g : MG) => g.isDyn) gs) o = specOffs (Spec.blocks ms) o
  | [], gs, _, o, h, _, _ => by rw [h.nil]; rfl
  | .mk n t k :: r, gs, ad, o, h, hok, hn => by
    obtain ⟨g, gs', rfl, h1, h2⟩ := h.cons hS
    obtain ⟨_, _, _, _, hl, hr⟩ := (okMs_cons n t k r).1 hok
    obtain ⟨p, idx, hgf⟩ := h1.hfields
    have hfo : fo g.fields o = entriesOf (.mk n t k) (alignUp o (Spec.alignMember (.mk n t k))) := by
      rw [hgf, alignUp_of_dvd _ _ h1.hdvd]; exact fo_memFields _ _ _ _ _ _ (hn _ (List.mem_cons_self ..))
    have ih := offs_of_groups hS r gs' _ _ h2 hr (fun m hm => hn m (List.mem_cons_of_mem _ hm))
    cases r with
    | nil =>
      rw [h2.nil]
      show [fo (g.fields ++ []) o] = [Spec.runOffsets [.mk n t k] o]
      rw [List.append_nil, hfo, runOffsets_cons]
      simp [Spec.runOffsets]
    | cons m' r' =>
      obtain ⟨n', t', k'⟩ := m'
      obtain ⟨hg, hk2⟩ := hl.resolve_left (by simp)
      have hdy := h1.isDyn_eq (.of_okMs hok) hg hk2
      obtain ⟨g2, gs'', rfl, -, -⟩ := h2.cons hS
      rw [partition_cons_ne _ _ _ (by simp), blocks_cons_ne _ _ (by simp), hdy]
      cases heb : Spec.endsBlock (.mk n t k) with
      | true =>
        rw [nextOff_ends heb] at ih
        simp only [if_true]
        rw [partOffs_cons_single, specOffs_cons_single, hfo, ih]
      | false =>
        have hend := h1.end_eq_next heb (rawSlot_of_not_ends_ok n t k (.of_okMs hok) heb)
        simp only [Bool.false_eq_true, if_false]
        rw [partOffs_consHead _ _ (partition_ne_nil _ _), specOffs_consHead _ _ _ _ (blocks_ne_nil _), hfo, hend, ih,
          alignUp_of_dvd _ _ h1.hdvd, nextOff_static heb]
        exact congrArg _ (specOffs_alignUp _ _ _)

theorem blocks_map_blockAlign : (l : List Member) → l ≠ [] →
    (Spec.blocks l).map Spec.blockAlign = Spec.blockAlign l :: (Spec.blocks l).tail.map Spec.blockAlign
  | [], h => absurd rfl h
  | [m], _ => rfl
  | m :: y :: r, _ => by
    have ih := blocks_map_blockAlign (y :: r) (by simp)
    rw [blocks_cons_ne m (y :: r) (by simp)]
    cases heb : Spec.endsBlock m with
    | true =>
      simp only [if_true, List.map_cons, List.tail_cons, Spec.blockAlign_single]
      simp [Spec.blockAlign, heb]
    | false =>
      simp only [Bool.false_eq_true, if_false]
      cases hb : Spec.blocks (y :: r) with
      | nil => exact absurd hb (blocks_ne_nil _)
      | cons h tl =>
        rw [hb] at ih
        simp only [List.map_cons, List.tail_cons, List.cons.injEq] at ih
        simp only [consHead, List.map_cons, List.tail_cons]
        rw [Spec.blockAlign_of_not_endsBlock m h heb, Spec.blockAlign_of_not_endsBlock m (y :: r) heb, ih.1]

def partAlign (p : List MG) : Nat :=
  match p with
  | g :: _ => g.align
  | [] => 1

theorem aligns_of_groups {S : Nat} (hS : IsAl S) {any : Bool} : (ms : List Member) → ∀ (gs : List MG) (ad : Bool) (o : Nat),
    ms ≠ [] → Groups S any gs ms ad o → okMs ms = true →
    (partition (fun (g : MG) => g.isDyn) gs).map partAlign = aN S ad ms :: (Spec.blocks ms).tail.map Spec.blockAlign
  | [], _, _, _, hne, _, _ => absurd rfl hne
  | .mk n t k :: r, gs, ad, o, _, h, hok => by
    obtain ⟨g, gs', rfl, h1, h2⟩ := h.cons hS
    obtain ⟨_, _, _, _, hl, hr⟩ := (okMs_cons n t k r).1 hok
    cases r with
    | nil => rw [h2.nil]; simp [partition, partAlign, h1.halign, Spec.blocks]
    | cons m' r' =>
      obtain ⟨n', t', k'⟩ := m'
      obtain ⟨hg, hk2⟩ := hl.resolve_left (by simp)
      have hdy := h1.isDyn_eq (.of_okMs hok) hg hk2
      have ih := aligns_of_groups hS _ gs' _ _ (by simp) h2 hr
      obtain ⟨g2, gs'', rfl, -, -⟩ := h2.cons hS
      rw [partition_cons_ne _ _ _ (by simp), blocks_cons_ne _ _ (by simp), hdy]
      cases heb : Spec.endsBlock (.mk n t k) with
      | true =>
        rw [heb] at ih
        simp only [if_true, List.map_cons, List.tail_cons, partAlign, h1.halign]
        rw [ih, blocks_map_blockAlign _ (by simp)]
        rfl
      | false =>
        rw [heb] at ih
        simp only [Bool.false_eq_true, if_false]
        obtain ⟨p0, pt, hP⟩ := List.exists_cons_of_ne_nil (partition_ne_nil (fun (g : MG) => g.isDyn) (g2 :: gs''))
        obtain ⟨b0, bt, hB⟩ := List.exists_cons_of_ne_nil (blocks_ne_nil (.mk n' t' k' :: r'))
        rw [hP, hB] at ih ⊢
        simp only [consHead, List.map_cons, List.tail_cons, partAlign, h1.halign, List.cons.injEq] at ih ⊢
        exact ⟨trivial, ih.2⟩

end Raw

theorem Raw.sizeofTy_fixed (t : Ty) (hf : Accept.front t = true) (hx : Spec.fixedTy t = true) :
    Raw.sizeofTy t = Spec.sizeTy t :=
  Raw.sizeofTy_fixed_ok t (Cpp.ok_of_front t hf) hx

open Raw PL Cpp in
/-- `hn`: the comparison drops the generated padding members (`_paddingN`) by name -/
theorem Raw.offsets_spec (n : String) (ms : List Member) (hf : Accept.front (.struct n ms) = true)
    (hn : ∀ m ∈ ms, m.name.startsWith "_padding" = false) :
    (Raw.structBlocks ms).map (fun b => (Raw.offsets b.fields 0).filter (fun p => !(p.1.startsWith "_padding")))
      = Spec.blockOffsets ms := by
  have hfm : okMs ms = true := Cpp.ok_of_front _ hf
  have h := offs_of_groups (Spec.alignMs_isAl ms) ms _ false 0 (Groups.init ms hfm) hfm hn
  rw [partOffs_zero, specOffs_zero] at h
  simp only [structBlocks, List.map_map, Spec.blockOffsets]
  rw [blocksOf_eq_map, partition_map, ← h]
  refine (zipIdx_map_fst (fun (p : List (List Field × Bool × Nat)) => fo (p.flatMap (·.1)) 0) _ 0).trans ?_
  simp only [List.map_map, Function.comp_def, List.flatMap_map]

/-- without `hn` the statement of `Raw.offsets_spec` is false: the front end does not reserve the `_padding` prefix, and
    the comparison drops every field whose name starts with it; smallest witness `struct S { u8 _padding; }` -/
theorem Raw.offsets_spec_needs_names :
    Accept.front (.struct "S" [.mk "_padding" (.prim .u8) .plain]) = true ∧
    (Raw.structBlocks [.mk "_padding" (.prim .u8) .plain]).map
        (fun b => (Raw.offsets b.fields 0).filter (fun p => !(p.1.startsWith "_padding")))
      ≠ Spec.blockOffsets [.mk "_padding" (.prim .u8) .plain] := by
  refine ⟨by decide, ?_⟩
  intro h
  have hr : Spec.blockOffsets [.mk "_padding" (.prim .u8) .plain] = [[("_padding", 0)]] := by decide
  rw [hr] at h
  have h1 : [("_padding", 0)] ∈ (Raw.structBlocks [.mk "_padding" (.prim .u8) .plain]).map
      (fun b => (Raw.offsets b.fields 0).filter (fun p => !(p.1.startsWith "_padding"))) := by
    rw [h]; simp
  obtain ⟨b, _, hb⟩ := List.mem_map.1 h1
  have h2 : ("_padding", 0) ∈ (Raw.offsets b.fields 0).filter (fun p => !(p.1.startsWith "_padding")) := by
    rw [hb]; simp
  have h3 := (List.mem_filter.1 h2).2
  simp at h3

open Raw PL Cpp in
theorem Raw.block_align_spec (n : String) (ms : List Member) (hf : Accept.front (.struct n ms) = true) :
    (Raw.structBlocks ms).map (·.align) = Spec.alignMs ms :: (Spec.blocks ms).tail.map Spec.blockAlign := by
  have hfm : okMs ms = true := Cpp.ok_of_front _ hf
  have hne : ms ≠ [] := by rintro rfl; simp [Accept.front] at hf
  have hA : (nodeTy (.struct "" ms)).align = Spec.alignMs ms := nodeTy_align' _
  have h := aligns_of_groups (Spec.alignMs_isAl ms) ms _ false 0 hne (Groups.init ms hfm) hfm
  simp only [structBlocks, List.map_map, hA]
  rw [blocksOf_eq_map, partition_map]
  obtain ⟨p0, pt, hP⟩ := List.exists_cons_of_ne_nil (partition_ne_nil (fun (g : MG) => g.isDyn) (groupsOf ms))
  rw [hP] at h ⊢
  simp only [List.map_cons, List.cons.injEq] at h
  rw [← h.2]
  refine (zipIdx_map_zero _ (fun (p : List (List Field × Bool × Nat)) => match p with | g :: _ => g.2.2 | [] => 1)
    _ _).trans ?_
  rw [List.map_map]
  refine congrArg _ (List.map_congr_left fun p _ => ?_)
  cases p <;> rfl

theorem Raw.unionLayout_eq (arms : List Arm) :
    Raw.unionLayout arms = [("discriminator", 0)]
      ++ (if max Spec.flagSize (Spec.alignArms arms) = 8 then [("_padding0", 4)] else [])
      ++ arms.map (fun a => (a.name, max Spec.flagSize (Spec.alignArms arms))) := by
  have hA : (PL.nodeTy (.union "" arms)).align = max Spec.flagSize (Spec.alignArms arms) := PL.nodeTy_align' _
  simp only [Raw.unionLayout, hA]
  rcases Raw.union_align arms with h | h <;> rw [h] <;> simp

theorem Raw.union_spec (arms : List Arm) (hn : ∀ a ∈ arms, a.name.startsWith "_padding" = false) :
    (Raw.unionLayout arms).filter (fun p => !(p.1.startsWith "_padding"))
      = ("discriminator", 0) :: arms.map (fun a => (a.name, max Spec.flagSize (Spec.alignArms arms))) := by
  have hd : ("discriminator".startsWith "_padding") = false := by
    rw [String.startsWith_string_eq_false_iff]; decide
  have hp : ("_padding0".startsWith "_padding") = true := by
    rw [String.startsWith_string_iff]; decide
  rw [Raw.unionLayout_eq, List.filter_append, List.filter_append, Raw.filter_names Arm.name _ arms hn]
  split <;> simp [hd, hp]

theorem Raw.union_arm_aligned : (arms : List Arm) → ∀ a ∈ arms,
    Spec.alignTy a.ty ∣ max Spec.flagSize (Spec.alignArms arms) := by
  intro arms a h
  obtain ⟨i, hi⟩ := List.getElem?_of_mem h
  exact Spec.alignArm_dvd arms i a hi

namespace Raw
open Accept PL Cpp

theorem sizeof_ok_p13 : (t : Ty) → front t = true → Spec.dynTy t = false → sizeofTy t = Spec.sizeTy t :=
  fun t hf hd => sizeofTy_fixed t hf (fixed_of_ok t (Cpp.ok_of_front t hf) hd)

theorem sizeofArms_ok_p13 : (arms : List Arm) → frontArms arms = true →
    maxArmSizeof arms = Spec.maxArm arms ∧ maxArmAlign arms = Spec.alignArms arms :=
  fun arms h => ⟨sizeofArms_fixed_aux arms h (fixedArms_of_ok arms (Cpp.okArms_of_front arms h)), maxArmAlign_spec arms⟩

end Raw

end Prophy

#print axioms Prophy.Raw.sizeofTy_fixed
#print axioms Prophy.Raw.offsets_spec
#print axioms Prophy.Raw.block_align_spec
#print axioms Prophy.Raw.union_spec
#print axioms Prophy.Raw.offsets_spec_needs_names
#print axioms Prophy.Raw.unionLayout_eq
#print axioms Prophy.Raw.union_arm_aligned
#print axioms Prophy.Raw.groups_spec_p13
#print axioms Prophy.Raw.sizeof_ok_p13
