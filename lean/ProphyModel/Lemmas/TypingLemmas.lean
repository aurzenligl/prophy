/-
  What `hasField all k t v` says, read off the value `v`: one lemma per constructor of `Val`, so that a proof
  about a member value takes the facts it needs instead of unfolding `hasField` over every kind and type.
-/
import ProphyModel.Typing
import ProphyModel.Spec
namespace Prophy

theorem MKind.isStatic_eq_false_iff (k : MKind) :
    k.isStatic = false ↔ (∃ s sh, k = .dyn s sh) ∨ k = .greedy := by
  cases k <;> simp [MKind.isStatic]

theorem Val.isCounter_eq_true_iff (v : Val) : v.isCounter = true ↔ v = .sizer := by
  cases v <;> simp [Val.isCounter]

/-- the condition `hasField` puts on the number of elements of an array or bytes member -/
def lenFits (all : List Member) : MKind → Nat → Bool
  | .fixed c, n => n == c
  | .limited s c, n => n ≤ c && (n : Int) ≤ sizerMax s all
  | .dyn s sh, n => (n : Int) ≤ sizerMax s all - (sh : Int)
  | .greedy, _ => true
  | _, _ => false

theorem lenFits_fixed (all : List Member) (c n : Nat) : lenFits all (.fixed c) n = true ↔ n = c := by
  simp [lenFits]

theorem lenFits_limited (all : List Member) (s : String) (c n : Nat) :
    lenFits all (.limited s c) n = true ↔ n ≤ c ∧ (n : Int) ≤ sizerMax s all := by
  simp [lenFits]

theorem lenFits_dyn (all : List Member) (s : String) (sh n : Nat) :
    lenFits all (.dyn s sh) n = true ↔ (n : Int) ≤ sizerMax s all - (sh : Int) := by
  simp [lenFits]

theorem lenFits_kind (all : List Member) (k : MKind) (n : Nat) (h : lenFits all k n = true) :
    k ≠ .plain ∧ k ≠ .optional := by
  cases k <;> first | exact (Bool.false_ne_true h).elim | exact ⟨MKind.noConfusion, MKind.noConfusion⟩

/-! ### `hasField`, by the constructor of the value

  The proofs go through the definition by reduction (`rfl` on constructors), not through `simp [hasField]`:
  the equation lemmas of the mutual recursion are dear to produce and are produced again in every theorem
  that asks for them. -/

theorem hasField_sizer (all : List Member) (k : MKind) (t : Ty) :
    hasField all k t .sizer = true ↔ k = .plain := by
  cases k <;> (constructor <;> intro h <;> first | rfl | cases h)

theorem hasField_absent (all : List Member) (k : MKind) (t : Ty) :
    hasField all k t .absent = true ↔ k = .optional := by
  cases k <;> (constructor <;> intro h <;> first | rfl | cases h)

theorem hasField_present_eq (all : List Member) (k : MKind) (t : Ty) (x : Val) :
    hasField all k t (.present x)
      = ((match k with | .optional => true | _ => false) && !x.isCounter && hasField all .plain t x) := by
  cases t <;> rfl

theorem hasField_present (all : List Member) (k : MKind) (t : Ty) (x : Val) :
    hasField all k t (.present x) = true ↔
      k = .optional ∧ x.isCounter = false ∧ hasField all .plain t x = true := by
  rw [hasField_present_eq]
  cases k <;> simp

theorem hasField_bytes_eq (all : List Member) (k : MKind) (t : Ty) (b : Bytes) :
    hasField all k t (.bytes b) = ((match t with | .byte => true | _ => false) && lenFits all k b.length) := by
  cases t <;> cases k <;> rfl

theorem hasField_bytes_iff (all : List Member) (k : MKind) (t : Ty) (b : Bytes) :
    hasField all k t (.bytes b) = true ↔ t = .byte ∧ lenFits all k b.length = true := by
  rw [hasField_bytes_eq]
  cases t <;> simp

theorem hasField_arr_eq (all : List Member) (k : MKind) (t : Ty) (xs : List Val) :
    hasField all k t (.arr xs)
      = ((match t with | .byte => false | _ => true) && lenFits all k xs.length && hasElems t xs) := by
  cases t <;> cases k <;> rfl

theorem hasField_arr_iff (all : List Member) (k : MKind) (t : Ty) (xs : List Val) :
    hasField all k t (.arr xs) = true ↔
      t ≠ .byte ∧ lenFits all k xs.length = true ∧ hasElems t xs = true := by
  rw [hasField_arr_eq]
  cases t <;> simp

theorem isPlain_and {k : MKind} {b : Bool}
    (h : ((match k with | .plain => true | _ => false) && b) = true) : k = .plain ∧ b = true := by
  cases k <;> first | exact ⟨rfl, by simpa using h⟩ | exact (Bool.false_ne_true h).elim

theorem hasField_int (all : List Member) (k : MKind) (t : Ty) (i : Int)
    (h : hasField all k t (.int i) = true) :
    k = .plain ∧
      ((∃ p, t = .prim p ∧ inRange p i = true) ∨ (t = .byte ∧ inRange .u8 i = true) ∨
        (∃ nm es, t = .enum nm es ∧ es.any (fun e => (e.2 : Int) == i) = true)) := by
  cases t with
  | prim p => exact ⟨(isPlain_and h).1, Or.inl ⟨p, rfl, (isPlain_and h).2⟩⟩
  | byte => exact ⟨(isPlain_and h).1, Or.inr (Or.inl ⟨rfl, (isPlain_and h).2⟩)⟩
  | enum nm es => exact ⟨(isPlain_and h).1, Or.inr (Or.inr ⟨nm, es, rfl, (isPlain_and h).2⟩)⟩
  | struct nm ms => exact (Bool.false_ne_true h).elim
  | union nm arms => exact (Bool.false_ne_true h).elim

theorem hasField_struct (all : List Member) (k : MKind) (t : Ty) (vs : List Val)
    (h : hasField all k t (.struct vs) = true) :
    k = .plain ∧ ∃ nm ms, t = .struct nm ms ∧ hasMs ms ms vs = true := by
  cases t with
  | struct nm ms => exact ⟨(isPlain_and h).1, nm, ms, rfl, (isPlain_and h).2⟩
  | _ => exact (Bool.false_ne_true h).elim

theorem hasField_union (all : List Member) (k : MKind) (t : Ty) (idx : Nat) (x : Val)
    (h : hasField all k t (.union idx x) = true) :
    k = .plain ∧ ∃ nm arms an d t', t = .union nm arms ∧ arms[idx]? = some (.mk an d t') ∧
      x.isCounter = false ∧ hasField [] .plain t' x = true := by
  cases t with
  | union nm arms =>
    obtain ⟨hk, h2⟩ := isPlain_and h
    cases ha : arms[idx]? with
    | none => rw [ha] at h2; exact (Bool.false_ne_true h2).elim
    | some a =>
      obtain ⟨an, d, t'⟩ := a
      rw [ha] at h2
      have h3 : x.isCounter = false ∧ hasField [] .plain t' x = true := by simpa using h2
      exact ⟨hk, nm, arms, an, d, t', rfl, ha, h3⟩
  | _ => exact (Bool.false_ne_true h).elim

theorem hasField_struct_iff (all : List Member) (k : MKind) (nm : String) (ms : List Member) (vs : List Val) :
    hasField all k (.struct nm ms) (.struct vs) = true ↔ k = .plain ∧ hasMs ms ms vs = true := by
  have e : hasField all k (.struct nm ms) (.struct vs)
      = ((match k with | .plain => true | _ => false) && hasMs ms ms vs) := rfl
  rw [e]
  cases k <;> simp

theorem hasField_union_iff (all : List Member) (k : MKind) (nm : String) (arms : List Arm) (idx : Nat) (x : Val)
    (an : String) (d : Nat) (t' : Ty) (ha : arms[idx]? = some (.mk an d t')) :
    hasField all k (.union nm arms) (.union idx x) = true ↔
      k = .plain ∧ x.isCounter = false ∧ hasField [] .plain t' x = true := by
  have e : hasField all k (.union nm arms) (.union idx x)
      = ((match k with | .plain => true | _ => false) &&
          (match arms[idx]? with
           | some (.mk _ _ t) => !x.isCounter && hasField [] .plain t x
           | none => false)) := rfl
  rw [e, ha]
  cases k <;> simp

theorem hasField_plain_shape (all : List Member) (t : Ty) (v : Val) (h : hasField all .plain t v = true) :
    v = .sizer ∨ (∃ i, v = .int i) ∨ (∃ vs, v = .struct vs) ∨ (∃ idx x, v = .union idx x) := by
  cases v with
  | sizer => exact Or.inl rfl
  | int i => exact Or.inr (Or.inl ⟨i, rfl⟩)
  | struct vs => exact Or.inr (Or.inr (Or.inl ⟨vs, rfl⟩))
  | union idx x => exact Or.inr (Or.inr (Or.inr ⟨idx, x, rfl⟩))
  | absent => exact absurd ((hasField_absent all _ t).1 h) (by simp)
  | present x => exact absurd ((hasField_present all _ t x).1 h).1 (by simp)
  | bytes b => exact absurd rfl (lenFits_kind all _ _ ((hasField_bytes_iff all _ t b).1 h).2).1
  | arr xs => exact absurd rfl (lenFits_kind all _ _ ((hasField_arr_iff all _ t xs).1 h).2.1).1

theorem hasMs_nil_left (all : List Member) (vs : List Val) : hasMs all [] vs = true ↔ vs = [] := by
  cases vs with
  | nil => exact ⟨fun _ => rfl, fun _ => rfl⟩
  | cons v vs => exact ⟨fun h => (Bool.false_ne_true h).elim, fun h => by cases h⟩

theorem hasMs_nil_right (all ms : List Member) : hasMs all ms [] = true ↔ ms = [] := by
  cases ms with
  | nil => exact ⟨fun _ => rfl, fun _ => rfl⟩
  | cons m r => obtain ⟨n, t, k⟩ := m; exact ⟨fun h => (Bool.false_ne_true h).elim, fun h => by cases h⟩

theorem hasMs_cons_vals {all : List Member} {m : Member} {r : List Member} {vs : List Val}
    (h : hasMs all (m :: r) vs = true) : ∃ v vs', vs = v :: vs' := by
  cases vs with
  | nil => cases (hasMs_nil_right all _).1 h
  | cons v vs' => exact ⟨v, vs', rfl⟩

theorem hasMs_cons_eq (all : List Member) (n : String) (t : Ty) (k : MKind) (r : List Member) (v : Val)
    (vs : List Val) :
    hasMs all (.mk n t k :: r) (v :: vs)
      = ((match v with | .sizer => isSizer n all | _ => !(isSizer n all)) && hasField all k t v && hasMs all r vs) :=
  rfl

theorem hasMs_cons (all : List Member) (n : String) (t : Ty) (k : MKind) (r : List Member) (v : Val) (vs : List Val) :
    hasMs all (.mk n t k :: r) (v :: vs) = true ↔
      (v.isCounter = isSizer n all) ∧ hasField all k t v = true ∧ hasMs all r vs = true := by
  rw [hasMs_cons_eq]
  cases v <;> simp [Val.isCounter, and_assoc]

theorem hasMs_length (all : List Member) : (ms : List Member) → (vs : List Val) → hasMs all ms vs = true →
    ms.length = vs.length
  | [], vs, h => by rw [(hasMs_nil_left all vs).1 h]; rfl
  | m :: r, [], h => by rw [(hasMs_nil_right all (m :: r)).1 h]; rfl
  | .mk n t k :: r, v :: vs, h => by
    rw [hasMs_cons_eq, Bool.and_eq_true] at h
    simp [hasMs_length all r vs h.2]

theorem hasElems_nil (t : Ty) : hasElems t [] = true := by cases t <;> rfl

theorem hasElems_cons_eq (t : Ty) (x : Val) (xs : List Val) :
    hasElems t (x :: xs) = (!x.isCounter && hasField [] .plain t x && hasElems t xs) := by
  cases t <;> rfl

theorem hasElems_cons (t : Ty) (x : Val) (xs : List Val) :
    hasElems t (x :: xs) = true ↔ x.isCounter = false ∧ hasField [] .plain t x = true ∧ hasElems t xs = true := by
  simp [hasElems_cons_eq, and_assoc]

theorem hasType_iff (t : Ty) (v : Val) :
    hasType t v = true ↔ v.isCounter = false ∧ hasField [] .plain t v = true := by
  simp [hasType]

theorem hasField_plain_indep (al al' : List Member) (t : Ty) (v : Val) :
    hasField al .plain t v = hasField al' .plain t v := by
  cases v <;> cases t <;> rfl

theorem hasElems_iff (t : Ty) : (xs : List Val) → (hasElems t xs = true ↔ ∀ x ∈ xs, hasType t x = true)
  | [] => by simp [hasElems_nil]
  | x :: xs => by
    rw [hasElems_cons_eq]
    simp only [Bool.and_eq_true, List.mem_cons, forall_eq_or_imp, hasElems_iff t xs, hasType]

theorem hasElems_mem (t : Ty) (xs : List Val) (h : hasElems t xs = true) (x : Val) (hx : x ∈ xs) :
    x.isCounter = false ∧ hasField [] .plain t x = true :=
  (hasType_iff t x).1 ((hasElems_iff t xs).1 h x hx)

theorem hasField_optional_shape (all : List Member) (t : Ty) (v : Val) (h : hasField all .optional t v = true) :
    v = .absent ∨ ∃ x, v = .present x ∧ x.isCounter = false ∧ hasField all .plain t x = true := by
  cases v with
  | absent => exact Or.inl rfl
  | present x => exact Or.inr ⟨x, rfl, ((hasField_present all _ t x).1 h).2⟩
  | sizer => exact absurd ((hasField_sizer all _ t).1 h) MKind.noConfusion
  | int i => exact absurd (hasField_int all _ t i h).1 MKind.noConfusion
  | struct vs => exact absurd (hasField_struct all _ t vs h).1 MKind.noConfusion
  | union idx x => exact absurd (hasField_union all _ t idx x h).1 MKind.noConfusion
  | bytes b => exact absurd rfl (lenFits_kind all _ _ ((hasField_bytes_iff all _ t b).1 h).2).2
  | arr xs => exact absurd rfl (lenFits_kind all _ _ ((hasField_arr_iff all _ t xs).1 h).2.1).2

theorem hasField_array_shape (all : List Member) (k : MKind) (t : Ty) (v : Val) (h1 : k ≠ .plain)
    (h2 : k ≠ .optional) (hh : hasField all k t v = true) :
    (∃ xs, v = .arr xs ∧ hasElems t xs = true) ∨ (t = .byte ∧ ∃ b, v = .bytes b) := by
  cases v with
  | arr xs => exact Or.inl ⟨xs, rfl, ((hasField_arr_iff all k t xs).1 hh).2.2⟩
  | bytes b => exact Or.inr ⟨((hasField_bytes_iff all k t b).1 hh).1, b, rfl⟩
  | sizer => exact absurd ((hasField_sizer all k t).1 hh) h1
  | absent => exact absurd ((hasField_absent all k t).1 hh) h2
  | present x => exact absurd ((hasField_present all k t x).1 hh).1 h2
  | struct vs => exact absurd (hasField_struct all k t vs hh).1 h1
  | union idx x => exact absurd (hasField_union all k t idx x hh).1 h1
  | int i => exact absurd (hasField_int all k t i hh).1 h1

theorem hasField_dynlike (all : List Member) (k : MKind) (t : Ty) (v : Val) (hk : k.isStatic = false)
    (hh : hasField all k t v = true) :
    (∃ xs, v = .arr xs ∧ hasElems t xs = true) ∨ (t = .byte ∧ ∃ b, v = .bytes b) :=
  hasField_array_shape all k t v (fun h => by rw [h] at hk; cases hk) (fun h => by rw [h] at hk; cases hk) hh

theorem hasField_fixed_len (all : List Member) (c : Nat) (t : Ty) (v : Val)
    (h : hasField all (.fixed c) t v = true) : v.len = c := by
  rcases hasField_array_shape all _ t v MKind.noConfusion MKind.noConfusion h with ⟨xs, rfl, _⟩ | ⟨_, b, rfl⟩
  · exact (lenFits_fixed all c _).1 ((hasField_arr_iff all _ t xs).1 h).2.1
  · exact (lenFits_fixed all c _).1 ((hasField_bytes_iff all _ t b).1 h).2

theorem hasField_limited_len (all : List Member) (s : String) (c : Nat) (t : Ty) (v : Val)
    (h : hasField all (.limited s c) t v = true) : v.len ≤ c := by
  cases v with
  | arr xs => exact ((lenFits_limited all s c _).1 ((hasField_arr_iff all _ t xs).1 h).2.1).1
  | bytes b => exact ((lenFits_limited all s c _).1 ((hasField_bytes_iff all _ t b).1 h).2).1
  | _ => exact Nat.zero_le _

theorem hasField_plain_val (all : List Member) (t : Ty) (v : Val) (hc : v.isCounter = false)
    (hh : hasField all .plain t v = true) :
    (∃ i, v = .int i) ∨ (∃ nm ms vs, t = .struct nm ms ∧ v = .struct vs ∧ hasMs ms ms vs = true) ∨
      ∃ nm arms idx x an d t', t = .union nm arms ∧ v = .union idx x ∧ arms[idx]? = some (.mk an d t') ∧
        x.isCounter = false ∧ hasField [] .plain t' x = true := by
  rcases hasField_plain_shape all t v hh with rfl | hi | ⟨vs, rfl⟩ | ⟨idx, x, rfl⟩
  · cases hc
  · exact Or.inl hi
  · obtain ⟨_, nm, ms, ht, hm⟩ := hasField_struct all .plain t vs hh
    exact Or.inr (Or.inl ⟨nm, ms, vs, ht, rfl, hm⟩)
  · obtain ⟨_, nm, arms, an, d, t', ht, ha, hcx, hx⟩ := hasField_union all .plain t idx x hh
    exact Or.inr (Or.inr ⟨nm, arms, idx, x, an, d, t', ht, rfl, ha, hcx, hx⟩)

namespace Spec

theorem alignMember_of_ne_optional (n : String) (t : Ty) (k : MKind) (h : k ≠ .optional) :
    alignMember (.mk n t k) = alignTy t := by
  cases k <;> first | rfl | exact absurd rfl h

theorem endsBlock_dynlike (n : String) (t : Ty) (k : MKind) (hk : k.isStatic = false) :
    endsBlock (.mk n t k) = true ∧ alignMember (.mk n t k) = alignTy t := by
  cases k <;> first | exact ⟨rfl, rfl⟩ | exact (Bool.false_ne_true hk.symm).elim

theorem endsBlock_iff (n : String) (t : Ty) (k : MKind) :
    endsBlock (.mk n t k) = true ↔ k.isStatic = false ∨ (k = .plain ∧ dynTy t = true) := by
  cases k <;> simp [endsBlock, Member.kind, Member.ty, MKind.isStatic]

theorem dynTy_struct (t : Ty) (h : dynTy t = true) : ∃ nm ms, t = .struct nm ms := by
  cases t with
  | struct nm ms => exact ⟨nm, ms, rfl⟩
  | _ => exact (Bool.false_ne_true h).elim

end Spec

/-- The cases of an induction over well-typed member values, one per shape `hasField` admits; then the members of a
    struct and the elements of an array.  `F` speaks of a member value, `M` of the values of a member list, `E` of the elements of an array. -/
structure WtCases (F : List Member → MKind → Ty → Val → Prop) (M : List Member → List Member → List Val → Prop)
    (E : Ty → List Val → Prop) : Prop where
  sizer : ∀ all t, F all .plain t .sizer
  prim : ∀ all p i, inRange p i = true → F all .plain (.prim p) (.int i)
  byte : ∀ all i, inRange .u8 i = true → F all .plain .byte (.int i)
  enum : ∀ all nm es i, es.any (fun e => (e.2 : Int) == i) = true → F all .plain (.enum nm es) (.int i)
  struct : ∀ all nm ms vs, hasMs ms ms vs = true → M ms ms vs → F all .plain (.struct nm ms) (.struct vs)
  union : ∀ all nm arms idx an d t x, arms[idx]? = some (.mk an d t) → x.isCounter = false →
    hasField [] .plain t x = true → F [] .plain t x → F all .plain (.union nm arms) (.union idx x)
  absent : ∀ all t, F all .optional t .absent
  present : ∀ all t x, x.isCounter = false → hasField [] .plain t x = true → F [] .plain t x →
    F all .optional t (.present x)
  bytes : ∀ all k b, lenFits all k b.length = true → F all k .byte (.bytes b)
  arr : ∀ all k t xs, t ≠ .byte → lenFits all k xs.length = true → hasElems t xs = true → E t xs →
    F all k t (.arr xs)
  nil : ∀ all, M all [] []
  cons : ∀ all n t k r v vs, v.isCounter = isSizer n all → hasField all k t v = true → hasMs all r vs = true →
    F all k t v → M all r vs → M all (.mk n t k :: r) (v :: vs)
  enil : ∀ t, E t []
  econs : ∀ t x xs, x.isCounter = false → hasField [] .plain t x = true → hasElems t xs = true →
    F [] .plain t x → E t xs → E t (x :: xs)

mutual
  theorem hasField_ind {F M E} (c : WtCases F M E) : (v : Val) → ∀ all k t, hasField all k t v = true → F all k t v
    | .sizer, all, k, t, h => by
      rw [(hasField_sizer all k t).1 h]; exact c.sizer all t
    | .int i, all, k, t, h => by
      obtain ⟨rfl, ⟨p, rfl, hr⟩ | ⟨rfl, hr⟩ | ⟨nm, es, rfl, hr⟩⟩ := hasField_int all k t i h
      · exact c.prim all p i hr
      · exact c.byte all i hr
      · exact c.enum all nm es i hr
    | .struct vs, all, k, t, h => by
      obtain ⟨rfl, nm, ms, rfl, hm⟩ := hasField_struct all k t vs h
      exact c.struct all nm ms vs hm (hasMs_ind c vs ms ms hm)
    | .union idx x, all, k, t, h => by
      obtain ⟨rfl, nm, arms, an, d, t', rfl, ha, hc, hx⟩ := hasField_union all k t idx x h
      exact c.union all nm arms idx an d t' x ha hc hx (hasField_ind c x [] .plain t' hx)
    | .absent, all, k, t, h => by
      rw [(hasField_absent all k t).1 h]; exact c.absent all t
    | .present x, all, k, t, h => by
      obtain ⟨rfl, hc, hx⟩ := (hasField_present all k t x).1 h
      rw [hasField_plain_indep all []] at hx
      exact c.present all t x hc hx (hasField_ind c x [] .plain t hx)
    | .bytes b, all, k, t, h => by
      obtain ⟨rfl, hl⟩ := (hasField_bytes_iff all k t b).1 h
      exact c.bytes all k b hl
    | .arr xs, all, k, t, h => by
      obtain ⟨hb, hl, he⟩ := (hasField_arr_iff all k t xs).1 h
      exact c.arr all k t xs hb hl he (hasElems_ind c xs t he)
  theorem hasMs_ind {F M E} (c : WtCases F M E) : (vs : List Val) → ∀ all ms, hasMs all ms vs = true → M all ms vs
    | [], all, ms, h => by
      rw [(hasMs_nil_right all ms).1 h]; exact c.nil all
    | v :: vs, all, [], h => by
      cases (hasMs_nil_left all (v :: vs)).1 h
    | v :: vs, all, .mk n t k :: r, h => by
      obtain ⟨h1, h2, h3⟩ := (hasMs_cons all n t k r v vs).1 h
      exact c.cons all n t k r v vs h1 h2 h3 (hasField_ind c v all k t h2) (hasMs_ind c vs all r h3)
  theorem hasElems_ind {F M E} (c : WtCases F M E) : (xs : List Val) → ∀ t, hasElems t xs = true → E t xs
    | [], t, _ => c.enil t
    | x :: xs, t, h => by
      rw [hasElems_cons_eq] at h
      simp only [Bool.and_eq_true, Bool.not_eq_true'] at h
      exact c.econs t x xs h.1.1 h.1.2 h.2 (hasField_ind c x [] .plain t h.1.2) (hasElems_ind c xs t h.2)
end

theorem wt_induct {F M E} (c : WtCases F M E) :
    (∀ v all k t, hasField all k t v = true → F all k t v) ∧
    (∀ vs all ms, hasMs all ms vs = true → M all ms vs) ∧
    (∀ xs t, hasElems t xs = true → E t xs) :=
  ⟨hasField_ind c, hasMs_ind c, hasElems_ind c⟩

end Prophy
