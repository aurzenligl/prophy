/- A successful `Except` computation read backwards; `mono_of_succ`: more fuel keeps a result. -/
namespace Prophy

theorem bind_ok {ε α β : Type} {x : Except ε α} {f : α → Except ε β} {b : β} (h : (x >>= f) = .ok b) :
    ∃ a, x = .ok a ∧ f a = .ok b := by
  cases x with
  | error e => cases h
  | ok a => exact ⟨a, rfl, h⟩

theorem guard_ok {ε α : Type} {c : Prop} [Decidable c] {e : ε} {x : Except ε α} {y : α}
    (h : (if c then .error e else x) = .ok y) : ¬ c ∧ x = .ok y := by
  split at h
  · cases h
  · exact ⟨‹_›, h⟩

theorem ok_or_error {ε α : Type} {c : Prop} [Decidable c] {e : ε} {x y : α}
    (h : (if c then .ok x else .error e : Except ε α) = .ok y) : c ∧ x = y := by
  split at h
  · cases h
    exact ⟨‹_›, rfl⟩
  · cases h

theorem pure_ok {ε α : Type} {x y : α} (h : (pure x : Except ε α) = .ok y) : x = y := by
  cases h
  rfl

theorem pure_ok3 {ε α β γ : Type} {a a' : α} {b b' : β} {c c' : γ}
    (h : (pure (a, b, c) : Except ε (α × β × γ)) = .ok (a', b', c')) : a = a' ∧ b = b' ∧ c = c' := by
  injection h with h
  injection h with h1 h
  injection h with h2 h3
  exact ⟨h1, h2, h3⟩

theorem mono_of_succ {P : Nat → Prop} (h : ∀ n, P n → P (n + 1)) {n m : Nat} (hnm : n ≤ m) (hn : P n) : P m := by
  induction hnm with
  | refl => exact hn
  | step _ ih => exact h _ ih

end Prophy
