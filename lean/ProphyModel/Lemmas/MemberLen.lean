/- The own bytes of a struct member: its slot when type and kind are fixed (`fsz_all`), `Spec.memberLen` in general,
   and their relation to prophyc's static size that the walk `Cpp.LayInv.step` asks for (`PL.LenOk`). -/
import ProphyModel.Lemmas.PLayoutSpec
import ProphyModel.Lemmas.Chunks
import ProphyModel.Lemmas.Walk
namespace Prophy

/-- `fsz`, fixed size: a member of fixed type and static kind fills its slot, the members of a fixed struct end where the static layout
    ends, `n` elements take `n` sizes -/
theorem fsz_all :
    (∀ v all k t, hasField all k t v = true → ∀ (allv : List Val) (n : String),
      Spec.fixedTy t = true → k.isStatic = true → Spec.clen (Spec.fieldChunks all allv n t k v) = Spec.slot t k) ∧
    (∀ vs all ms, hasMs all ms vs = true → ∀ (allv : List Val), Spec.fixedMs ms = true → ∀ off,
      off + Spec.clen (Spec.chunksMs all allv ms vs off false) = Spec.endMs ms off false) ∧
    (∀ xs t, hasElems t xs = true → Spec.fixedTy t = true →
      Spec.clen (Spec.chunksElems t xs) = xs.length * Spec.sizeTy t) := by
  refine wt_induct ⟨?sizer, ?prim, ?byte, ?enum, ?struct, ?union, ?absent, ?present, ?bytes, ?arr, ?nil, ?cons, ?enil, ?econs⟩
  case sizer => intro all t allv n _ _; rfl
  case prim => intro all p i _ allv n _ _; rfl
  case byte => intro all i _ allv n _ _; rfl
  case enum => intro all nm es i _ allv n _ _; rfl
  case struct =>
    -- a struct: its members, then padding up to its alignment
    intro all nm ms vs _ ih allv n hfx _
    have hb := ih vs (by simpa [Spec.fixedTy] using hfx) 0
    rw [Nat.zero_add] at hb
    show Spec.clen (Spec.chunksTy (.struct nm ms) (.struct vs)) = Spec.sizeTy (.struct nm ms)
    rw [Spec.chunksTy_struct, Spec.clen_append, Spec.clen_singleton, Spec.Chunk.len_pad, hb, Spec.sizeTy_struct]
    rfl
  case union =>
    -- a union: discriminator, padding, the arm, padding up to the union's size
    intro all nm arms idx an d t x ha hc _ ih allv n hfx _
    obtain ⟨hft, hle⟩ := Spec.fixedArms_get arms (by simpa [Spec.fixedTy] using hfx) idx an d t ha
    have h1 := ih [] "" hft rfl
    rw [Spec.fieldChunks_plain [] [] "" t x hc] at h1
    have hal := le_alignUp (max Spec.flagSize (Spec.alignArms arms) + Spec.maxArm arms)
      (max Spec.flagSize (Spec.alignArms arms))
    show Spec.clen (Spec.chunksTy (.union nm arms) (.union idx x)) = Spec.sizeTy (.union nm arms)
    rw [Spec.chunksTy_union_some nm arms idx x an d t ha, Spec.sizeTy_union]
    simp only [Spec.clen_append, Spec.clen_cons, Spec.clen_nil, Spec.Chunk.len, h1, Spec.sizeTy_union, Spec.slot,
      Spec.flagSize] at hal hle ⊢
    omega
  case absent => intro all t allv n _ _; rfl
  case present =>
    intro all t x hc _ ih allv n hfx _
    have h1 := ih [] "" hfx rfl
    rw [Spec.fieldChunks_plain [] [] "" t x hc] at h1
    show Spec.clen ([.scalar Spec.flagSize 1, .pad (max Spec.flagSize (Spec.alignTy t) - Spec.flagSize)] ++ Spec.chunksTy t x) = _
    simp only [Spec.clen_append, Spec.clen_cons, Spec.clen_nil, Spec.Chunk.len, h1, Spec.slot, Spec.flagSize]
    omega
  case bytes =>
    -- bytes: a fixed field holds exactly `c`, a limited one is padded up to `c`
    intro all k b hl allv n _ hk
    cases k with
    | fixed c =>
      have := (lenFits_fixed all c b.length).1 hl
      show Spec.clen [.raw b] = c * Spec.sizeTy .byte
      simp [Spec.clen, Spec.Chunk.len, Spec.sizeTy, this]
    | limited s c =>
      have := ((lenFits_limited all s c b.length).1 hl).1
      show Spec.clen [.raw b, .pad (c - b.length)] = c * Spec.sizeTy .byte
      simp only [Spec.clen, Spec.Chunk.len, Spec.sizeTy]
      omega
    | plain => exact (Bool.false_ne_true hl).elim
    | optional => exact (Bool.false_ne_true hl).elim
    | dyn s sh => exact (Bool.false_ne_true hk).elim
    | greedy => exact (Bool.false_ne_true hk).elim
  case arr =>
    intro all k t xs _ hl _ ih allv n hfx hk
    have h1 := ih hfx
    cases k with
    | fixed c =>
      have := (lenFits_fixed all c xs.length).1 hl
      show Spec.clen (Spec.chunksElems t xs) = c * Spec.sizeTy t
      rw [h1, this]
    | limited s c =>
      have hle := Nat.mul_le_mul_right (Spec.sizeTy t) ((lenFits_limited all s c xs.length).1 hl).1
      show Spec.clen (Spec.chunksElems t xs ++ [.pad (c * Spec.sizeTy t - Spec.clen (Spec.chunksElems t xs))]) = c * Spec.sizeTy t
      simp only [Spec.clen_append, Spec.clen_singleton, Spec.Chunk.len_pad, h1]
      omega
    | plain => exact (Bool.false_ne_true hl).elim
    | optional => exact (Bool.false_ne_true hl).elim
    | dyn s sh => exact (Bool.false_ne_true hk).elim
    | greedy => exact (Bool.false_ne_true hk).elim
  case nil => intro all allv _ off; rfl
  case cons =>
    intro all n t k r v vs _ _ _ ihf ihm allv hf off
    obtain ⟨hk, ht, hfr⟩ := (Spec.fixedMs_cons n t k r).1 hf
    have h1 := ihf allv n ht hk
    rw [Spec.chunksMs_cons, Spec.endMs_cons, Spec.endsBlock_of_fixed n t k r hf]
    simp only [Bool.false_eq_true, if_false, Spec.clen_cons, Spec.clen_append, Spec.Chunk.len, h1]
    have ih := ihm allv hfr (off + padTo off (Spec.alignMember (.mk n t k)) + Spec.slot t k)
    unfold alignUp
    rw [← ih]
    omega
  case enil => intro t _; simp [Spec.chunksElems_nil, Spec.clen_nil]
  case econs =>
    intro t x xs hc _ _ ihx ihe hfx
    have h1 := ihx [] "" hfx rfl
    rw [Spec.fieldChunks_plain [] [] "" t x hc] at h1
    simp only [Spec.chunksElems_cons, Spec.clen_append, h1, ihe hfx, Spec.slot, List.length_cons, Nat.add_mul]
    omega

theorem fsz_field : (v : Val) → ∀ (all : List Member) (allv : List Val) (n : String) (t : Ty) (k : MKind),
    Spec.fixedTy t = true → k.isStatic = true → hasField all k t v = true →
    Spec.clen (Spec.fieldChunks all allv n t k v) = Spec.slot t k :=
  fun v all allv n t k hfx hk hh => fsz_all.1 v all k t hh allv n hfx hk

theorem fsz_ms : (vs : List Val) → ∀ (ms all : List Member) (allv : List Val),
    Spec.fixedMs ms = true → hasMs all ms vs = true → ∀ off,
    off + Spec.clen (Spec.chunksMs all allv ms vs off false) = Spec.endMs ms off false :=
  fun vs ms all allv hf hh off => fsz_all.2.1 vs all ms hh allv hf off

theorem fsz_elems : (xs : List Val) → ∀ (t : Ty), Spec.fixedTy t = true → hasElems t xs = true →
    Spec.clen (Spec.chunksElems t xs) = xs.length * Spec.sizeTy t :=
  fun xs t hfx hh => fsz_all.2.2 xs t hh hfx

/-- one entry of `Spec.memberLens` -/
def Spec.memberLen (t : Ty) (k : MKind) (v : Val) : Nat :=
  match k, v with
  | .plain, .sizer => Spec.sizeTy t
  | .plain, v => Spec.clen (Spec.chunksTy t v)
  | .optional, _ => max Spec.flagSize (Spec.alignTy t) + Spec.sizeTy t
  | .fixed c, _ => c * Spec.sizeTy t
  | .limited _ c, _ => c * Spec.sizeTy t
  | .dyn _ _, .arr xs => Spec.clen (Spec.chunksElems t xs)
  | .greedy, .arr xs => Spec.clen (Spec.chunksElems t xs)
  | .dyn _ _, .bytes b => b.length
  | .greedy, .bytes b => b.length
  | _, _ => 0

theorem Spec.memberLens_cons (all : List Member) (allv : List Val) (n : String) (t : Ty) (k : MKind)
    (r : List Member) (v : Val) (vs : List Val) :
    Spec.memberLens all allv (.mk n t k :: r) (v :: vs) = Spec.memberLen t k v :: Spec.memberLens all allv r vs :=
  rfl

theorem Spec.clen_fieldChunks (all : List Member) (allv : List Val) (n : String) (t : Ty) (k : MKind) (v : Val)
    (hh : hasField all k t v = true) (hfx : k ≠ .plain → k.isStatic = true → Spec.fixedTy t = true) :
    Spec.clen (Spec.fieldChunks all allv n t k v) = Spec.memberLen t k v := by
  cases k with
  | plain => cases v <;> simp [Spec.fieldChunks, Spec.memberLen, Spec.clen, Spec.Chunk.len]
  | optional =>
    rw [fsz_field v all allv n t _ (hfx (by simp) rfl) rfl hh]
    cases v <;> rfl
  | fixed c =>
    rw [fsz_field v all allv n t _ (hfx (by simp) rfl) rfl hh]
    cases v <;> rfl
  | limited s c =>
    rw [fsz_field v all allv n t _ (hfx (by simp) rfl) rfl hh]
    cases v <;> rfl
  | dyn s sh => cases v <;> simp [Spec.fieldChunks, Spec.memberLen, Spec.clen, Spec.Chunk.len]
  | greedy => cases v <;> simp [Spec.fieldChunks, Spec.memberLen, Spec.clen, Spec.Chunk.len]

/-- the canonical encoding of a value ends on its type's alignment; the hypothesis: a union is of fixed size -/
theorem Spec.align_dvd_chunksTy (t : Ty) (x : Val)
    (hU : ∀ nm arms, t = .union nm arms → Spec.fixedArms arms = true) (hc : x.isCounter = false)
    (hx : hasField [] .plain t x = true) : Spec.alignTy t ∣ Spec.clen (Spec.chunksTy t x) := by
  cases t with
  | prim p => cases x <;> simp [Spec.chunksTy, Spec.clen, Spec.Chunk.len, Spec.alignTy]
  | byte => cases x <;> simp [Spec.chunksTy, Spec.clen, Spec.Chunk.len, Spec.alignTy]
  | enum nm es => cases x <;> simp [Spec.chunksTy, Spec.clen, Spec.Chunk.len, Spec.alignTy]
  | struct nm ms =>
    cases x <;> simp only [Spec.chunksTy, Spec.clen, Spec.alignTy, Nat.dvd_zero]
    rw [Spec.clen_append]
    exact dvd_alignUp _ _ (Spec.alignMs_pos ms)
  | union nm arms =>
    have h1 := fsz_field x [] [] "" (.union nm arms) .plain (hU nm arms rfl) rfl hx
    rw [Spec.fieldChunks_plain [] [] "" _ x hc] at h1
    rw [h1]
    simp only [Spec.slot, Spec.sizeTy, Spec.alignTy]
    exact dvd_alignUp _ _ (by simp only [Spec.flagSize]; omega)

namespace PL
open Accept

theorem align_dvd_chunksTy_ok (t : Ty) (ht : Cpp.okTy t = true) (x : Val) (hc : x.isCounter = false)
    (hx : hasField [] .plain t x = true) : Spec.alignTy t ∣ Spec.clen (Spec.chunksTy t x) :=
  Spec.align_dvd_chunksTy t x (fun nm arms e => by subst e; exact fixedArms_of_ok arms ht) hc hx

theorem align_dvd_chunksElems_ok (t : Ty) (ht : Cpp.okTy t = true) : (xs : List Val) → hasElems t xs = true →
    Spec.alignTy t ∣ Spec.clen (Spec.chunksElems t xs)
  | [], _ => by simp [Spec.chunksElems, Spec.clen]
  | x :: xs, hh => by
    obtain ⟨hc, hx, hr⟩ := (hasElems_cons t x xs).1 hh
    simp only [Spec.chunksElems, Spec.clen_append]
    exact Nat.dvd_add (align_dvd_chunksTy_ok t ht x hc hx) (align_dvd_chunksElems_ok t ht xs hr)

/-- a member that ends a block is a dynamic or greedy array (static size 0, elements aligned) or a dynamic struct
    (padded to its alignment in every encoding and in the static layout) -/
theorem lenOk_memberLen_ok (all : List Member) (n : String) (t : Ty) (k : MKind) (v : Val) (hM : Cpp.MemberOk t k)
    (hfd : hasField all k t v = true) :
    LenOk (.mk n t k) (Spec.memberLen t k v) (memOf (nodeTy t) k).size := by
  have ht := hM.ok
  refine ⟨fun he => ?_, fun he => ?_⟩
  · have hst := static_fixed_of_not_endsBlock n t k hM he
    rw [memOf_slot_ok t k ht, ← fsz_field v all [] "" t k hst.2 hst.1 hfd]
    exact (Spec.clen_fieldChunks all [] "" t k v hfd (fun _ _ => hst.2)).symm
  · rcases (Spec.endsBlock_iff n t k).1 he with hk | ⟨rfl, hd⟩
    · have hsz : (memOf (nodeTy t) k).size = 0 := by
        cases k <;> first | rfl | exact Bool.noConfusion hk
      rw [(Spec.endsBlock_dynlike n t k hk).2, hsz]
      refine ⟨?_, Nat.dvd_zero _⟩
      rcases hasField_dynlike all k t v hk hfd with ⟨xs, rfl, hel⟩ | ⟨rfl, b, rfl⟩
      · have : Spec.memberLen t k (.arr xs) = Spec.clen (Spec.chunksElems t xs) := by
          cases k <;> first | rfl | exact Bool.noConfusion hk
        rw [this]
        exact align_dvd_chunksElems_ok t ht xs hel
      · exact Nat.one_dvd _
    · obtain ⟨nm, ms, rfl⟩ := Spec.dynTy_struct t hd
      have hal := dvd_alignUp (Spec.endMs ms 0 false) _ (Spec.alignMs_pos ms)
      refine ⟨?_, ?_⟩
      · show Spec.alignMs ms ∣ Spec.memberLen (.struct nm ms) .plain v
        cases v <;> simp only [Spec.memberLen, Spec.chunksTy, Spec.clen, Nat.dvd_zero, Spec.sizeTy]
        · rw [Spec.clen_append]
          exact dvd_alignUp _ _ (Spec.alignMs_pos ms)
        · exact hal
      · show Spec.alignMs ms ∣ (nodeTy (.struct nm ms)).size
        rw [nodeTy_size_ok _ ht]
        exact hal

/-- the own bytes of a member are `Spec.memberLen`: a member that is no array of unknown length is of a fixed type -/
theorem clen_fieldChunks_ok (all : List Member) (allv : List Val) (n : String) (t : Ty) (k : MKind) (v : Val)
    (hM : Cpp.MemberOk t k) (hfd : hasField all k t v = true) :
    Spec.clen (Spec.fieldChunks all allv n t k v) = Spec.memberLen t k v :=
  Spec.clen_fieldChunks all allv n t k v hfd fun hne hst =>
    (static_fixed_of_not_endsBlock n t k hM (by
      cases k <;> first | rfl | exact absurd rfl hne | exact Bool.noConfusion hst)).2

/-- the hypothesis of `Cpp.LayInv.step`, for the member's chunks -/
theorem lenOk_fieldChunks (all : List Member) (allv : List Val) (n : String) (t : Ty) (k : MKind) (v : Val)
    (hM : Cpp.MemberOk t k) (hfd : hasField all k t v = true) :
    LenOk (.mk n t k) (Spec.clen (Spec.fieldChunks all allv n t k v)) (memOf (nodeTy t) k).size := by
  rw [clen_fieldChunks_ok all allv n t k v hM hfd]
  exact lenOk_memberLen_ok all n t k v hM hfd

end PL

end Prophy
