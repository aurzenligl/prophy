/- "no shifted counter anywhere in the schema" is written three times: `Accept.noShift` (AcceptImplies; the hypothesis
   of C03, C05, C07, C19), `Cpp.noShift` (of the decoder's round trip), `Cpp.noShift_cppenc` (of `Cpp.TyOk` and
   `Cpp.Counterexamples`).  Each is named by those statements, so all three stay; they are one predicate. -/
import ProphyModel.Lemmas.AcceptImplies
namespace Prophy

namespace Cpp

mutual
  def noShift : Ty → Bool
    | .struct _ ms => noShiftMs ms
    | .union _ arms => noShiftArms arms
    | _ => true
  def noShiftMs : List Member → Bool
    | [] => true
    | .mk _ t k :: r => (k.shift == 0) && noShift t && noShiftMs r
  def noShiftArms : List Arm → Bool
    | [] => true
    | .mk _ _ t :: r => noShift t && noShiftArms r
end

mutual
  def noShift_cppenc : Ty → Bool
    | .struct _ ms => noShiftMs_cppenc ms
    | .union _ arms => noShiftArms_cppenc arms
    | _ => true
  def noShiftMs_cppenc : List Member → Bool
    | [] => true
    | .mk _ t k :: r => (k.shift == 0) && noShift_cppenc t && noShiftMs_cppenc r
  def noShiftArms_cppenc : List Arm → Bool
    | [] => true
    | .mk _ _ t :: r => noShift_cppenc t && noShiftArms_cppenc r
end

end Cpp

mutual
  theorem Cpp.noShift_eq_accept : (t : Ty) → Cpp.noShift t = Accept.noShift t
    | .prim _ => rfl
    | .byte => rfl
    | .enum _ _ => rfl
    | .struct _ ms => by simp only [Cpp.noShift, Accept.noShift]; exact Cpp.noShiftMs_eq_accept ms
    | .union _ arms => by simp only [Cpp.noShift, Accept.noShift]; exact Cpp.noShiftArms_eq_accept arms
  theorem Cpp.noShiftMs_eq_accept : (ms : List Member) → Cpp.noShiftMs ms = Accept.noShiftMs ms
    | [] => rfl
    | .mk _ t k :: r => by
      simp only [Cpp.noShiftMs, Accept.noShiftMs, Cpp.noShift_eq_accept t, Cpp.noShiftMs_eq_accept r]
  theorem Cpp.noShiftArms_eq_accept : (arms : List Arm) → Cpp.noShiftArms arms = Accept.noShiftArms arms
    | [] => rfl
    | .mk _ _ t :: r => by
      simp only [Cpp.noShiftArms, Accept.noShiftArms, Cpp.noShift_eq_accept t, Cpp.noShiftArms_eq_accept r]
end

mutual
  theorem Cpp.noShift_cppenc_eq_accept : (t : Ty) → Cpp.noShift_cppenc t = Accept.noShift t
    | .prim _ => rfl
    | .byte => rfl
    | .enum _ _ => rfl
    | .struct _ ms => by simp only [Cpp.noShift_cppenc, Accept.noShift]; exact Cpp.noShiftMs_cppenc_eq_accept ms
    | .union _ arms => by simp only [Cpp.noShift_cppenc, Accept.noShift]; exact Cpp.noShiftArms_cppenc_eq_accept arms
  theorem Cpp.noShiftMs_cppenc_eq_accept : (ms : List Member) → Cpp.noShiftMs_cppenc ms = Accept.noShiftMs ms
    | [] => rfl
    | .mk _ t k :: r => by
      simp only [Cpp.noShiftMs_cppenc, Accept.noShiftMs, Cpp.noShift_cppenc_eq_accept t, Cpp.noShiftMs_cppenc_eq_accept r]
  theorem Cpp.noShiftArms_cppenc_eq_accept : (arms : List Arm) → Cpp.noShiftArms_cppenc arms = Accept.noShiftArms arms
    | [] => rfl
    | .mk _ _ t :: r => by
      simp only [Cpp.noShiftArms_cppenc, Accept.noShiftArms, Cpp.noShift_cppenc_eq_accept t, Cpp.noShiftArms_cppenc_eq_accept r]
end

theorem Accept.pyRt_of_front_noShift (t : Ty) (hf : Accept.front t = true) (hns : Accept.noShift t = true) :
    Accept.pyRt t = true := Accept.pyRt_of_front t hf hns

theorem Cpp.noShiftMs_cons (n : String) (t : Ty) (k : MKind) (r : List Member) :
    Cpp.noShiftMs (.mk n t k :: r) = true ↔ k.shift = 0 ∧ Cpp.noShift t = true ∧ Cpp.noShiftMs r = true := by
  simp [Cpp.noShiftMs, and_assoc]

end Prophy
