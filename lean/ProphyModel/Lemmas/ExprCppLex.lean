/-
  C14, the host LEXER: how a C++ compiler (translation phase 3, maximal munch: `cppLex`, one step `cppHead`) cuts
  expression text that prophyc pastes into generated code, against calc's own lexer `Expr.lex false`.
  `unwritable` is prophyc/model.py's
  `UNWRITABLE_TEXT = [\x00-\x08\x0a-\x1f]|--|\+\+|(?<![A-Za-z0-9_])0[xX][0-9a-fA-F]*[eE][-+]` as a scan.
  `cpp_lex_agree`: on a text calc lexes, whose tokens alternate, that is writable and has no leading-zero literal, the
  C++ tokens are calc's; `cpp_lex_differs`: where `unwritable` matches they are not.
-/
import ProphyModel.Expr
import ProphyModel.Lemmas.ExprLex
import ProphyModel.Lemmas.ExprPrint
import ProphyModel.Lemmas.ExprAlternating
namespace Prophy
namespace Expr

def cppToks (n : Nat) (cs : List Char) : Option (List Tok) := (cppLex n cs).bind (fun cts => cts.mapM ofCTok)

/-- `p`, `P` are not hex digits: on hex digits the flag of `hexE` is the flag of `ppSpan` -/
theorem hex_expLetter (c : Char) (h : isHexC c = true) : (c == 'e' || c == 'E') = isExpLetter c := by
  unfold isExpLetter
  rw [beq_false_of isHexC 'p' h (by decide), beq_false_of isHexC 'P' h (by decide)]
  simp

theorem digit_expLetter (c : Char) (h : c.isDigit = true) : isExpLetter c = false := by
  unfold isExpLetter
  rw [beq_false_of Char.isDigit 'p' h (by decide), beq_false_of Char.isDigit 'P' h (by decide),
    beq_false_of Char.isDigit 'e' h (by decide), beq_false_of Char.isDigit 'E' h (by decide)]
  rfl

/-- the `prevE` flag of `ppSpan` after the run `ds` -/
def endE (e : Bool) (ds : List Char) : Bool := ds.foldl (fun _ c => isExpLetter c) e

theorem ppSpan_cons (e : Bool) (c : Char) (r : List Char) :
    ppSpan e (c :: r) =
      if isIdChar c || c == '.' then (c :: (ppSpan (isExpLetter c) r).1, (ppSpan (isExpLetter c) r).2)
      else if e && isSignC c then (c :: (ppSpan false r).1, (ppSpan false r).2)
      else if c == '\'' && (match r with
          | d :: _ => isIdChar d
          | [] => false) then (c :: (ppSpan false r).1, (ppSpan false r).2)
      else ([], c :: r) := by
  conv => lhs; unfold ppSpan
  rfl

theorem ppSpan_ids : ∀ (ds : List Char) (e : Bool) (rest : List Char), (∀ d ∈ ds, isIdChar d = true) →
    ppSpan e (ds ++ rest) = (ds ++ (ppSpan (endE e ds) rest).1, (ppSpan (endE e ds) rest).2)
  | [], e, rest, _ => rfl
  | d :: ds, e, rest, h => by
    have hd := h d (List.mem_cons_self ..)
    have ih := ppSpan_ids ds (isExpLetter d) rest (fun x hx => h x (List.mem_cons_of_mem _ hx))
    rw [List.cons_append, ppSpan_cons, hd, Bool.true_or, if_pos rfl, ih]
    rfl

theorem ppSpan_stop (e : Bool) (rest : List Char)
    (h : ∀ x, rest.head? = some x → isIdChar x = false ∧ x ≠ '.' ∧ x ≠ '\'' ∧ (e && isSignC x) = false) :
    ppSpan e rest = ([], rest) := by
  cases rest with
  | nil => rfl
  | cons x r =>
    obtain ⟨h1, h2, h3, h4⟩ := h x rfl
    rw [ppSpan_cons, h1, h4]
    have e2 : (x == '.') = false := by simpa using h2
    have e3 : (x == '\'') = false := by simpa using h3
    rw [e2, e3]
    rfl

theorem endE_false : ∀ (ds : List Char), (∀ d ∈ ds, isExpLetter d = false) → endE false ds = false
  | [], _ => rfl
  | d :: ds, h => by
    have hd := h d (List.mem_cons_self ..)
    show endE (isExpLetter d) ds = false
    rw [hd]
    exact endE_false ds (fun x hx => h x (List.mem_cons_of_mem _ hx))

theorem hexE_cons (e : Bool) (c : Char) (r : List Char) :
    hexE e (c :: r) = if isHexC c then hexE (c == 'e' || c == 'E') r else e && isSignC c := rfl

theorem hexE_run : ∀ (hs : List Char) (e : Bool) (rest : List Char), (∀ h ∈ hs, isHexC h = true) →
    hexE e (hs ++ rest) = hexE (endE e hs) rest
  | [], e, rest, _ => rfl
  | d :: hs, e, rest, h => by
    have hd := h d (List.mem_cons_self ..)
    rw [List.cons_append, hexE_cons, if_pos hd, hex_expLetter d hd,
      hexE_run hs _ rest (fun x hx => h x (List.mem_cons_of_mem _ hx))]
    rfl

theorem unwAt_plus (r : List Char) : unwAt false '+' r = nextIs '+' r := by
  unfold unwAt; cases nextIs '+' r <;> rfl

theorem unwAt_minus (r : List Char) : unwAt false '-' r = nextIs '-' r := by
  unfold unwAt; cases nextIs '-' r <;> rfl

theorem unwAt_hex (r' : List Char) : unwAt false '0' ('x' :: r') = hexE false r' := rfl

theorem cppHead_word (c : Char) (r : List Char) (h : c ∉ special) :
    cppHead c r =
      if c.isDigit then some (some (.ppnum (c :: (ppSpan false r).1)), (ppSpan false r).2)
      else if isIdStart c then
        (match takeWhileAcc isIdChar (c :: r) [] with
          | (cs, rest) => some (some (CTok.ident cs), rest))
      else none := by
  have ne := beq_false_of_not_special h
  unfold cppHead
  rw [ne ' ' (by decide), ne '\t' (by decide), ne '+' (by decide), ne '-' (by decide), ne '*' (by decide),
    ne '/' (by decide), ne '|' (by decide), ne '(' (by decide), ne ')' (by decide), ne '<' (by decide),
    ne '>' (by decide)]
  rfl

theorem cppHead_digit (c : Char) (r : List Char) (hd : c.isDigit = true) :
    cppHead c r = some (some (.ppnum (c :: (ppSpan false r).1)), (ppSpan false r).2) := by
  rw [cppHead_word c r (not_special_of_idChar c (isDigit_isIdChar c hd)), if_pos hd]

theorem cppHead_ident (c : Char) (r : List Char) (hs : isIdStart c = true) :
    cppHead c r = (match takeWhileAcc isIdChar (c :: r) [] with
      | (cs, rest) => some (some (CTok.ident cs), rest)) := by
  rw [cppHead_word c r (not_special_of_idChar c (isIdStart_isIdChar c hs)),
    if_neg (by rw [isIdStart_not_digit c hs]; exact Bool.false_ne_true), if_pos hs]

theorem nextIs_iff (x : Char) (r : List Char) : nextIs x r = true ↔ ∃ r', r = x :: r' := by
  cases r with
  | nil => simp [nextIs]
  | cons d r' => simp [nextIs]

theorem nextIs_false (y : Char) (r : List Char) (h : ∀ x r2, r = x :: r2 → x ≠ y) : nextIs y r = false :=
  Bool.eq_false_iff.2 fun hn => let ⟨r', e⟩ := (nextIs_iff y r).1 hn; h y r' e rfl

/-- the two steps correspond: both skip a blank, or the C++ token is calc's token -/
def Corr (ot : Option Tok) (oct : Option CTok) : Prop :=
  (ot = none ∧ oct = none) ∨ ∃ t ct, ot = some t ∧ oct = some ct ∧ ofCTok ct = some t

/-- one step of the comparison; `b`: the state of `okSeq` in which the rest is read.  `hb` is used as `hb _ rfl` once
    the token is known: `Tok.opens` then computes, so it reads `b = true` after an operator, `b = false` after an operand -/
theorem cppHead_agree {c : Char} {r : List Char} {ot : Option Tok} {rest : List Char} {b : Bool}
    (h : Step false c r ot rest) (hn : NextOk b rest) (hb : ∀ t, ot = some t → b = t.opens)
    (hu : unwAt false c r = false) (hz : hlz false (c :: r) = false) :
    ∃ oct, cppHead c r = some (oct, rest) ∧ Corr ot oct := by
  have nx_lit : ∀ x, rest.head? = some x → NextChar b x := by
    intro x hx
    cases rest with
    | nil => cases hx
    | cons y r2 => cases hx; exact hn _ _ rfl
  -- after a literal the pp-number stops where calc's literal stops
  have stop : b = false → ∀ (p : Char → Bool) (e : Bool), (∀ x, x.isDigit = true → p x = true) →
      (∀ x, rest.head? = some x → p x = false) → (∀ x, rest.head? = some x → (e && isSignC x) = false) →
      ppSpan e rest = ([], rest) := by
    intro hbf p e hp hhead hsign
    refine ppSpan_stop e rest (fun x hx => ?_)
    have hx' := nx_lit x hx
    have hxd : x.isDigit = false := by
      cases hxd : x.isDigit with
      | false => rfl
      | true => have := hhead x hx; rw [hp x hxd] at this; cases this
    exact ⟨by rw [isIdChar_eq, hx'.noName hbf, hxd]; rfl, hx'.notDot, hx'.notQuote, hsign x hx⟩
  cases h with
  | blank hb' =>
    refine ⟨none, ?_, Or.inl ⟨rfl, rfl⟩⟩
    unfold cppHead
    rcases hb' with rfl | rfl <;> rfl
  | punct t hp =>
    have key : ∃ ct, cppHead c r = some (some ct, r) ∧ ofCTok ct = some t := by
      rcases punct_cases hp with ⟨rfl, rfl⟩ | ⟨rfl, rfl⟩ | ⟨rfl, rfl⟩ | ⟨rfl, rfl⟩ | ⟨rfl, rfl⟩ | ⟨rfl, rfl⟩ | ⟨rfl, rfl⟩
      · rw [unwAt_plus] at hu
        exact ⟨.plus, by unfold cppHead; rw [hu]; rfl, rfl⟩
      · rw [unwAt_minus] at hu
        have hm := nextIs_false '>' r (fun x r2 e => (hn x r2 e).notGt (hb _ rfl))
        exact ⟨.minus, by unfold cppHead; rw [hu, hm]; rfl, rfl⟩
      · exact ⟨.star, by unfold cppHead; rfl, rfl⟩
      · have h1 := nextIs_false '/' r (fun x r2 e => (hn x r2 e).notSlash (hb _ rfl))
        have h2 := nextIs_false '*' r (fun x r2 e => (hn x r2 e).notStar (hb _ rfl))
        exact ⟨.slash, by unfold cppHead; rw [h1, h2]; rfl, rfl⟩
      · have h1 := nextIs_false '|' r (fun x r2 e => (hn x r2 e).notBar (hb _ rfl))
        exact ⟨.bar, by unfold cppHead; rw [h1]; rfl, rfl⟩
      · exact ⟨.lpar, by unfold cppHead; rfl, rfl⟩
      · exact ⟨.rpar, by unfold cppHead; rfl, rfl⟩
    obtain ⟨ct, h1, h2⟩ := key
    exact ⟨some ct, h1, Or.inr ⟨t, ct, rfl, rfl, h2⟩⟩
  | shl _ hc hr =>
    subst hc; subst hr
    exact ⟨some .shl, by unfold cppHead; rfl, Or.inr ⟨_, _, rfl, rfl, rfl⟩⟩
  | shr _ hc hr =>
    subst hc; subst hr
    exact ⟨some .shr, by unfold cppHead; rfl, Or.inr ⟨_, _, rfl, rfl, rfl⟩⟩
  | hex ds _ hc hr hne hall hhead =>
    subst hc; subst hr
    rw [unwAt_hex, hexE_run ds false rest hall] at hu
    have hsp : ppSpan false ('x' :: (ds ++ rest)) = ('x' :: ds, rest) := by
      have := ppSpan_ids ('x' :: ds) false rest (by
        intro d hd
        rcases List.mem_cons.mp hd with rfl | hd
        · decide
        · exact isHexC_isIdChar d (hall d hd))
      rw [List.cons_append] at this
      rw [this, stop (hb _ rfl) isHexC _ isDigit_isHexC hhead]
      · simp
      · intro x hx
        cases rest with
        | nil => cases hx
        | cons y rest2 =>
          cases hx
          rw [hexE_cons, hhead _ rfl] at hu
          exact hu
    refine ⟨some (.ppnum ('0' :: 'x' :: ds)), ?_, Or.inr ⟨_, _, rfl, rfl, ?_⟩⟩
    · rw [cppHead_digit '0' _ (by decide), hsp]
    · have hall2 : ds.all isHexC = true := List.all_eq_true.mpr hall
      have hne' : ds.isEmpty = false := by simpa using hne
      simp [ofCTok, ppValue, hall2, hne']
  | dec ds _ v hdg hr hall hhead hv =>
    subst hr
    have hsp : ppSpan false (ds ++ rest) = (ds, rest) := by
      rw [ppSpan_ids ds false rest (fun x hx => isDigit_isIdChar x (hall x hx)),
        endE_false ds (fun x hx => digit_expLetter x (hall x hx)),
        stop (hb _ rfl) Char.isDigit _ (fun _ h => h) hhead (fun _ _ => rfl)]
      simp
    refine ⟨some (.ppnum (c :: ds)), ?_, Or.inr ⟨_, _, rfl, rfl, ?_⟩⟩
    · rw [cppHead_digit c _ hdg, hsp]
    · cases hv
      by_cases hc0 : c = '0'
      · subst hc0
        have : ds = [] := by
          cases ds with
          | nil => rfl
          | cons d ds2 =>
            have hdd := hall d (List.mem_cons_self ..)
            unfold hlz at hz
            simp [hdd] at hz
        subst this
        rfl
      · have hall2 : (c :: ds).all Char.isDigit = true :=
          List.all_eq_true.mpr (fun x hx => by
            rcases List.mem_cons.mp hx with rfl | hx
            · exact hdg
            · exact hall x hx)
        have hc0' : (c == '0') = false := by simpa using hc0
        simp only [ofCTok, ppValue, hc0', hall2]
        simp
  | ident cs _ his hr hall hhead =>
    subst hr
    refine ⟨some (.ident (c :: cs)), ?_, Or.inr ⟨_, _, rfl, rfl, rfl⟩⟩
    have := run_exact isIdChar (c :: cs) rest (by
      intro x hx
      rcases List.mem_cons.mp hx with rfl | hx
      · exact isIdStart_isIdChar x his
      · exact hall x hx) hhead
    rw [List.cons_append] at this
    rw [cppHead_ident c _ his, this]

theorem unwAt_id (b : Bool) (c : Char) (r : List Char) (h : isIdChar c = true) (h0 : b = true ∨ c ≠ '0') :
    unwAt b c r = false := by
  have hge := isIdChar_ge c h
  have e1 : (c == '-') = false := beq_false_of isIdChar '-' h (by decide)
  have e2 : (c == '+') = false := beq_false_of isIdChar '+' h (by decide)
  have e3 : decide (c.toNat < 32 ∧ c ≠ '\t') = false := by
    rw [decide_eq_false_iff_not]; intro h'; omega
  have e4 : (!b && c == '0') = false := by
    rcases h0 with rfl | h0
    · rfl
    · have : (c == '0') = false := by simpa using h0
      rw [this]; simp
  unfold unwAt
  rw [e1, e2, e3, e4]
  rfl

theorem unw_flag (b b' : Bool) (cs : List Char) (hh : ∀ x, cs.head? = some x → x ≠ '0') :
    unw b cs = unw b' cs := by
  cases cs with
  | nil => rfl
  | cons c r =>
    have : (c == '0') = false := by
      have := hh c rfl
      simpa using this
    unfold unw unwAt
    simp [this]

theorem unw_ids : ∀ (pre rest : List Char), (∀ x ∈ pre, isIdChar x = true) →
    unw true (pre ++ rest) = unw true rest
  | [], _, _ => rfl
  | p :: pre, rest, h => by
    have hp := h p (List.mem_cons_self ..)
    rw [List.cons_append, unw, unwAt_id true p _ hp (Or.inl rfl), hp, Bool.false_or]
    exact unw_ids pre rest (fun x hx => h x (List.mem_cons_of_mem _ hx))

theorem unw_single (c : Char) (r : List Char) (hc : isIdChar c = false) :
    unw false (c :: r) = (unwAt false c r || unw false r) := by
  rw [unw, hc]

theorem Step.unw {c : Char} {r : List Char} {ot : Option Tok} {rest : List Char} (h : Step false c r ot rest) :
    unw false (c :: r) = (unwAt false c r || unw false rest) := by
  rcases h.shape with ⟨hc, -, rfl | ⟨hc', rfl⟩⟩ | ⟨hc, pre, rfl, hall, hd⟩
  · exact unw_single c r hc
  · have e : unwAt false c rest = false := by rcases hc' with rfl | rfl <;> (unfold unwAt; rfl)
    rw [unw_single c _ hc, unw_single c rest hc, e, Bool.false_or]
  · -- a token made of identifier characters: only its first position can match
    rw [Expr.unw, hc, unw_ids pre rest hall, unw_flag true false rest (not_zero_of_not_digit hd)]

theorem cppLex_succ_cons (n : Nat) (c : Char) (r : List Char) :
    cppLex (n + 1) (c :: r) = (match cppHead c r with
      | none => none
      | some (none, rest) => cppLex n rest
      | some (some t, rest) => (cppLex n rest).map (t :: ·)) := rfl

theorem cppToks_step (n : Nat) {c : Char} {r rest : List Char} {ot : Option Tok} {oct : Option CTok}
    (hc : cppHead c r = some (oct, rest)) (hcorr : Corr ot oct) :
    cppToks (n + 1) (c :: r) = (cppToks n rest).map (ot.toList ++ ·) := by
  unfold cppToks
  rw [cppLex_succ_cons, hc]
  rcases hcorr with ⟨rfl, rfl⟩ | ⟨t, ct, rfl, rfl, hof⟩
  · show (cppLex n rest).bind _ = _
    cases (cppLex n rest).bind (fun cts => List.mapM ofCTok cts) <;> rfl
  · show ((cppLex n rest).map (ct :: ·)).bind (fun cts => List.mapM ofCTok cts) = _
    cases cppLex n rest with
    | none => rfl
    | some cts =>
      simp only [Option.map_some, Option.bind_some, List.mapM_cons, hof]
      cases List.mapM ofCTok cts <;> rfl

theorem cpp_lex_agree {n : Nat} {cs : List Char} {ts : List Tok} (hl : lex false n cs = some ts) :
    ∀ st, okSeq st ts = true → unw false cs = false → hlz false cs = false →
      ∀ m, cs.length < m → cppToks m cs = some ts := by
  refine lex_ok_induction (P := fun _ cs ts => unw false cs = false → hlz false cs = false →
      ∀ m, cs.length < m → cppToks m cs = some ts) ?_ ?_ hl
  · intro _ _ _ m hm
    obtain ⟨m, rfl⟩ : ∃ k, m = k + 1 := ⟨m - 1, by omega⟩
    rfl
  · intro st c r ot rest ts hh hn ih hu hz m hm
    obtain ⟨m, rfl⟩ : ∃ k, m = k + 1 := ⟨m - 1, by omega⟩
    have hst := lexHead_step hh
    rw [hst.unw, Bool.or_eq_false_iff] at hu
    obtain ⟨oct, hc, hcorr⟩ := cppHead_agree hst hn (by rintro t rfl; rfl) hu.1 hz
    have := hst.length
    simp only [List.length_cons] at hm
    rw [cppToks_step m hc hcorr, ih hu.2 (hst.hlz false hz) m (by omega)]
    rfl

theorem isSignC_iff (c : Char) : isSignC c = true ↔ c = '+' ∨ c = '-' := by
  simp only [isSignC, Bool.or_eq_true, beq_iff_eq]

theorem sign_not_hex (c : Char) (h : isSignC c = true) : isHexC c = false := by
  rcases (isSignC_iff c).1 h with rfl | rfl <;> decide

theorem eE_hex (c : Char) (h : c = 'e' ∨ c = 'E') : isHexC c = true := by
  rcases h with rfl | rfl <;> decide

theorem endE_concat (e : Bool) (ds : List Char) (c : Char) : endE e (ds ++ [c]) = isExpLetter c := by
  unfold endE
  rw [List.foldl_append]
  rfl

def startsSign : List Char → Bool
  | S :: _ => isSignC S
  | [] => false

theorem hexE_stop (e : Bool) (rest : List Char) (h : ∀ x, rest.head? = some x → isHexC x = false) :
    hexE e rest = (e && startsSign rest) := by
  cases rest with
  | nil => cases e <;> rfl
  | cons x r => rw [hexE_cons, h x rfl]; rfl

theorem hexE_iff (r : List Char) : hexE false r = true ↔
    ∃ hs E S rest, r = hs ++ E :: S :: rest ∧ (∀ h ∈ hs, isHexC h = true) ∧ (E = 'e' ∨ E = 'E') ∧ isSignC S = true := by
  constructor
  · intro h
    have e1 := List.takeWhile_append_dropWhile (p := isHexC) (l := r)
    have hall := takeWhile_all isHexC r
    rw [← e1, hexE_run _ false _ hall, hexE_stop _ _ (dropWhile_head isHexC r), Bool.and_eq_true] at h
    obtain ⟨hE, hS⟩ := h
    rcases List.eq_nil_or_concat (r.takeWhile isHexC) with hn | ⟨hs, E, hc⟩
    · rw [hn] at hE; cases hE
    · rw [List.concat_eq_append] at hc
      rw [hc] at hall e1
      rw [hc, endE_concat, ← hex_expLetter E (hall E (by simp))] at hE
      cases hd : r.dropWhile isHexC with
      | nil => rw [hd] at hS; cases hS
      | cons S rest =>
        rw [hd] at hS e1
        refine ⟨hs, E, S, rest, by rw [← e1]; simp, fun x hx => hall x (List.mem_append_left _ hx), ?_, hS⟩
        simpa using hE
  · rintro ⟨hs, E, S, rest, rfl, hall, hE, hS⟩
    have e1 : hs ++ E :: S :: rest = (hs ++ [E]) ++ S :: rest := by simp
    have hall' : ∀ x ∈ hs ++ [E], isHexC x = true := by
      intro x hx
      rcases List.mem_append.mp hx with hx | hx
      · exact hall x hx
      · rw [List.mem_singleton] at hx; subst hx; exact eE_hex x hE
    rw [e1, hexE_run _ false _ hall', endE_concat, hexE_cons, sign_not_hex S hS, hS,
      ← hex_expLetter E (hall' E (by simp))]
    rcases hE with rfl | rfl <;> rfl

/-- a match of UNWRITABLE_TEXT starts here: a control character other than TAB, `--`, `++`, or
    `(?<![A-Za-z0-9_])0[xX][0-9a-fA-F]*[eE][-+]` (`prev` = the character before is an identifier character) -/
def RegexAt (prev : Bool) (c : Char) (r : List Char) : Prop :=
  (c.toNat < 32 ∧ c ≠ '\t') ∨ (c = '-' ∧ ∃ r', r = '-' :: r') ∨ (c = '+' ∧ ∃ r', r = '+' :: r') ∨
  (prev = false ∧ c = '0' ∧ ∃ X hs E S rest, r = X :: (hs ++ E :: S :: rest) ∧ (X = 'x' ∨ X = 'X') ∧
    (∀ h ∈ hs, isHexC h = true) ∧ (E = 'e' ∨ E = 'E') ∧ (S = '+' ∨ S = '-'))

theorem unwAt_iff (b : Bool) (c : Char) (r : List Char) : unwAt b c r = true ↔ RegexAt b c r := by
  unfold unwAt RegexAt
  simp only [Bool.or_eq_true, Bool.and_eq_true, decide_eq_true_eq, beq_iff_eq, nextIs_iff, Bool.not_eq_true']
  constructor
  · rintro (((h | h) | h) | ⟨⟨⟨hp, h0⟩, hx⟩, he⟩)
    · exact Or.inl h
    · exact Or.inr (Or.inl h)
    · exact Or.inr (Or.inr (Or.inl h))
    · refine Or.inr (Or.inr (Or.inr ⟨hp, h0, ?_⟩))
      have key : ∀ X r', r = X :: r' → (X = 'x' ∨ X = 'X') → ∃ X hs E S rest, r = X :: (hs ++ E :: S :: rest) ∧
          (X = 'x' ∨ X = 'X') ∧ (∀ h ∈ hs, isHexC h = true) ∧ (E = 'e' ∨ E = 'E') ∧ (S = '+' ∨ S = '-') := by
        intro X r' e hX
        subst e
        obtain ⟨hs, E, S, rest, e, hall, hE, hS⟩ := (hexE_iff _).mp he
        simp only [List.tail_cons] at e
        subst e
        exact ⟨X, hs, E, S, rest, rfl, hX, hall, hE, (isSignC_iff S).1 hS⟩
      rcases hx with ⟨r', e⟩ | ⟨r', e⟩
      · exact key _ _ e (Or.inl rfl)
      · exact key _ _ e (Or.inr rfl)
  · rintro (h | h | h | ⟨hp, h0, X, hs, E, S, rest, e, hX, hall, hE, hS⟩)
    · exact Or.inl (Or.inl (Or.inl h))
    · exact Or.inl (Or.inl (Or.inr h))
    · exact Or.inl (Or.inr h)
    · subst e
      refine Or.inr ⟨⟨⟨hp, h0⟩, ?_⟩, ?_⟩
      · rcases hX with rfl | rfl
        · exact Or.inl ⟨_, rfl⟩
        · exact Or.inr ⟨_, rfl⟩
      · exact (hexE_iff _).mpr ⟨hs, E, S, rest, rfl, hall, hE, (isSignC_iff S).2 hS⟩

/-- the look-behind flag after the prefix `pre`: is its last character an identifier character (`b` when empty) -/
def prevId (b : Bool) (pre : List Char) : Bool := pre.foldl (fun _ p => isIdChar p) b

theorem prevId_eq : ∀ (pre : List Char) (b : Bool), prevId b pre = (match pre.getLast? with
    | some p => isIdChar p
    | none => b)
  | [], _ => rfl
  | p :: pre, b => by
    show prevId (isIdChar p) pre = _
    rw [prevId_eq pre, List.getLast?_cons]
    cases pre.getLast? <;> rfl

theorem prevId_false_iff (pre : List Char) :
    prevId false pre = false ↔ ∀ p, pre.getLast? = some p → isIdChar p = false := by
  rw [prevId_eq]
  cases pre.getLast? with
  | none => simp
  | some q => simp

theorem unw_iff : ∀ (cs : List Char) (b : Bool), unw b cs = true ↔
    ∃ pre c r, cs = pre ++ c :: r ∧ RegexAt (prevId b pre) c r
  | [], b => by
    constructor
    · intro h; cases h
    · rintro ⟨pre, c, r, h, -⟩
      cases pre <;> cases h
  | c :: r, b => by
    rw [unw, Bool.or_eq_true, unwAt_iff, unw_iff r]
    constructor
    · rintro (h | ⟨pre, c', r', rfl, h⟩)
      · exact ⟨[], c, r, rfl, h⟩
      · exact ⟨c :: pre, c', r', rfl, h⟩
    · rintro ⟨pre, c', r', e, h⟩
      cases pre with
      | nil =>
        simp only [List.nil_append, List.cons.injEq] at e
        obtain ⟨rfl, rfl⟩ := e
        exact Or.inl h
      | cons p pre =>
        simp only [List.cons_append, List.cons.injEq] at e
        obtain ⟨rfl, rfl⟩ := e
        exact Or.inr ⟨pre, c', r', rfl, h⟩

/-- `unwritable` is `re.search(UNWRITABLE_TEXT, text)`: the regular expression matches at some position (the
    look-behind of the hex clause looks at the last character of `pre`) -/
theorem unwritable_iff (cs : List Char) :
    unwritable cs = true ↔ ∃ pre c r, cs = pre ++ c :: r ∧ RegexAt (prevId false pre) c r :=
  unw_iff cs false

theorem cppHead_minusminus (r : List Char) :
    cppHead '-' ('-' :: r) = some (some .minusminus, r) ∧ ofCTok .minusminus = none := ⟨by unfold cppHead; rfl, rfl⟩

theorem cppHead_plusplus (r : List Char) :
    cppHead '+' ('+' :: r) = some (some .plusplus, r) ∧ ofCTok .plusplus = none := ⟨by unfold cppHead; rfl, rfl⟩

/-- `0x`, hex digits ending in `e`/`E`, a sign: the C++ token is a pp-number that goes on through the sign, and
    it is not an integer literal -/
theorem cppHead_hex_e_sign (hs : List Char) (E S : Char) (rest : List Char) (hall : ∀ h ∈ hs, isHexC h = true)
    (hE : E = 'e' ∨ E = 'E') (hS : isSignC S = true) :
    ∃ more rest', cppHead '0' ('x' :: (hs ++ E :: S :: rest)) = some (some (.ppnum ('0' :: 'x' :: (hs ++ E :: S :: more))), rest') ∧
      ofCTok (.ppnum ('0' :: 'x' :: (hs ++ E :: S :: more))) = none := by
  have hid : ∀ d ∈ 'x' :: (hs ++ [E]), isIdChar d = true := by
    intro d hd
    rcases List.mem_cons.mp hd with hd | hd
    · subst hd; decide
    rcases List.mem_append.mp hd with hd | hd
    · exact isHexC_isIdChar d (hall d hd)
    · simp only [List.mem_singleton] at hd
      subst hd
      exact isHexC_isIdChar d (eE_hex d hE)
  have hend : endE false ('x' :: (hs ++ [E])) = true := by
    unfold endE
    rw [List.foldl_cons, List.foldl_append]
    rcases hE with rfl | rfl <;> rfl
  have hS1 : isIdChar S = false := by rcases (isSignC_iff S).1 hS with rfl | rfl <;> decide
  have hS2 : (S == '.') = false := by rcases (isSignC_iff S).1 hS with rfl | rfl <;> decide
  have hsp := ppSpan_ids ('x' :: (hs ++ [E])) false (S :: rest) hid
  rw [hend, ppSpan_cons true S rest, hS1, hS2, hS] at hsp
  have e : 'x' :: (hs ++ [E]) ++ S :: rest = 'x' :: (hs ++ E :: S :: rest) := by simp
  rw [e] at hsp
  refine ⟨(ppSpan false rest).1, (ppSpan false rest).2, ?_, ?_⟩
  · rw [cppHead_digit '0' _ (by decide), hsp]
    simp
  · have : (hs ++ E :: S :: (ppSpan false rest).1).all isHexC = false := by
      rw [List.all_eq_false]
      exact ⟨S, by simp, by rw [sign_not_hex S hS]; simp⟩
    simp [ofCTok, ppValue, this]

theorem cppToks_none (n : Nat) (c : Char) (r : List Char) (ct : CTok) (rest' : List Char)
    (hc : cppHead c r = some (some ct, rest')) (hof : ofCTok ct = none) (ts : List Tok) :
    cppToks (n + 1) (c :: r) ≠ some ts := by
  unfold cppToks
  rw [cppLex_succ_cons, hc]
  show ((cppLex n rest').map (ct :: ·)).bind (fun cts => List.mapM ofCTok cts) ≠ some ts
  cases cppLex n rest' with
  | none => simp
  | some cts => simp [List.mapM_cons, hof]

theorem special_not_control : ∀ x ∈ special, x = '\t' ∨ 32 ≤ x.toNat := by decide

theorem lexHead_control_none (c : Char) (r : List Char) (h : c.toNat < 32 ∧ c ≠ '\t') :
    lexHead false c r = none := by
  have hsp : c ∉ special := by
    intro hm
    rcases special_not_control c hm with e | e
    · exact h.2 e
    · omega
  have hd : c.isDigit = false := by
    cases hd : c.isDigit with
    | false => rfl
    | true => have := isIdChar_ge c (isDigit_isIdChar c hd); omega
  have hi : isIdStart c = false := by
    cases hi : isIdStart c with
    | false => rfl
    | true => have := isIdChar_ge c (isIdStart_isIdChar c hi); omega
  rw [lexHead_word false c r hsp]
  unfold lexWord
  rw [hd, hi]
  rfl

/-- `0X...` (capital X): one pp-number for C++, and not a literal calc has -/
theorem cppHead_0X (r' : List Char) :
    cppHead '0' ('X' :: r') = some (some (.ppnum ('0' :: 'X' :: (ppSpan false r').1)), (ppSpan false r').2) ∧
      ofCTok (.ppnum ('0' :: 'X' :: (ppSpan false r').1)) = none := by
  constructor
  · rw [cppHead_digit '0' _ (by decide), ppSpan_cons]; rfl
  · rfl

theorem cppToks_ne_of_unwAt (c : Char) (r : List Char) (ot : Option Tok) (rest : List Char)
    (hh : lexHead false c r = some (ot, rest)) (hA : unwAt false c r = true) (m : Nat) (ts : List Tok) :
    cppToks (m + 1) (c :: r) ≠ some ts := by
  rcases (unwAt_iff false c r).mp hA with h1 | ⟨rfl, r', rfl⟩ | ⟨rfl, r', rfl⟩ |
    ⟨-, rfl, X, hxs, E, S, rest', rfl, hX, hall, hE, hS⟩
  · rw [lexHead_control_none c r h1] at hh; cases hh
  · exact cppToks_none m _ _ _ _ (cppHead_minusminus r').1 rfl ts
  · exact cppToks_none m _ _ _ _ (cppHead_plusplus r').1 rfl ts
  · rcases hX with rfl | rfl
    · obtain ⟨more, rest'', hc, hof⟩ := cppHead_hex_e_sign hxs E S rest' hall hE ((isSignC_iff S).2 hS)
      exact cppToks_none m _ _ _ _ hc hof ts
    · exact cppToks_none m _ _ _ _ (cppHead_0X _).1 (cppHead_0X _).2 ts

theorem cpp_lex_differs {n : Nat} {cs : List Char} {ts : List Tok} (hl : lex false n cs = some ts) :
    ∀ st, okSeq st ts = true → hlz false cs = false → unw false cs = true → ∀ m, cppToks m cs ≠ some ts := by
  refine lex_ok_induction (P := fun _ cs ts => hlz false cs = false → unw false cs = true →
      ∀ m, cppToks m cs ≠ some ts) ?_ ?_ hl
  · intro _ _ hu; cases hu
  · intro st c r ot rest ts hh hn ih hz hu m
    cases m with
    | zero => intro h; cases h
    | succ m =>
      by_cases hA : unwAt false c r = true
      · exact cppToks_ne_of_unwAt c r ot rest hh hA m _
      · -- the match is further on: this step agrees
        have hA' : unwAt false c r = false := by simpa using hA
        have hst := lexHead_step hh
        rw [hst.unw, hA', Bool.false_or] at hu
        obtain ⟨oct, hc, hcorr⟩ := cppHead_agree hst hn (by rintro t rfl; rfl) hA' hz
        rw [cppToks_step m hc hcorr]
        intro heq
        cases hr : cppToks m rest with
        | none => rw [hr] at heq; cases heq
        | some ts2 =>
          rw [hr, Option.map_some, Option.some.injEq] at heq
          rw [List.append_cancel_left heq] at hr
          exact ih (hst.hlz false hz) hu m hr

def envNone : String → Option Int := fun _ => none

-- `0xE+1` (D175): calc reads `0xE`, `+`, `1` and computes 15; a C++ compiler reads ONE ill-formed pp-number;
-- UNWRITABLE_TEXT refuses it
example : lex false 6 "0xE+1".toList = some [.num 14, .plus, .num 1] := by decide +kernel
example : evalText false envNone "0xE+1" = .value 15 := by decide +kernel
example : cppLex 6 "0xE+1".toList = some [.ppnum "0xE+1".toList] := by decide +kernel
example : cppToks 6 "0xE+1".toList = none := by decide +kernel
example : unwritable "0xE+1".toList = true := by decide +kernel
-- `2--1` (D158): calc reads `2 - (-1)` = 3; C++ reads `2`, `--`, `1`
example : lex false 5 "2--1".toList = some [.num 2, .minus, .minus, .num 1] := by decide +kernel
example : evalText false envNone "2--1" = .value 3 := by decide +kernel
example : cppLex 5 "2--1".toList = some [.ppnum ['2'], .minusminus, .ppnum ['1']] := by decide +kernel
example : cppToks 5 "2--1".toList = none := by decide +kernel
example : unwritable "2--1".toList = true := by decide +kernel
-- with a blank: writable, and the same tokens
example : unwritable "0xE + 1".toList = false ∧ cppToks 8 "0xE + 1".toList = lex false 8 "0xE + 1".toList ∧
    lex false 8 "0xE + 1".toList = some [.num 14, .plus, .num 1] := by decide +kernel
example : unwritable "2 - -1".toList = false ∧ cppToks 7 "2 - -1".toList = lex false 7 "2 - -1".toList ∧
    lex false 7 "2 - -1".toList = some [.num 2, .minus, .minus, .num 1] := by decide +kernel
example : unwritable "1 << 2".toList = false ∧ cppToks 7 "1 << 2".toList = some [.num 1, .shl, .num 2] ∧
    lex false 7 "1 << 2".toList = some [.num 1, .shl, .num 2] := by decide +kernel
example : unwritable "(1)<<(31)".toList = false ∧
    cppToks 10 "(1)<<(31)".toList = some [.lpar, .num 1, .rpar, .shl, .lpar, .num 31, .rpar] ∧
    lex false 10 "(1)<<(31)".toList = some [.lpar, .num 1, .rpar, .shl, .lpar, .num 31, .rpar] := by decide +kernel
-- a sign after a hex literal that does not end in `e`/`E` is harmless
example : unwritable "0x1F+1".toList = false ∧ cppToks 7 "0x1F+1".toList = some [.num 31, .plus, .num 1] := by decide +kernel

-- without "calc PARSES the tokens" the comparison fails: calc lexes these, UNWRITABLE_TEXT lets them pass, the C++
-- tokens differ - and calc's parser refuses them (`1e+5` likewise: a number directly followed by a name)
example : lex false 6 "1->>2".toList = some [.num 1, .minus, .shr, .num 2] ∧ unwritable "1->>2".toList = false ∧
    cppLex 6 "1->>2".toList = some [.ppnum ['1'], .arrow, .gt, .ppnum ['2']] ∧
    parse [.num 1, .minus, .shr, .num 2] = none := by decide +kernel
example : lex false 5 "1||2".toList = some [.num 1, .bar, .bar, .num 2] ∧ unwritable "1||2".toList = false ∧
    cppLex 5 "1||2".toList = some [.ppnum ['1'], .barbar, .ppnum ['2']] ∧
    parse [.num 1, .bar, .bar, .num 2] = none := by decide +kernel
example : lex false 5 "7//2".toList = some [.num 7, .slash, .slash, .num 2] ∧ unwritable "7//2".toList = false ∧
    cppLex 5 "7//2".toList = some [.ppnum ['7'], .lineComment] ∧
    parse [.num 7, .slash, .slash, .num 2] = none := by decide +kernel
example : lex false 5 "a/*b".toList = some [.ident "a", .slash, .star, .ident "b"] ∧ unwritable "a/*b".toList = false ∧
    cppLex 5 "a/*b".toList = some [.ident ['a'], .blockComment] ∧
    parse [.ident "a", .slash, .star, .ident "b"] = none := by decide +kernel
example : lex false 5 "12ab".toList = some [.num 12, .ident "ab"] ∧ unwritable "12ab".toList = false ∧
    cppLex 5 "12ab".toList = some [.ppnum "12ab".toList] ∧ parse [.num 12, .ident "ab"] = none := by decide +kernel
example : lex false 7 "0x1p+3".toList = some [.num 1, .ident "p", .plus, .num 3] ∧ unwritable "0x1p+3".toList = false ∧
    cppLex 7 "0x1p+3".toList = some [.ppnum "0x1p+3".toList] ∧
    parse [.num 1, .ident "p", .plus, .num 3] = none := by decide +kernel
example : lex false 5 "1e+5".toList = some [.num 1, .ident "e", .plus, .num 5] ∧ unwritable "1e+5".toList = false ∧
    cppLex 5 "1e+5".toList = some [.ppnum "1e+5".toList] := by decide +kernel
-- without "no leading-zero literal" it fails too (D63): `010` is ten for calc and eight for C++
example : lex false 4 "010".toList = some [.num 10] ∧ unwritable "010".toList = false ∧
    cppLex 4 "010".toList = some [.ppnum "010".toList] ∧ cppToks 4 "010".toList = none ∧
    hasLeadingZero "010".toList = true := by decide +kernel

-- a TAB is skipped by calc like a blank and is white space for C++: writable, same tokens, value 3
example : unwritable "1\t+ 2".toList = false ∧ cppToks 7 "1\t+ 2".toList = lex false 7 "1\t+ 2".toList ∧
    lex false 7 "1\t+ 2".toList = some [.num 1, .plus, .num 2] ∧ evalText false envNone "1\t+ 2" = .value 3 := by
  decide +kernel
-- every other control character is refused, and the model of calc's lexer does not lex it
example : unwritable "1\n+ 2".toList = true ∧ lex false 7 "1\n+ 2".toList = none := by decide +kernel
-- `0x1e+` inside an identifier is no number: writable (the look-behind of UNWRITABLE_TEXT)
example : unwritable "a0x1e+1".toList = false ∧ cppToks 8 "a0x1e+1".toList = lex false 8 "a0x1e+1".toList ∧
    lex false 8 "a0x1e+1".toList = some [.ident "a0x1e", .plus, .num 1] := by decide +kernel
example : unwritable "OFFSET_0xE+1".toList = false ∧
    cppToks 13 "OFFSET_0xE+1".toList = lex false 13 "OFFSET_0xE+1".toList ∧
    lex false 13 "OFFSET_0xE+1".toList = some [.ident "OFFSET_0xE", .plus, .num 1] := by decide +kernel
-- the literal itself is refused, also after an operator or a blank
example : unwritable "0xE+1".toList = true ∧ unwritable "1+0xE+1".toList = true ∧
    unwritable "1 + 0Xe-1".toList = true := by decide +kernel

end Expr
end Prophy

#print axioms Prophy.Expr.unwritable_iff
#print axioms Prophy.Expr.cppHead_hex_e_sign
