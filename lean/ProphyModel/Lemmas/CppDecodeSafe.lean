/-
  C07 — the generated C++ full decoder never reads outside `[data, data+size)`, whatever the bytes and whatever the
  schema tree, and every `resize` it requests is bounded by the input bytes that are still unread.

  One invariant is carried through the whole decoder (`GoodB`): started inside the buffer, a step is never `fault`, moves
  the cursor forward and leaves it inside, and only adds requests to the log that fit the unread bytes at an element size
  allowed by `S` (and `resizeLimit`, unless it throws).  It is read twice: as `Good` (entries in elements), and through
  `GoodB.resizes` at `S := (· ∈ resizeElems t)` (entries in bytes at an element size of the schema).

  Caveat of the model, not of the proof: the greedy count `remaining / codecSize t` is Lean's total division, so an
  element type of `codec_traits<T>::size = 0` gives `cnt = 0` here (C++ would divide by zero); `Accept.front` rejects
  empty structs.
-/
import ProphyModel.Lemmas.CppDecodeStep
namespace Prophy.Cpp

/-- the resize log `rs'` is `rs` with new entries pushed in front; each fits the unread bytes at an element size
    allowed by `S` and, when `lim`, is at most `resizeLimit` -/
def ExtB (S : Nat → Prop) (lim : Bool) (size pos : Nat) (rs rs' : List Nat) : Prop :=
  ∃ new, rs' = new ++ rs ∧ ∀ n ∈ new, (∃ el, S el ∧ n * el ≤ size - pos) ∧ (lim = true → n ≤ resizeLimit)

def GoodB {α : Type} (S : Nat → Prop) (size pos : Nat) (rs : List Nat) : DRes α → Prop
  | .ok _ pos' rs' => pos ≤ pos' ∧ pos' ≤ size ∧ ExtB S true size pos rs rs'
  | .fail rs' => ExtB S true size pos rs rs'
  | .fault => False
  | .throw rs' => ExtB S false size pos rs rs'

/-- read in elements: each new entry is at most `size - pos` and, when `lim`, at most `resizeLimit` -/
def Ext (lim : Bool) (size pos : Nat) (rs rs' : List Nat) : Prop :=
  ∃ new, rs' = new ++ rs ∧ ∀ n ∈ new, n ≤ size - pos ∧ (lim = true → n ≤ resizeLimit)

/-- an outcome that stayed inside the buffer (not `Good_p17` of CppDecodeExact: a typed, coherent value) -/
def Good {α : Type} (size pos : Nat) (rs : List Nat) : DRes α → Prop
  | .ok _ pos' rs' => pos ≤ pos' ∧ pos' ≤ size ∧ Ext true size pos rs rs'
  | .fail rs' => Ext true size pos rs rs'
  | .fault => False
  | .throw rs' => Ext false size pos rs rs'

/-- read in bytes, without the limit -/
def ExtS (S : Nat → Prop) (size pos : Nat) (rs rs' : List Nat) : Prop :=
  ∃ new, rs' = new ++ rs ∧ ∀ n ∈ new, ∃ el, S el ∧ n * el ≤ size - pos

def GoodS {α : Type} (S : Nat → Prop) (size pos : Nat) (rs : List Nat) : DRes α → Prop
  | .ok _ pos' rs' => pos ≤ pos' ∧ pos' ≤ size ∧ ExtS S size pos rs rs'
  | .fail rs' => ExtS S size pos rs rs'
  | .fault => False
  | .throw rs' => ExtS S size pos rs rs'

/- the element sizes `do_decode_resize` / `decoder_greedy` divide by, anywhere in the schema tree -/
mutual
  def resizeElems : Ty → List Nat
    | .struct _ ms => resizeElemsMs ms ms
    | .union _ arms => resizeElemsArms arms
    | _ => []
  def resizeElemsMs (all : List Member) : List Member → List Nat
    | [] => []
    | .mk n t k :: r =>
      (match k with
       | .plain => if isSizer n all then [resizeElem n all] else []
       | .greedy => if codecSize t ≥ 0 then [elemSz t] else []
       | _ => []) ++ resizeElems t ++ resizeElemsMs all r
  def resizeElemsArms : List Arm → List Nat
    | [] => []
    | .mk _ _ t :: r => resizeElems t ++ resizeElemsArms r
end

def DRes.resizes {α : Type} (rs : List Nat) : DRes α → List Nat
  | .ok _ _ rs' => rs'
  | .fail rs' => rs'
  | .fault => rs
  | .throw rs' => rs'

def Outcome.resizes : Outcome → List Nat
  | .accepted _ rs => rs
  | .rejected rs => rs
  | .fault => []
  | .exception rs => rs

def DRes.isThrow {α : Type} : DRes α → Bool
  | .throw _ => true
  | _ => false

def Outcome.isException : Outcome → Bool
  | .exception _ => true
  | _ => false

theorem ExtB.refl (S : Nat → Prop) (lim : Bool) (size pos : Nat) (rs : List Nat) : ExtB S lim size pos rs rs :=
  ⟨[], by simp, by simp⟩

theorem ExtB.cons {S : Nat → Prop} {lim : Bool} {size pos n : Nat} (rs : List Nat) (el : Nat) (hS : S el)
    (h : n * el ≤ size - pos) (hl : lim = true → n ≤ resizeLimit) : ExtB S lim size pos rs (n :: rs) :=
  ⟨[n], by simp, by intro m hm; simp at hm; subst hm; exact ⟨⟨el, hS, h⟩, hl⟩⟩

theorem ExtB.trans {S : Nat → Prop} {lim : Bool} {size pos pos1 : Nat} {rs rs1 rs2 : List Nat}
    (h1 : ExtB S true size pos rs rs1) (hp : pos ≤ pos1) (h2 : ExtB S lim size pos1 rs1 rs2) :
    ExtB S lim size pos rs rs2 := by
  obtain ⟨n1, e1, b1⟩ := h1
  obtain ⟨n2, e2, b2⟩ := h2
  refine ⟨n2 ++ n1, by simp [e1, e2], ?_⟩
  intro n hn
  rcases List.mem_append.1 hn with h | h
  · obtain ⟨⟨el, hs, hb⟩, hl⟩ := b2 n h
    exact ⟨⟨el, hs, by omega⟩, hl⟩
  · exact ⟨(b1 n h).1, fun _ => (b1 n h).2 rfl⟩

theorem GoodB.mono {α : Type} {S : Nat → Prop} {size pos pos1 : Nat} {rs rs1 : List Nat} {r : DRes α}
    (hp : pos ≤ pos1) (hx : ExtB S true size pos rs rs1) (h : GoodB S size pos1 rs1 r) : GoodB S size pos rs r := by
  cases r with
  | ok a p' rs' =>
    obtain ⟨h1, h2, h3⟩ := h
    exact ⟨by omega, h2, hx.trans hp h3⟩
  | fail rs' => exact hx.trans hp h
  | fault => exact h
  | throw rs' => exact hx.trans hp h

theorem goodB_ok {α : Type} (S : Nat → Prop) {size pos : Nat} (rs : List Nat) (a : α) (hpos : pos ≤ size) :
    GoodB S size pos rs (.ok a pos rs) :=
  ⟨Nat.le_refl _, hpos, ExtB.refl _ _ _ _ _⟩

theorem goodB_ite {α : Type} (S : Nat → Prop) {size pos q : Nat} (rs : List Nat) (a : α) (c : Prop) [Decidable c]
    (h : c → pos ≤ q ∧ q ≤ size) : GoodB S size pos rs (if c then .ok a q rs else .fail rs) := by
  split
  · rename_i hc
    exact ⟨(h hc).1, (h hc).2, ExtB.refl _ _ _ _ _⟩
  · exact ExtB.refl _ _ _ _ _

theorem decScalar_goodB (S : Nat → Prop) (e : Endian) (k : Nat) (signed : Bool) (data : Bytes) (pos : Nat)
    (rs : List Nat) (hpos : pos ≤ data.length) : GoodB S data.length pos rs (decScalar e k signed data pos rs) := by
  rw [decScalar_eq _ _ _ _ _ _ hpos]
  exact goodB_ite S rs _ _ (fun h => ⟨by omega, h⟩)

theorem advance_goodB (S : Nat → Prop) (n size pos : Nat) (rs : List Nat) (hpos : pos ≤ size) :
    GoodB S size pos rs (advance n size pos rs) := by
  rw [advance_eq _ _ _ _ hpos]
  exact goodB_ite S rs _ _ (fun h => ⟨by omega, h⟩)

theorem padStep_goodB (S : Nat → Prop) (padding : Int) (size pos : Nat) (rs : List Nat) (hpos : pos ≤ size) :
    GoodB S size pos rs (padStep padding size pos rs) := by
  rw [padStep_eq _ _ _ _ hpos]
  exact goodB_ite S rs _ _ (fun h => ⟨applyPad_eq _ _ ▸ Nat.le_add_right _ _, h⟩)

/-- sequencing, for a continuation that restarts from `pos` (`do_decode_in_place`) -/
theorem andThen_goodB_at {α β : Type} {S : Nat → Prop} {size pos : Nat} {rs : List Nat} (r : DRes α) (q : Nat)
    (f : α → Nat → List Nat → DRes β × Nat) (h : GoodB S size pos rs r)
    (hf : ∀ a pos1 rs1, ExtB S true size pos rs rs1 → GoodB S size pos rs (f a pos1 rs1).1) :
    GoodB S size pos rs (r.andThen q f).1 := by
  cases r with
  | ok a p' rs' => exact hf a p' rs' h.2.2
  | fail rs' => exact h
  | fault => exact h
  | throw rs' => exact h

theorem andThen_goodB {α β : Type} {S : Nat → Prop} {size pos : Nat} {rs : List Nat} (r : DRes α) (q : Nat)
    (f : α → Nat → List Nat → DRes β × Nat) (h : GoodB S size pos rs r)
    (hf : ∀ a pos1 rs1, pos1 ≤ size → GoodB S size pos1 rs1 (f a pos1 rs1).1) :
    GoodB S size pos rs (r.andThen q f).1 := by
  cases r with
  | ok a p' rs' => exact GoodB.mono h.1 h.2.2 (hf a p' rs' h.2.1)
  | fail rs' => exact h
  | fault => exact h
  | throw rs' => exact h

theorem map_goodB {α β : Type} {S : Nat → Prop} {size pos : Nat} {rs : List Nat} (r : DRes α) (g : α → β)
    (h : GoodB S size pos rs r) : GoodB S size pos rs (r.map g) := by
  cases r <;> exact h

theorem retag_goodB {α β : Type} {S : Nat → Prop} {size pos : Nat} {rs : List Nat} (r : DRes α × Nat) (g : α → β)
    (h : GoodB S size pos rs r.1) : GoodB S size pos rs (retag r g).1 := by
  rw [retag_eq]
  exact map_goodB _ _ h

theorem decN_goodB (S : Nat → Prop) (f : Nat → List Nat → DRes Val × Nat) (size : Nat)
    (hf : ∀ q rs', q ≤ size → GoodB S size q rs' (f q rs').1) :
    ∀ (n pos : Nat) (rs : List Nat), pos ≤ size → GoodB S size pos rs (decN f n pos rs).1
  | 0, pos, rs, hpos => goodB_ok S rs _ hpos
  | n + 1, pos, rs, hpos => by
    rw [decN_succ]
    exact andThen_goodB _ _ _ (hf pos rs hpos) fun v pos1 rs1 h1 =>
      retag_goodB _ _ (decN_goodB S f size hf n pos1 rs1 h1)

theorem decGreedyDyn_goodB (S : Nat → Prop) (f : Nat → List Nat → DRes Val × Nat) (size : Nat)
    (hf : ∀ q rs', q ≤ size → GoodB S size q rs' (f q rs').1) :
    ∀ (fuel pos : Nat) (rs : List Nat), pos ≤ size → GoodB S size pos rs (decGreedyDyn f fuel pos rs)
  | 0, pos, rs, hpos => ExtB.refl _ _ _ _ _
  | fuel + 1, pos, rs, hpos => by
    have h1 := hf pos rs hpos
    rw [decGreedyDyn_succ]
    cases hfp : (f pos rs).1 with
    | ok v pos1 rs1 =>
      rw [hfp] at h1
      exact GoodB.mono h1.1 h1.2.2 (map_goodB _ _ (decGreedyDyn_goodB S f size hf fuel pos1 rs1 h1.2.1))
    | fail rs1 => rw [hfp] at h1; exact ⟨Nat.le_refl _, hpos, h1⟩
    | fault => rw [hfp] at h1; exact h1
    | throw rs1 => rw [hfp] at h1; exact h1

theorem decArray_goodB (S : Nat → Prop) (f : Nat → List Nat → DRes Val × Nat) (t : Ty) (cnt size pos : Nat)
    (rs : List Nat) (hf : ∀ q rs', q ≤ size → GoodB S size q rs' (f q rs').1) (hpos : pos ≤ size) :
    GoodB S size pos rs (decArray f t cnt size pos rs).1 := by
  rw [decArray_eq]
  split
  · exact ExtB.refl _ _ _ _ _
  · exact retag_goodB _ _ (decN_goodB S f size hf cnt pos rs hpos)

theorem resizeStep_goodB {α : Type} {S : Nat → Prop} (over : Bool) (el cnt size pos1 : Nat) (rs1 : List Nat)
    (a : α) (hS : S el) (hb : pos1 ≤ size) : GoodB S size pos1 rs1 (resizeStep over el cnt size pos1 rs1 a).1 := by
  cases h : resizeStep over el cnt size pos1 rs1 a with
  | mk r p =>
    rcases (resizeStep_inv over el cnt size pos1 rs1 a hb r p h).2 with hr | ⟨hfit, _, hr⟩ | ⟨_, hfit, hl, hr⟩
    · subst hr; exact ExtB.refl _ _ _ _ _
    · subst hr; exact ExtB.cons rs1 el hS hfit (by simp)
    · subst hr; exact ⟨Nat.le_refl _, hb, ExtB.cons rs1 el hS hfit (fun _ => hl)⟩

theorem greedy_fits (t : Ty) (x : Nat) : x / (codecSize t).toNat * elemSz t ≤ x := by
  unfold elemSz
  by_cases hc : codecSize t > 0
  · rw [if_pos hc]; exact Nat.div_mul_le_self _ _
  · have h0 : (codecSize t).toNat = 0 := by omega
    rw [if_neg hc, h0, Nat.div_zero]; omega

/-- `S` has to allow the element sizes the statement itself divides by -/
theorem memberStep_goodB (S : Nat → Prop) (e : Endian) (all : List Member) (n : String) (t : Ty) (k : MKind)
    (msize : Nat) (data : Bytes) (pos : Nat) (rs : List Nat) (lens : List (String × Nat))
    (elem : Nat → List Nat → DRes Val × Nat)
    (hf : ∀ q rs', q ≤ data.length → GoodB S data.length q rs' (elem q rs').1)
    (hsz : k = .plain → isSizer n all = true → S (resizeElem n all))
    (hgr : k = .greedy → codecSize t ≥ 0 → S (elemSz t))
    (hpos : pos ≤ data.length) :
    GoodB S data.length pos rs (memberStep e all n t k msize data pos rs lens elem).1 := by
  cases k with
  | plain =>
    cases hs : isSizer n all with
    | true =>
      rw [memberStep_sizer _ _ _ _ _ _ _ _ _ _ hs]
      exact andThen_goodB _ _ _ (decScalar_goodB S _ _ _ _ _ _ hpos) fun c pos1 rs1 h1 =>
        resizeStep_goodB _ _ _ _ _ _ _ (hsz rfl hs) h1
    | false =>
      rw [memberStep_plain _ _ _ _ _ _ _ _ _ _ hs]
      exact retag_goodB _ _ (hf pos rs hpos)
  | optional =>
    rw [memberStep_optional]
    refine andThen_goodB _ _ _ (decScalar_goodB S _ _ _ _ _ _ hpos) fun disc pos1 rs1 h1 => ?_
    refine andThen_goodB _ _ _ (advance_goodB S _ _ _ _ h1) fun _ pos2 rs2 h2 => ?_
    split
    · exact retag_goodB _ _ (hf pos2 rs2 h2)
    · exact andThen_goodB _ _ _ (advance_goodB S _ _ _ _ h2) fun _ pos3 rs3 h3 => goodB_ok S rs3 _ h3
  | fixed c => exact retag_goodB _ _ (decArray_goodB _ _ _ _ _ _ _ hf hpos)
  | dyn s sh => exact retag_goodB _ _ (decArray_goodB _ _ _ _ _ _ _ hf hpos)
  | limited s l =>
    rw [memberStep_limited]
    refine andThen_goodB_at _ _ _ (decArray_goodB _ _ _ _ _ _ _ hf hpos) fun v _ rs1 hx => ?_
    exact GoodB.mono (Nat.le_refl _) hx
      (andThen_goodB _ _ _ (advance_goodB S _ _ _ _ hpos) fun _ pos2 rs2 h2 => goodB_ok S rs2 _ h2)
  | greedy =>
    rw [memberStep_greedy]
    split
    · rename_i hcs
      have hcnt : remaining data.length pos / (codecSize t).toNat * elemSz t ≤ data.length - pos := by
        rw [remaining_of_le hpos]
        exact greedy_fits t _
      generalize remaining data.length pos / (codecSize t).toNat = cnt at hcnt
      split
      · exact ExtB.cons rs _ (hgr rfl hcs) hcnt (by simp)
      · rename_i hl
        exact GoodB.mono (Nat.le_refl _) (ExtB.cons rs _ (hgr rfl hcs) hcnt (fun _ => by omega))
          (retag_goodB _ _ (decArray_goodB _ _ _ _ _ _ _ hf hpos))
    · exact andThen_goodB _ _ _ (decGreedyDyn_goodB S elem data.length hf _ pos rs hpos)
        fun vs pos1 rs1 h1 => goodB_ok S rs1 _ h1

theorem resizeElemsMs_cons (all : List Member) (n : String) (t : Ty) (k : MKind) (r : List Member) (x : Nat) :
    x ∈ resizeElemsMs all (.mk n t k :: r) ↔
      (k = .plain ∧ isSizer n all = true ∧ x = resizeElem n all) ∨
      (k = .greedy ∧ codecSize t ≥ 0 ∧ x = elemSz t) ∨ x ∈ resizeElems t ∨ x ∈ resizeElemsMs all r := by
  cases k with
  | plain =>
    by_cases hs : isSizer n all = true
    · simp [resizeElemsMs, hs]
    · simp [resizeElemsMs, hs]
  | greedy =>
    by_cases hc : codecSize t ≥ 0
    · simp [resizeElemsMs, hc]
    · simp [resizeElemsMs, hc]
  | _ => simp [resizeElemsMs]

mutual
  theorem one_le_resizeElems : (t : Ty) → ∀ el ∈ resizeElems t, 1 ≤ el
    | .prim _, el, h => by simp [resizeElems] at h
    | .byte, el, h => by simp [resizeElems] at h
    | .enum _ _, el, h => by simp [resizeElems] at h
    | .struct _ ms, el, h => one_le_resizeElemsMs ms ms el (by simpa [resizeElems] using h)
    | .union _ arms, el, h => one_le_resizeElemsArms arms el (by simpa [resizeElems] using h)
  theorem one_le_resizeElemsMs (all : List Member) : (ms : List Member) → ∀ el ∈ resizeElemsMs all ms, 1 ≤ el
    | [], el, h => by simp [resizeElemsMs] at h
    | .mk n t k :: r, el, h => by
      rcases (resizeElemsMs_cons all n t k r el).1 h with ⟨_, _, rfl⟩ | ⟨_, _, rfl⟩ | h | h
      · exact one_le_resizeElem n all
      · exact one_le_elemSz t
      · exact one_le_resizeElems t el h
      · exact one_le_resizeElemsMs all r el h
  theorem one_le_resizeElemsArms : (arms : List Arm) → ∀ el ∈ resizeElemsArms arms, 1 ≤ el
    | [], el, h => by simp [resizeElemsArms] at h
    | .mk _ _ t :: r, el, h => by
      simp only [resizeElemsArms, List.mem_append] at h
      rcases h with h | h
      · exact one_le_resizeElems t el h
      · exact one_le_resizeElemsArms r el h
end


mutual
  theorem decTy_goodB (S : Nat → Prop) (e : Endian) : (t : Ty) → (∀ x ∈ resizeElems t, S x) →
      ∀ (data : Bytes) (pos : Nat) (rs : List Nat),
      pos ≤ data.length → GoodB S data.length pos rs (decTy e t data pos rs).1
    | .prim p, _, data, pos, rs, hpos => by
      rw [decTy_prim]
      exact map_goodB _ _ (decScalar_goodB S _ _ _ _ _ _ hpos)
    | .byte, _, data, pos, rs, hpos => by
      rw [decTy_byte]
      exact map_goodB _ _ (decScalar_goodB S _ _ _ _ _ _ hpos)
    | .enum _ _, _, data, pos, rs, hpos => by
      rw [decTy_enum]
      exact map_goodB _ _ (decScalar_goodB S _ _ _ _ _ _ hpos)
    | .struct _ ms, hS, data, pos, rs, hpos => by
      rw [decTy_struct]
      exact retag_goodB _ _ (decMs_goodB S e ms ms hS _ data pos rs [] hpos)
    | .union n arms, hS, data, pos, rs, hpos => by
      rw [decTy_union]
      refine andThen_goodB _ _ _ (decScalar_goodB S _ _ _ _ _ _ hpos) fun d pos1 rs1 h1 => ?_
      refine andThen_goodB _ _ _ (advance_goodB S _ _ _ _ h1) fun _ pos2 rs2 h2 => ?_
      refine andThen_goodB_at _ _ _ (decArms_goodB S e arms hS d data pos2 rs2 0 h2) fun iv _ rs3 hx => ?_
      exact GoodB.mono (Nat.le_refl _) hx
        (andThen_goodB _ _ _ (advance_goodB S _ _ _ _ h2) fun _ pos4 rs4 h4 => goodB_ok S rs4 _ h4)
  theorem decArms_goodB (S : Nat → Prop) (e : Endian) : (arms : List Arm) → (∀ x ∈ resizeElemsArms arms, S x) →
      ∀ (disc : Int) (data : Bytes) (pos : Nat) (rs : List Nat) (idx : Nat), pos ≤ data.length →
      GoodB S data.length pos rs (decArms e arms disc data pos rs idx)
    | [], _, disc, data, pos, rs, idx, hpos => ExtB.refl _ _ _ _ _
    | .mk _ d t :: r, hS, disc, data, pos, rs, idx, hpos => by
      rw [decArms_cons]
      split
      · exact map_goodB _ _ (decTy_goodB S e t (fun x hx => hS x (List.mem_append_left _ hx)) data pos rs hpos)
      · exact decArms_goodB S e r (fun x hx => hS x (List.mem_append_right _ hx)) disc data pos rs (idx + 1) hpos
  theorem decMs_goodB (S : Nat → Prop) (e : Endian) (all : List Member) : (ms : List Member) →
      (∀ x ∈ resizeElemsMs all ms, S x) →
      ∀ (ls : List (Nat × Nat × Int)) (data : Bytes) (pos : Nat) (rs : List Nat)
        (lens : List (String × Nat)), pos ≤ data.length →
      GoodB S data.length pos rs (decMs e all ms ls data pos rs lens).1
    | [], _, ls, data, pos, rs, lens, hpos => by
      rw [decMs_nil]
      exact goodB_ok S rs _ hpos
    | .mk n t k :: r, _, [], data, pos, rs, lens, hpos => by
      rw [decMs_nil_layout]
      exact goodB_ok S rs _ hpos
    | .mk n t k :: r, hS, (msize, a, padding) :: ls, data, pos, rs, lens, hpos => by
      rw [decMs_cons]
      refine andThen_goodB _ _ _ (memberStep_goodB S e all n t k msize data pos rs lens _
        (fun q rs' hq => decTy_goodB S e t
          (fun x hx => hS x ((resizeElemsMs_cons all n t k r x).2 (Or.inr (Or.inr (Or.inl hx))))) data q rs' hq)
        (fun hk hs => hS _ ((resizeElemsMs_cons all n t k r _).2 (Or.inl ⟨hk, hs, rfl⟩)))
        (fun hk hc => hS _ ((resizeElemsMs_cons all n t k r _).2 (Or.inr (Or.inl ⟨hk, hc, rfl⟩))))
        hpos) fun vl pos1 rs1 h1 => ?_
      refine andThen_goodB _ _ _ (padStep_goodB S _ _ _ _ h1) fun _ pos2 rs2 h2 => ?_
      exact retag_goodB _ _ (decMs_goodB S e all r
        (fun x hx => hS x ((resizeElemsMs_cons all n t k r x).2 (Or.inr (Or.inr (Or.inr hx))))) ls data pos2 rs2 vl.2 h2)
end

theorem ExtB.ext {S : Nat → Prop} {lim : Bool} {size pos : Nat} {rs rs' : List Nat} (h1 : ∀ el, S el → 1 ≤ el)
    (h : ExtB S lim size pos rs rs') : Ext lim size pos rs rs' := by
  obtain ⟨new, e, b⟩ := h
  refine ⟨new, e, fun n hn => ⟨?_, (b n hn).2⟩⟩
  obtain ⟨el, hs, hb⟩ := (b n hn).1
  exact Nat.le_trans (Nat.le_mul_of_pos_right n (h1 el hs)) hb

theorem ExtB.extS {S : Nat → Prop} {lim : Bool} {size pos : Nat} {rs rs' : List Nat}
    (h : ExtB S lim size pos rs rs') : ExtS S size pos rs rs' := by
  obtain ⟨new, e, b⟩ := h
  exact ⟨new, e, fun n hn => (b n hn).1⟩

theorem GoodB.good {α : Type} {S : Nat → Prop} {size pos : Nat} {rs : List Nat} {r : DRes α}
    (h1 : ∀ el, S el → 1 ≤ el) (h : GoodB S size pos rs r) : Good size pos rs r := by
  cases r with
  | ok a p' rs' => exact ⟨h.1, h.2.1, h.2.2.ext h1⟩
  | fail rs' => exact ExtB.ext h1 h
  | fault => exact h
  | throw rs' => exact ExtB.ext h1 h

theorem GoodB.goodS {α : Type} {S : Nat → Prop} {size pos : Nat} {rs : List Nat} {r : DRes α}
    (h : GoodB S size pos rs r) : GoodS S size pos rs r := by
  cases r with
  | ok a p' rs' => exact ⟨h.1, h.2.1, h.2.2.extS⟩
  | fail rs' => exact ExtB.extS h
  | fault => exact h
  | throw rs' => exact ExtB.extS h

theorem decTy_good (e : Endian) (t : Ty) (data : Bytes) (pos : Nat) (rs : List Nat) (hpos : pos ≤ data.length) :
    Good data.length pos rs (decTy e t data pos rs).1 :=
  (decTy_goodB (1 ≤ ·) e t (one_le_resizeElems t) data pos rs hpos).good (fun _ h => h)

theorem decArms_good (e : Endian) : (arms : List Arm) → ∀ (disc : Int) (data : Bytes) (pos : Nat)
      (rs : List Nat) (idx : Nat), pos ≤ data.length →
      Good data.length pos rs (decArms e arms disc data pos rs idx) :=
  fun arms disc data pos rs idx hpos =>
    (decArms_goodB (1 ≤ ·) e arms (one_le_resizeElemsArms arms) disc data pos rs idx hpos).good (fun _ h => h)

theorem decMs_good (e : Endian) (all ms : List Member) (ls : List (Nat × Nat × Int)) (data : Bytes) (pos : Nat)
    (rs : List Nat) (lens : List (String × Nat)) (hpos : pos ≤ data.length) :
    Good data.length pos rs (decMs e all ms ls data pos rs lens).1 :=
  (decMs_goodB (1 ≤ ·) e all ms (one_le_resizeElemsMs all ms) ls data pos rs lens hpos).good (fun _ h => h)

theorem decArms_goodS (S : Nat → Prop) (e : Endian) : (arms : List Arm) → (∀ x ∈ resizeElemsArms arms, S x) →
      ∀ (disc : Int) (data : Bytes) (pos : Nat)
      (rs : List Nat) (idx : Nat), pos ≤ data.length →
      GoodS S data.length pos rs (decArms e arms disc data pos rs idx) :=
  fun arms hS disc data pos rs idx hpos => (decArms_goodB S e arms hS disc data pos rs idx hpos).goodS

theorem decMs_goodS (S : Nat → Prop) (e : Endian) (all : List Member) : (ms : List Member) →
      (∀ x ∈ resizeElemsMs all ms, S x) →
      ∀ (ls : List (Nat × Nat × Int)) (data : Bytes) (pos : Nat) (rs : List Nat)
        (lens : List (String × Nat)), pos ≤ data.length →
      GoodS S data.length pos rs (decMs e all ms ls data pos rs lens).1 :=
  fun ms hS ls data pos rs lens hpos => (decMs_goodB S e all ms hS ls data pos rs lens hpos).goodS

theorem decTy_safe (e : Endian) (t : Ty) (data : Bytes) (pos : Nat) (rs : List Nat)
    (hpos : pos ≤ data.length) :
    (Cpp.decTy e t data pos rs).1 ≠ .fault ∧
    ∀ v pos' rs', (Cpp.decTy e t data pos rs).1 = .ok v pos' rs' → pos' ≤ data.length := by
  have h := decTy_good e t data pos rs hpos
  constructor
  · intro hf; rw [hf] at h; exact h
  · intro v pos' rs' hok; rw [hok] at h; exact h.2.1

theorem decTy_pos_mono (e : Endian) (t : Ty) (data : Bytes) (pos : Nat) (rs : List Nat)
    (hpos : pos ≤ data.length) :
    ∀ v pos' rs', (Cpp.decTy e t data pos rs).1 = .ok v pos' rs' → pos ≤ pos' := by
  have h := decTy_good e t data pos rs hpos
  intro v pos' rs' hok; rw [hok] at h; exact h.1

theorem decode_no_fault (t : Ty) (data : Bytes) (e : Endian) : Cpp.decode t data e ≠ .fault := by
  have h := decTy_good e t data 0 [] (Nat.zero_le _)
  unfold decode
  cases hd : (decTy e t data 0 []).1 with
  | ok v pos rs => simp only; split <;> simp
  | fail rs => simp
  | fault => rw [hd] at h; exact h.elim
  | throw rs => simp

theorem GoodB.resizes {α : Type} {S : Nat → Prop} {size pos : Nat} {rs : List Nat} {r : DRes α}
    (h : GoodB S size pos rs r) :
    ∃ new, DRes.resizes rs r = new ++ rs ∧
      ∀ n ∈ new, (∃ el, S el ∧ n * el ≤ size - pos) ∧ (r.isThrow = false → n ≤ resizeLimit) := by
  cases r with
  | ok v pos' rs' =>
    obtain ⟨new, h1, h2⟩ := h.2.2
    exact ⟨new, h1, fun n hn => ⟨(h2 n hn).1, fun _ => (h2 n hn).2 rfl⟩⟩
  | fail rs' =>
    obtain ⟨new, h1, h2⟩ := h
    exact ⟨new, h1, fun n hn => ⟨(h2 n hn).1, fun _ => (h2 n hn).2 rfl⟩⟩
  | fault => exact h.elim
  | throw rs' =>
    obtain ⟨new, h1, h2⟩ := h
    exact ⟨new, h1, fun n hn => ⟨(h2 n hn).1, fun hc => by simp [DRes.isThrow] at hc⟩⟩

theorem decode_resizes (t : Ty) (data : Bytes) (e : Endian) :
    (Cpp.decode t data e).resizes = DRes.resizes [] (decTy e t data 0 []).1 ∧
      (Cpp.decode t data e).isException = (decTy e t data 0 []).1.isThrow := by
  unfold decode
  cases (decTy e t data 0 []).1 with
  | ok v pos rs => simp only; split <;> exact ⟨rfl, rfl⟩
  | fail rs => exact ⟨rfl, rfl⟩
  | fault => exact ⟨rfl, rfl⟩
  | throw rs => exact ⟨rfl, rfl⟩

/-- `el` is the `resizeElem` of a counter or the `codec_traits<T>::size` of a greedy array of fixed-size elements -/
theorem decTy_resizes_all (e : Endian) (t : Ty) (data : Bytes) (pos : Nat) (rs : List Nat) (hpos : pos ≤ data.length) :
    ∃ new, DRes.resizes rs (Cpp.decTy e t data pos rs).1 = new ++ rs ∧
      ∀ n ∈ new, (∃ el, el ∈ resizeElems t ∧ n * el ≤ data.length - pos) ∧
        ((Cpp.decTy e t data pos rs).1.isThrow = false → n ≤ resizeLimit) :=
  (decTy_goodB (· ∈ resizeElems t) e t (fun _ hx => hx) data pos rs hpos).resizes

theorem decode_resizes_all (t : Ty) (data : Bytes) (e : Endian) :
    ∀ n ∈ (Cpp.decode t data e).resizes,
      (∃ el ∈ resizeElems t, n * el ≤ data.length) ∧ ((Cpp.decode t data e).isException = false → n ≤ resizeLimit) := by
  obtain ⟨new, h1, h2⟩ := decTy_resizes_all e t data 0 [] (Nat.zero_le _)
  rw [(decode_resizes t data e).1, (decode_resizes t data e).2, h1, List.append_nil]
  intro n hn
  obtain ⟨⟨el, hs, hb⟩, hl⟩ := h2 n hn
  exact ⟨⟨el, hs, by omega⟩, hl⟩

/-- The exception outcome is also what the model gives a greedy array of dynamic elements that uses up its fuel
    `size + 1` (`decGreedyDyn`); nothing here shows that this cannot happen, so "unless the exception" is to be read
    with it. -/
theorem decode_resizes_bounded (t : Ty) (data : Bytes) (e : Endian) :
    ∀ n ∈ (Cpp.decode t data e).resizes,
      n ≤ data.length ∧ ((Cpp.decode t data e).isException = false → n ≤ resizeLimit) := by
  intro n hn
  obtain ⟨⟨el, hel, hb⟩, hl⟩ := decode_resizes_all t data e n hn
  exact ⟨Nat.le_trans (Nat.le_mul_of_pos_right n (one_le_resizeElems t el hel)) hb, hl⟩

theorem decode_resizes_fit (t : Ty) (data : Bytes) (e : Endian) :
    ∀ n ∈ (Cpp.decode t data e).resizes, ∃ el ∈ resizeElems t, n * el ≤ data.length :=
  fun n hn => (decode_resizes_all t data e n hn).1

/-- with `w = 1` the hypothesis always holds (`one_le_resizeElems`): the first half of `decode_resizes_bounded` -/
theorem decode_resizes_fit_min (w : Nat) (t : Ty) (data : Bytes) (e : Endian)
    (hw : ∀ el ∈ resizeElems t, w ≤ el) :
    ∀ n ∈ (Cpp.decode t data e).resizes, n * w ≤ data.length := by
  intro n hn
  obtain ⟨el, h1, h2⟩ := decode_resizes_fit t data e n hn
  exact Nat.le_trans (Nat.mul_le_mul_left n (hw el h1)) h2


/-- everything `do_decode_resize<E, CT>(x.b, pos, end[, max])` can do, started inside the buffer; `p` is where the C++
    `pos` is left -/
theorem memberStep_sizer_inv (e : Endian) (all : List Member) (n : String) (t : Ty) (msize : Nat)
    (data : Bytes) (pos : Nat) (rs : List Nat) (lens : List (String × Nat))
    (elem : Nat → List Nat → DRes Val × Nat) (hs : isSizer n all = true) (hpos : pos ≤ data.length)
    (r : DRes (Val × List (String × Nat))) (p : Nat)
    (h : memberStep e all n t .plain msize data pos rs lens elem = (r, p)) :
    r = .fail rs ∨
    ∃ cnt, pos ≤ p ∧ p ≤ data.length ∧ cnt * resizeElem n all ≤ data.length - p ∧
      ((resizeLimit < cnt ∧ r = .throw (cnt :: rs)) ∨
       (cnt ≤ resizeLimit ∧ ∃ lens', r = .ok (Val.sizer, lens') p (cnt :: rs))) := by
  rw [memberStep_sizer _ _ _ _ _ _ _ _ _ _ hs, decScalar_eq _ _ _ _ _ _ hpos] at h
  split at h
  · rename_i hfit
    obtain ⟨hp, hr⟩ := resizeStep_inv _ _ _ _ _ _ _ hfit _ _ h
    subst hp
    rcases hr with hr | ⟨hb, hl, hr⟩ | ⟨_, hb, hl, hr⟩
    · exact Or.inl hr
    · exact Or.inr ⟨_, by omega, hfit, hb, Or.inl ⟨hl, hr⟩⟩
    · exact Or.inr ⟨_, by omega, hfit, hb, Or.inr ⟨hl, _, hr⟩⟩
  · injection h with h1 _
    exact Or.inl h1.symm

theorem memberStep_sizer_ok_fits (e : Endian) (all : List Member) (n : String) (t : Ty) (msize : Nat)
    (data : Bytes) (pos : Nat) (rs : List Nat) (lens : List (String × Nat))
    (elem : Nat → List Nat → DRes Val × Nat) (hs : isSizer n all = true) (hpos : pos ≤ data.length)
    (v : Val) (lens' : List (String × Nat)) (pos1 : Nat) (rs1 : List Nat) (p : Nat)
    (h : memberStep e all n t .plain msize data pos rs lens elem = (.ok (v, lens') pos1 rs1, p)) :
    ∃ cnt, rs1 = cnt :: rs ∧ pos ≤ pos1 ∧ pos1 ≤ data.length ∧
      cnt * resizeElem n all ≤ data.length - pos1 ∧ cnt ≤ resizeLimit := by
  rcases memberStep_sizer_inv e all n t msize data pos rs lens elem hs hpos _ _ h with hr | ⟨cnt, h1, h2, h3, hr⟩
  · cases hr
  · rcases hr with ⟨_, hr⟩ | ⟨hl, lens'', hr⟩
    · cases hr
    · injection hr with _ hq hrs
      subst hq
      exact ⟨cnt, hrs, h1, h2, h3, hl⟩

theorem memberStep_sizer_throw_fits (e : Endian) (all : List Member) (n : String) (t : Ty) (msize : Nat)
    (data : Bytes) (pos : Nat) (rs : List Nat) (lens : List (String × Nat))
    (elem : Nat → List Nat → DRes Val × Nat) (hs : isSizer n all = true) (hpos : pos ≤ data.length)
    (rs1 : List Nat) (p : Nat)
    (h : memberStep e all n t .plain msize data pos rs lens elem = (.throw rs1, p)) :
    ∃ cnt, rs1 = cnt :: rs ∧ pos ≤ p ∧ p ≤ data.length ∧ cnt * resizeElem n all ≤ data.length - p := by
  rcases memberStep_sizer_inv e all n t msize data pos rs lens elem hs hpos _ _ h with hr | ⟨cnt, h1, h2, h3, hr⟩
  · cases hr
  · rcases hr with ⟨_, hr⟩ | ⟨hl, lens'', hr⟩
    · injection hr with hrs
      exact ⟨cnt, hrs, h1, h2, h3⟩
    · cases hr

theorem memberStep_sizer_fail_log (e : Endian) (all : List Member) (n : String) (t : Ty) (msize : Nat)
    (data : Bytes) (pos : Nat) (rs : List Nat) (lens : List (String × Nat))
    (elem : Nat → List Nat → DRes Val × Nat) (hs : isSizer n all = true) (hpos : pos ≤ data.length)
    (rs1 : List Nat) (p : Nat)
    (h : memberStep e all n t .plain msize data pos rs lens elem = (.fail rs1, p)) : rs1 = rs := by
  rcases memberStep_sizer_inv e all n t msize data pos rs lens elem hs hpos _ _ h with hr | ⟨cnt, h1, h2, h3, hr⟩
  · injection hr with hr
  · rcases hr with ⟨_, hr⟩ | ⟨hl, lens'', hr⟩ <;> cases hr

theorem decMs_sizer_ok_fits (e : Endian) (all : List Member) (n : String) (t : Ty) (r : List Member)
    (msize a : Nat) (padding : Int) (ls : List (Nat × Nat × Int)) (data : Bytes) (pos : Nat)
    (rs : List Nat) (lens : List (String × Nat)) (hs : isSizer n all = true) (hpos : pos ≤ data.length)
    (vs : List Val) (pos' : Nat) (rs' : List Nat) (p : Nat)
    (h : decMs e all (.mk n t .plain :: r) ((msize, a, padding) :: ls) data pos rs lens = (.ok vs pos' rs', p)) :
    ∃ cnt pos1 later, rs' = later ++ cnt :: rs ∧ pos ≤ pos1 ∧ pos1 ≤ pos' ∧ pos' ≤ data.length ∧
      cnt * resizeElem n all ≤ data.length - pos1 ∧ cnt ≤ resizeLimit := by
  rw [decMs_cons] at h
  obtain ⟨vl, pos1, rs1, hm, h⟩ := andThen_eq_ok h
  obtain ⟨cnt, hrs1, h1, h2, h3, h4⟩ :=
    memberStep_sizer_ok_fits e all n t msize data pos rs lens _ hs hpos vl.1 vl.2 pos1 rs1 _ (Prod.ext hm rfl)
  obtain ⟨u, pos2, rs2, hp, h⟩ := andThen_eq_ok h
  obtain ⟨vs3, hd3, _⟩ := retag_eq_ok h
  have hg2 := padStep_goodB (fun _ => True) padding data.length pos1 rs1 h2
  rw [hp] at hg2
  obtain ⟨ha2, hb2, new2, e2, _⟩ := hg2
  have hg3 := decMs_good e all r ls data pos2 rs2 vl.2 hb2
  rw [hd3] at hg3
  obtain ⟨ha3, hb3, new3, e3, _⟩ := hg3
  exact ⟨cnt, pos1, new3 ++ new2, by simp [e3, e2, hrs1], h1, by omega, hb3, h3, h4⟩

end Prophy.Cpp

#print axioms Prophy.Cpp.decTy_safe
#print axioms Prophy.Cpp.decode_no_fault
#print axioms Prophy.Cpp.decode_resizes_bounded
#print axioms Prophy.Cpp.memberStep_sizer_inv
#print axioms Prophy.Cpp.memberStep_sizer_ok_fits
#print axioms Prophy.Cpp.memberStep_sizer_throw_fits
#print axioms Prophy.Cpp.decMs_sizer_ok_fits
#print axioms Prophy.Cpp.decTy_resizes_all
#print axioms Prophy.Cpp.decode_resizes_fit
#print axioms Prophy.Cpp.decode_resizes_fit_min
