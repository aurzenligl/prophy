/- `get_byte_size()` is the length of the canonical encoding: it is what the pointer encoder writes (CppObjects), and
   that is canonical (CppEncoder).  The statements of C03 (encode half) and C05 follow in CppEncodeBounds. -/
import ProphyModel.Lemmas.CppEncoder
import ProphyModel.Lemmas.CppObjects

namespace Prophy
open WF

namespace Cpp

theorem byteSizeTy_ok (t : Ty) (v : Val) (hT : TyOk t) (hv : hasType t v = true) :
    byteSizeTy t v = (Spec.clen (Spec.chunksTy t v) : Nat) := by
  obtain ⟨ho, hfit⟩ := objOk_of_hasType t v hT.wf hv
  -- in either byte order: lengths do not depend on it
  rw [← (encodePtr_len t v .little hT ho).2 hfit, ← fill_length, encodePtr_canonical t v .little hT hv, Spec.enc,
    Spec.render_length]

theorem belems_ok : (xs : List Val) → ∀ (t : Ty), TyOk t → hasElems t xs = true →
      byteSizeElems t xs = (Spec.clen (Spec.chunksElems t xs) : Nat)
  | [], t, _, _ => by simp [byteSizeElems_nil, Spec.chunksElems, Spec.clen]
  | x :: xs, t, hT, hh => by
    obtain ⟨hc, hx, hr⟩ := (hasElems_cons t x xs).1 hh
    rw [byteSizeElems_cons, byteSizeTy_ok t x hT ((hasType_iff t x).2 ⟨hc, hx⟩), belems_ok xs t hT hr]
    simp [Spec.chunksElems]

/-- what `get_byte_size` counts for a member is its documented length, because the encoder writes both (`len_cases`,
    `enc_cases`) -/
theorem bszInc_eq_clen (all : List Member) (allv : List Val) (n : String) (t : Ty) (k : MKind) (v : Val)
    (hF : FieldOk all t k) (hMO : MemberOk t k) (hsz : ∀ s, k.sizer? = some s → sizerOk all s = true)
    (hh : hasField all k t v = true) (hc : v.isCounter = isSizer n all)
    (hs : isSizer n all = true → ∃ p, t = .prim p) :
    bszInc t k v (decide ((PL.nodeTy t).kind = 0)) (mslot (.mk n t k))
      = (Spec.clen (Spec.fieldChunks all allv n t k v) : Nat) := by
  cases hsn : isSizer n all with
  | true =>
    obtain ⟨p, rfl⟩ := hs hsn
    have hv : v = .sizer := by cases v <;> simp_all [Val.isCounter]
    subst hv
    have hk := (hasField_sizer all k _).1 hh
    subst hk
    simp [bszInc, PL.nodeTy, MKind.isStatic, mslot_plain n (.prim p) rfl, Spec.fieldChunks, Spec.clen, Spec.Chunk.len,
      Spec.sizeTy]
  | false =>
    have hT := hF.ty
    have ho := obj_of_hasField v all k t hT.wf hh
    have FL := ((obj_induct (len_cases .little)).1 v k t ho ho).1 all allv n 0 hT hMO hF.opt hc
      (fun h => by rw [hsn] at h; cases h) (Nat.dvd_zero _)
    have FE := ((wt_induct (enc_cases .little)).1 v all k t hh).1 allv n (mslot (.mk n t k)) 0 hF hc
      (fun h => by rw [hsn] at h; cases h)
      (fun s lim hk => by subst hk; rw [mslot_fixed n t _ (hF.fx rfl)]; rfl) (Nat.dvd_zero _)
    rw [← FL.eq (fitK_of_hasField all k t v hsz hh) (fit_of_hasField v all k t hT.wf hh), ← fill_length, FE,
      Spec.render_length]

theorem bsz_ok : (vs : List Val) → ∀ (ms all : List Member) (allv : List Val) (S : Nat) (ad : Bool) (off0 bs A : Nat),
    IsAl S → (∀ n t k, Member.mk n t k ∈ all → isSizer n all = true → ∃ p, t = .prim p) →
    (∀ m ∈ ms, m ∈ all) → MsOk all ms → hasMs all ms vs = true → LayInv S (Spec.dynMs all) ms ad off0 bs A →
    bsz ms vs (lay S (Spec.dynMs all) ms ad bs) ((alignUp off0 (aN S ad ms) : Nat) : Int)
      = ((off0 + Spec.clen (restChunks S all allv ms vs off0 ad) : Nat) : Int)
  | [], ms, all, allv, S, ad, off0, bs, A, _, _, _, _, hh, _ => by
    rw [(hasMs_nil_right all ms).1 hh, restChunks_nil]
    simp [bsz, aN, alignUp, Spec.clen, Spec.Chunk.len]
  | v :: vs, [], all, _, _, _, _, _, _, _, _, _, _, hh, _ => by cases (hasMs_nil_left all (v :: vs)).1 hh
  | v :: vs, .mk n t k :: r, all, allv, S, ad, off0, bs, A, hS, hprim, hsub, hM, hh, inv => by
    obtain ⟨hcnt, hf, hhr⟩ := (hasMs_cons all n t k r v vs).1 hh
    obtain ⟨hT, hfx, hso, _, hMr⟩ := hM.cons
    have hMO := MemberOk.of_okMs hM.ok
    have hinc := bszInc_eq_clen all allv n t k v hM.field hMO hso hf hcnt (hprim n t k (hsub _ (List.mem_cons_self ..)))
    generalize hfc : Spec.fieldChunks all allv n t k v = fc at hinc
    have hL : PL.LenOk (.mk n t k) (Spec.clen fc) (mslot (.mk n t k)) := by
      rw [← hfc]; exact PL.lenOk_fieldChunks all allv n t k v hMO hf
    obtain ⟨hpad, A', inv'⟩ := inv.step hS hL
    have hpad := hpad 0 (Nat.dvd_zero _)
    have hzero := inv.padOf_ends hS hL
    generalize ha : aN S ad (.mk n t k :: r) = a at *
    simp only [Nat.zero_add] at hpad
    rw [lay_cons, bsz_cons, hinc, bszStep_eq (alignUp off0 a) (Spec.clen fc) _ _
      (fun h0 hnn => hzero (endsBlock_of_not_static0 n t k hMO h0) hnn), hpad, restChunks_cons, ha, hfc]
    have ih := bsz_ok vs r all allv S (Spec.endsBlock (.mk n t k)) (alignUp off0 a + Spec.clen fc)
      (alignUp (bs + mslot (.mk n t k)) (aN S (Spec.endsBlock (.mk n t k)) r)) A' hS hprim
      (fun m hm => hsub m (List.mem_cons_of_mem _ hm)) hMr hhr inv'
    show bsz r vs _ ((alignUp (alignUp off0 a + Spec.clen fc) (aN S (Spec.endsBlock (.mk n t k)) r) : Nat) : Int) = _
    rw [ih]
    simp only [alignUp, Spec.clen_cons, Spec.clen_append, Spec.Chunk.len]
    omega

theorem bms_ok : (vs : List Val) → ∀ (ms all : List Member) (allv : List Val) (S : Nat) (ad : Bool)
      (off0 bs A : Nat) (acc bytes : Int), IsAl S →
      (∀ n t k, Member.mk n t k ∈ all → isSizer n all = true → ∃ p, t = .prim p) →
      (∀ m ∈ ms, m ∈ all) → MsOk all ms → hasMs all ms vs = true → LayInv S (Spec.dynMs all) ms ad off0 bs A →
      acc + bytes = ((alignUp off0 (aN S ad ms) : Nat) : Int) →
      byteSizeMs all ms vs (PL.memsOf ms) (lay S (Spec.dynMs all) ms ad bs) acc bytes
        = ((off0 + Spec.clen (restChunks S all allv ms vs off0 ad) : Nat) : Int) :=
  fun vs ms all allv S ad off0 bs A acc bytes hS hprim hsub hM hh inv hsum => by
    rw [byteSizeMs_eq_bsz, hsum]
    exact bsz_ok vs ms all allv S ad off0 bs A hS hprim hsub hM hh inv

theorem getByteSize_of_tyOk (t : Ty) (v : Val) (e : Endian) (hT : TyOk t) (hv : hasType t v = true)
    (hlen : (Spec.enc t v e).length < 2 ^ 64) : getByteSize t v = (Spec.enc t v e).length := by
  unfold getByteSize
  rw [byteSizeTy_ok t v hT hv]
  simp only [Spec.enc, Spec.render_length] at hlen ⊢
  omega

theorem encodeVec_length (t : Ty) (v : Val) (e : Endian) (b : Bytes) (h : encodeVec t v e = .ok b) :
    b.length = getByteSize t v := by
  unfold encodeVec at h
  simp only at h
  split at h
  · injection h with h; subst h
    simp [zeros]; omega
  · split at h
    · injection h with h; subst h
      simp; omega
    · cases h

end Cpp
end Prophy
