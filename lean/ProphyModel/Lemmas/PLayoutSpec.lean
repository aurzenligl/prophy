/- prophyc's computed layout (`PL.nodeTy`) is the documented layout (`Spec.alignTy`, `Spec.sizeTy`,
   `Spec.dynTy`/`Spec.unlTy`): property C04 -/
import ProphyModel.PLayout
import ProphyModel.Accept
import ProphyModel.Lemmas.Layout
import ProphyModel.Lemmas.TypingLemmas
import ProphyModel.Lemmas.Ok
import ProphyModel.Lemmas.ListLemmas
namespace Prophy

namespace PL

theorem memOf_align (nd : Node) (k : MKind) :
    (memOf nd k).align = match k with
      | .optional => max discSize nd.align
      | _ => nd.align := by
  cases k <;> rfl

theorem partMax_le_maxAlign : (l : List Mem) → partMax l ≤ maxAlign l
  | [] => Nat.le_refl _
  | m :: r => by
    have := partMax_le_maxAlign r
    simp only [partMax, maxAlign]
    split <;> omega

theorem maxAlign_bump : (l : List Mem) → (b : Bool) → maxAlign (bump l b) = maxAlign l
  | [], _ => rfl
  | m :: r, b => by
    have ih := maxAlign_bump r (endsPart m)
    have hp := partMax_le_maxAlign (m :: r)
    simp only [bump, maxAlign, ih] at hp ⊢
    cases b <;> simp <;> omega

theorem structSize_align (l : List Mem) : (structSize l).2.1 = if l.isEmpty then 1 else maxAlign l := by
  cases l <;> rfl

mutual
  theorem nodeTy_align' : (t : Ty) → (nodeTy t).align = Spec.alignTy t
    | .prim p => rfl
    | .byte => rfl
    | .enum _ _ => rfl
    | .struct _ ms => by
      have h := memsOf_align ms
      simp only [nodeTy, Spec.alignTy]
      show (structSize (bump (memsOf ms) false)).2.1 = Spec.alignMs ms
      rw [structSize_align, maxAlign_bump]
      cases ms with
      | nil => rfl
      | cons m r =>
        obtain ⟨n, t, k⟩ := m
        rw [← h (by simp)]
        simp [memsOf, bump]
    | .union _ arms => by
      have h := armsOf_align arms
      simp only [nodeTy, unionNode, Spec.alignTy, discSize, Spec.flagSize]
      cases arms with
      | nil => rfl
      | cons a r =>
        obtain ⟨n, d, t⟩ := a
        rw [← h (by simp)]
        simp [armsOf]
  theorem memsOf_align : (ms : List Member) → ms ≠ [] → maxAlign (memsOf ms) = Spec.alignMs ms
    | [], h => absurd rfl h
    | .mk _ t k :: r, _ => by
      have ht := nodeTy_align' t
      simp only [memsOf, maxAlign, Spec.alignMs, memOf_align, ht]
      have hp := Spec.alignTy_pos t
      cases r with
      | nil =>
        simp only [memsOf, maxAlign, Spec.alignMs]
        cases k <;> simp only [discSize, Spec.flagSize] <;> omega
      | cons m r' =>
        rw [memsOf_align (m :: r') (by simp)]
        cases k <;> simp only [discSize, Spec.flagSize]
  theorem armsOf_align : (arms : List Arm) → arms ≠ [] → maxNodeAlign (armsOf arms) = Spec.alignArms arms
    | [], h => absurd rfl h
    | .mk _ _ t :: r, _ => by
      have ht := nodeTy_align' t
      simp only [armsOf, maxNodeAlign, Spec.alignArms, ht]
      have hp := Spec.alignTy_pos t
      cases r with
      | nil => simp only [armsOf, maxNodeAlign, Spec.alignArms]; omega
      | cons m r' => rw [armsOf_align (m :: r') (by simp)]
end

/-- the documented stiffness as a `Kind` (0 fixed, 1 dynamic, 2 unlimited): of a type, a member list, a member -/
def specKind (t : Ty) : Kind := if Spec.unlTy t then 2 else if Spec.dynTy t then 1 else 0
def specKindMs (ms : List Member) : Kind := if Spec.unlMs ms then 2 else if Spec.dynMs ms then 1 else 0
def specKindMem (t : Ty) : MKind → Kind
  | .plain => specKind t
  | .dyn _ _ => 1
  | .greedy => 2
  | _ => 0

/-- calc_wire_stiffness by recursion on the member list (`kindRec`) and its ingredients: the last member is greedy,
    the greatest kind of a member type, some member is a dynamic array -/
def lastGreedy : List Mem → Bool
  | [] => false
  | [m] => m.greedy
  | _ :: r => lastGreedy r
def maxKind : List Mem → Nat
  | [] => 0
  | m :: r => max m.kind (maxKind r)
def kindRec (l : List Mem) : Kind :=
  if lastGreedy l then 2 else max (maxKind l) (if l.any (·.isDynamic) then 1 else 0)

theorem foldl_maxKind (l : List Mem) (a : Nat) :
    l.foldl (fun k m => max k m.kind) a = max a (maxKind l) := by
  induction l generalizing a with
  | nil => simp [maxKind]
  | cons m r ih => simp only [List.foldl, ih, maxKind]; omega

theorem getLast?_greedy : (l : List Mem) →
    (match l.getLast? with | none => false | some m => m.greedy) = lastGreedy l
  | [] => rfl
  | [m] => rfl
  | m :: m' :: r => by
    have := getLast?_greedy (m' :: r)
    rw [List.getLast?_cons_cons]; simpa [lastGreedy] using this

theorem structKind_eq (l : List Mem) : structKind l = kindRec l := by
  have h := getLast?_greedy l
  unfold structKind kindRec
  cases hl : l.getLast? with
  | none =>
    have : l = [] := by simpa using hl
    subst this; rfl
  | some m =>
    rw [hl] at h
    simp only at h ⊢
    rw [← h, foldl_maxKind]
    split
    · rfl
    · split <;> simp

theorem kindRec_single (m : Mem) :
    kindRec [m] = if m.greedy then 2 else max m.kind (if m.isDynamic then 1 else 0) := by
  simp [kindRec, lastGreedy, maxKind]

theorem kindRec_cons (m : Mem) (r : List Mem) (hr : r ≠ []) (hk : m.kind ≤ 2) :
    kindRec (m :: r) = max (max m.kind (if m.isDynamic then 1 else 0)) (kindRec r) := by
  cases r with
  | nil => exact absurd rfl hr
  | cons m' r' =>
    simp only [kindRec, lastGreedy, maxKind, List.any_cons]
    grind

theorem specKindMs_nil : specKindMs [] = 0 := rfl

theorem specKindMs_cons (n : String) (t : Ty) (k : MKind) (r : List Member) :
    specKindMs (.mk n t k :: r) = max (specKindMem t k) (specKindMs r) := by
  simp only [specKindMs, Spec.unlMs, Spec.dynMs, specKindMem, specKind]
  cases k <;> grind

theorem memsOf_ne_nil (ms : List Member) (h : ms ≠ []) : memsOf ms ≠ [] := by
  cases ms with
  | nil => exact absurd rfl h
  | cons m r => obtain ⟨n, t, k⟩ := m; simp [memsOf]

open Accept

theorem specKind_le (t : Ty) : specKind t ≤ 2 := by unfold specKind; grind

theorem memOf_kind (n : Node) (k : MKind) : (memOf n k).kind = n.kind := by cases k <;> rfl

theorem memOf_greedy (nd : Node) (k : MKind) : (memOf nd k).greedy = isGreedy k := by cases k <;> rfl

/-- what one member adds to calc_wire_stiffness: UNLIMITED if a greedy array, its type's kind if plain, DYNAMIC for a
    bound array, nothing otherwise (optional and sized members are of FIXED type, array elements not UNLIMITED) -/
theorem memOf_kind_step (t : Ty) (k : MKind) (ikt : (nodeTy t).kind = specKind t)
    (ho : isOptional k = true → (nodeTy t).kind = 0) (hs : (sizeOf? k).isSome = true → (nodeTy t).kind = 0)
    (ha : isArrayKind k = true → (nodeTy t).kind ≠ 2) :
    (if (memOf (nodeTy t) k).greedy then 2
      else max (memOf (nodeTy t) k).kind (if (memOf (nodeTy t) k).isDynamic then 1 else 0)) = specKindMem t k := by
  have hle : (nodeTy t).kind ≤ 2 := by rw [ikt]; exact specKind_le t
  have h1 : ∀ x : Nat, x ≤ 2 → x ≠ 2 → max x 1 = 1 := by intro x; omega
  cases k with
  | plain => show max (nodeTy t).kind 0 = specKind t; rw [ikt]; exact Nat.max_zero _
  | optional => show max (nodeTy t).kind 0 = 0; rw [ho rfl]; rfl
  | fixed c => show max (nodeTy t).kind 0 = 0; rw [hs rfl]; rfl
  | limited s c => show max (nodeTy t).kind 0 = 0; rw [hs rfl]; rfl
  | dyn s sh => exact h1 _ hle (ha rfl)
  | greedy => rfl

mutual
  theorem nodeTy_kind_ok : (t : Ty) → Cpp.okTy t = true → (nodeTy t).kind = specKind t
    | .prim _, _ => rfl
    | .byte, _ => rfl
    | .enum _ _, _ => rfl
    | .union _ _, _ => rfl
    | .struct _ ms, h => by
      have := memsOf_kind_ok ms h
      simp only [nodeTy]
      show structKind (memsOf ms) = _
      rw [structKind_eq, this]; rfl
  theorem memsOf_kind_ok : (ms : List Member) → Cpp.okMs ms = true → kindRec (memsOf ms) = specKindMs ms
    | [], _ => rfl
    | .mk n t k :: r, h => by
      obtain ⟨ht, ho, hs, ha, hl, hr⟩ := (Cpp.okMs_cons n t k r).1 h
      have ikt := nodeTy_kind_ok t ht
      rw [specKindMs_cons]
      have hstep := memOf_kind_step t k ikt ho hs ha
      by_cases hre : r = []
      · subst hre
        simp only [memsOf, kindRec_single, specKindMs_nil, Nat.max_zero]
        exact hstep
      · obtain ⟨hg, _⟩ := hl.resolve_left hre
        rw [memOf_greedy, hg] at hstep
        have hle : (memOf (nodeTy t) k).kind ≤ 2 := by rw [memOf_kind, ikt]; exact specKind_le t
        simp only [memsOf]
        rw [kindRec_cons _ _ (memsOf_ne_nil r hre) hle, memsOf_kind_ok r hr]
        exact congrArg (max · _) hstep
end

theorem kind_of_fixed_ok : (t : Ty) → Spec.fixedTy t = true → Cpp.okTy t = true → (nodeTy t).kind = 0 := fun t hf ho => by
  rw [nodeTy_kind_ok t ho, specKind, Spec.unlTy_of_fixed t hf, Spec.dynTy_of_fixed t hf]; rfl

mutual
  /-- a fixed type obeys the composability rules (and prophyc calls it FIXED, `kind_of_fixed`): everything proved
      under `Cpp.okTy` holds for fixed types -/
  theorem ok_of_fixed : (t : Ty) → Spec.fixedTy t = true → Cpp.okTy t = true
    | .prim _, _ => rfl
    | .byte, _ => rfl
    | .enum _ _, _ => rfl
    | .struct _ ms, h => okMs_of_fixed ms (by simpa [Spec.fixedTy] using h)
    | .union _ arms, h => okArms_of_fixed arms (by simpa [Spec.fixedTy] using h)
  theorem okMs_of_fixed : (ms : List Member) → Spec.fixedMs ms = true → Cpp.okMs ms = true
    | [], _ => rfl
    | .mk n t k :: r, h => by
      obtain ⟨hk, ht, hr⟩ := (Spec.fixedMs_cons n t k r).1 h
      have ho := ok_of_fixed t ht
      have h0 := kind_of_fixed_ok t ht ho
      have h2 : (nodeTy t).kind ≠ 2 := by rw [h0]; decide
      exact (Cpp.okMs_cons n t k r).2 ⟨ho, fun _ => h0, fun _ => h0, fun _ => h2,
        Or.inr ⟨by cases k <;> first | rfl | exact Bool.noConfusion hk, h2⟩, okMs_of_fixed r hr⟩
  theorem okArms_of_fixed : (arms : List Arm) → Spec.fixedArms arms = true → Cpp.okArms arms = true
    | [], _ => rfl
    | .mk n d t :: r, h => by
      obtain ⟨ht, hr⟩ := (Spec.fixedArms_cons n d t r).1 h
      have ho := ok_of_fixed t ht
      exact (Cpp.okArms_cons n d t r).2 ⟨ho, kind_of_fixed_ok t ht ho, okArms_of_fixed r hr⟩
end

theorem kind_of_fixed (t : Ty) (h : Spec.fixedTy t = true) : (nodeTy t).kind = 0 :=
  kind_of_fixed_ok t h (ok_of_fixed t h)

theorem memsOf_kind : (ms all before : List Member) → frontMs all ms before = true →
    kindRec (memsOf ms) = specKindMs ms :=
  fun ms all before h => memsOf_kind_ok ms (Cpp.okMs_of_front all ms before h)

/-- `sizeLoop` without the paddings it records: the static offset after the members, starting at `bs` -/
def layout : List Mem → Nat → Nat
  | [], bs => bs
  | m :: r, bs => layout r (bs + m.size + padTo bs m.align)

theorem sizeLoop_fst : (r : List Mem) → (prev : Mem) → (bs : Nat) → (sizeLoop r prev bs).1 = layout r bs
  | [], _, _ => rfl
  | m :: r, prev, bs => by
    have ih := sizeLoop_fst r m (bs + m.size + padTo bs m.align)
    simp only [sizeLoop, layout]
    rw [← ih]

theorem structSize_size (l : List Mem) :
    (structSize l).1 = alignUp (layout l 0) (if l.isEmpty then 1 else maxAlign l) := by
  cases l with
  | nil => rfl
  | cons m r =>
    have h := sizeLoop_fst r m (m.size + padTo 0 m.align)
    simp only [structSize, layout, alignUp, List.isEmpty_cons, Bool.false_eq_true, if_false, Nat.zero_add]
    rw [← h]

theorem le_partMax (m : Mem) (r : List Mem) : m.align ≤ partMax (m :: r) := by
  simp only [partMax]; split <;> omega

theorem bump_cons (m : Mem) (r : List Mem) (first : Bool) :
    bump (m :: r) first =
      { m with align := if first then partMax (m :: r) else m.align } :: bump r (endsPart m) := by
  have := le_partMax m r
  cases first
  · rfl
  · simp only [bump, if_true]
    rw [Nat.max_eq_right this]

theorem memOf_size (nd : Node) (k : MKind) :
    (memOf nd k).size = match k with
      | .plain => nd.size
      | .optional => max discSize nd.align + nd.size
      | .fixed c => c * nd.size
      | .limited _ c => c * nd.size
      | .dyn _ _ => 0
      | .greedy => 0 := by
  cases k <;> simp [memOf, Nat.mul_comm, Nat.add_comm]

theorem memOf_size_slot (t : Ty) (k : MKind) (hs : (nodeTy t).size = Spec.sizeTy t) :
    (memOf (nodeTy t) k).size = Spec.slot t k := by
  rw [memOf_size, hs, nodeTy_align' t]
  cases k <;> simp [Spec.slot, discSize, Spec.flagSize]

theorem memOf_align_member (n : String) (t : Ty) (k : MKind) :
    (memOf (nodeTy t) k).align = Spec.alignMember (.mk n t k) := by
  rw [memOf_align, nodeTy_align']
  unfold Spec.alignMember
  cases k <;> simp [Member.kind, Member.ty, discSize, Spec.flagSize]

theorem kind_ne_zero_ok (t : Ty) (ht : Cpp.okTy t = true) : ((nodeTy t).kind != 0) = Spec.dynTy t := by
  rw [nodeTy_kind_ok t ht]
  unfold specKind
  have := Spec.dynTy_of_unl t
  cases hu : Spec.unlTy t <;> cases hd : Spec.dynTy t <;> simp_all

theorem isMemberDynamic_memOf_endsBlock_ok (n : String) (t : Ty) (k : MKind) (hM : Cpp.MemberOk t k) :
    isMemberDynamic (memOf (nodeTy t) k) = Spec.endsBlock (.mk n t k) := by
  cases k with
  | plain => exact kind_ne_zero_ok t hM.ok
  | optional => show (false || false || (nodeTy t).kind != 0) = false; rw [hM.opt rfl]; rfl
  | fixed c => show (false || false || (nodeTy t).kind != 0) = false; rw [hM.sized rfl]; rfl
  | limited s c => show (false || false || (nodeTy t).kind != 0) = false; rw [hM.sized rfl]; rfl
  | dyn s sh => rfl
  | greedy => rfl

theorem isMemberDynamic_endsPart (nd : Node) (k : MKind) (h : nd.kind = 0 ∨ nd.kind = 1) :
    isMemberDynamic (memOf nd k) = endsPart (memOf nd k) := by
  obtain ⟨sz, al, kd⟩ := nd
  rcases h with h | h <;> (simp only at h; subst h; cases k <;> rfl)

/-- `split_after` of evaluate_partial_padding_size is the documented block end, for every member
    whose type is not unlimited (an unlimited member is the last one: nothing follows it) -/
theorem endsPart_memOf_ok (n : String) (t : Ty) (k : MKind) (hM : Cpp.MemberOk t k)
    (hk2 : (nodeTy t).kind ≠ 2) :
    endsPart (memOf (nodeTy t) k) = Spec.endsBlock (.mk n t k) := by
  have hle : (nodeTy t).kind ≤ 2 := by rw [nodeTy_kind_ok t hM.ok]; exact specKind_le t
  have h01 : ∀ x : Nat, x ≤ 2 → x ≠ 2 → x = 0 ∨ x = 1 := by intro x; omega
  rw [← isMemberDynamic_endsPart _ k (h01 _ hle hk2)]
  exact isMemberDynamic_memOf_endsBlock_ok n t k hM

theorem partMax_memsOf_ok : (ms : List Member) → Cpp.okMs ms = true → ms ≠ [] →
    partMax (memsOf ms) = Spec.blockAlign ms
  | [], _, hne => absurd rfl hne
  | .mk n t k :: r, h, _ => by
    obtain ⟨_, _, _, _, hl, hr⟩ := (Cpp.okMs_cons n t k r).1 h
    have hal := memOf_align_member n t k
    have hp := Spec.alignMember_pos (.mk n t k)
    simp only [memsOf, partMax, Spec.blockAlign, hal]
    by_cases hre : r = []
    · subst hre
      simp only [memsOf, partMax, Spec.blockAlign]
      split <;> split <;> omega
    · obtain ⟨_, hk2⟩ := hl.resolve_left hre
      rw [endsPart_memOf_ok n t k (.of_okMs h) hk2, partMax_memsOf_ok r hr hre]

mutual
  theorem nodeTy_size_ok : (t : Ty) → Cpp.okTy t = true → (nodeTy t).size = Spec.sizeTy t
    | .prim _, _ => rfl
    | .byte, _ => rfl
    | .enum _ _, _ => rfl
    | .struct _ ms, h => by
      have ha : (structSize (bump (memsOf ms) false)).2.1 = Spec.alignMs ms := nodeTy_align' (.struct "" ms)
      show (structSize (bump (memsOf ms) false)).1 = alignUp (Spec.endMs ms 0 false) (Spec.alignMs ms)
      rw [structSize_size, memsOf_layout_ok ms h 0 false, ← structSize_align, ha]
    | .union _ arms, h => by
      have hm := armsOf_size_ok arms h
      have ha : max discSize (if (armsOf arms).isEmpty then 1 else maxNodeAlign (armsOf arms))
          = max Spec.flagSize (Spec.alignArms arms) := by
        have := nodeTy_align' (.union "" arms)
        simpa [nodeTy, unionNode, Spec.alignTy] using this
      simp only [nodeTy, unionNode, Spec.sizeTy, ha, hm]
      have hal : IsAl (max Spec.flagSize (Spec.alignArms arms)) :=
        IsAl.max IsAl.four (Spec.alignArms_isAl arms)
      rw [div_mul_eq_alignUp _ _ hal.pos, Nat.add_comm]
  theorem memsOf_layout_ok : (ms : List Member) → Cpp.okMs ms = true →
      ∀ (off : Nat) (first : Bool), layout (bump (memsOf ms) first) off = Spec.endMs ms off first
    | [], _, _, _ => rfl
    | .mk n t k :: r, h, off, first => by
      obtain ⟨ht, _, _, _, hl, hr⟩ := (Cpp.okMs_cons n t k r).1 h
      have hal := memOf_align_member n t k
      have hpm := partMax_memsOf_ok (.mk n t k :: r) h (by simp)
      have hsz := memOf_size_slot t k (nodeTy_size_ok t ht)
      rw [Spec.endMs_cons]
      simp only [memsOf] at hpm ⊢
      rw [bump_cons]
      simp only [layout, hsz, hal, hpm]
      have harg : off + Spec.slot t k + padTo off (if first = true then Spec.blockAlign (.mk n t k :: r)
            else Spec.alignMember (.mk n t k)) =
          alignUp off (if first = true then Spec.blockAlign (.mk n t k :: r)
            else Spec.alignMember (.mk n t k)) + Spec.slot t k := by
        unfold alignUp; omega
      rw [harg]
      by_cases hre : r = []
      · subst hre; rfl
      · obtain ⟨_, hk2⟩ := hl.resolve_left hre
        rw [endsPart_memOf_ok n t k (.of_okMs h) hk2]
        exact memsOf_layout_ok r hr _ _
  theorem armsOf_size_ok : (arms : List Arm) → Cpp.okArms arms = true → maxSize (armsOf arms) = Spec.maxArm arms
    | [], _ => rfl
    | .mk n d t :: r, h => by
      obtain ⟨ht, _, hr⟩ := (Cpp.okArms_cons n d t r).1 h
      simp only [armsOf, maxSize, Spec.maxArm]
      rw [nodeTy_size_ok t ht, armsOf_size_ok r hr]
end

theorem memsOf_layout : (ms all before : List Member) → frontMs all ms before = true →
    ∀ (off : Nat) (first : Bool), layout (bump (memsOf ms) first) off = Spec.endMs ms off first :=
  fun ms all before h => memsOf_layout_ok ms (Cpp.okMs_of_front all ms before h)

theorem armsOf_size : (arms : List Arm) → frontArms arms = true → maxSize (armsOf arms) = Spec.maxArm arms :=
  fun arms h => armsOf_size_ok arms (Cpp.okArms_of_front arms h)

theorem memOf_slot_ok (t : Ty) (k : MKind) (ht : Cpp.okTy t = true) : (memOf (nodeTy t) k).size = Spec.slot t k :=
  memOf_size_slot t k (nodeTy_size_ok t ht)

/-- the hypothesis is not used: `PL.nodeTy_align'` -/
theorem nodeTy_align (t : Ty) (_hf : Accept.front t = true) : (PL.nodeTy t).align = Spec.alignTy t :=
  PL.nodeTy_align' t

theorem nodeTy_kind (t : Ty) (hf : Accept.front t = true) :
    (PL.nodeTy t).kind = (if Spec.unlTy t then 2 else if Spec.dynTy t then 1 else 0) :=
  PL.nodeTy_kind_ok t (Cpp.ok_of_front t hf)

/-- for a dynamic node: the size with every dynamic and greedy array empty -/
theorem nodeTy_size (t : Ty) (hf : Accept.front t = true) : (PL.nodeTy t).size = Spec.sizeTy t :=
  PL.nodeTy_size_ok t (Cpp.ok_of_front t hf)

theorem dyn_of_kind_ok (t : Ty) (ht : Cpp.okTy t = true) (hk : (nodeTy t).kind = 0) : Spec.dynTy t = false := by
  rw [← kind_ne_zero_ok t ht, hk]; rfl

/-- a member that does not end its block is of static kind and its type has no dynamic part -/
theorem notEnds_static (n : String) (t : Ty) (k : MKind) (hM : Cpp.MemberOk t k)
    (he : Spec.endsBlock (.mk n t k) = false) : k.isStatic = true ∧ Spec.dynTy t = false := by
  cases k with
  | plain => exact ⟨rfl, he⟩
  | optional => exact ⟨rfl, dyn_of_kind_ok t hM.ok (hM.opt rfl)⟩
  | fixed c => exact ⟨rfl, dyn_of_kind_ok t hM.ok (hM.sized rfl)⟩
  | limited s c => exact ⟨rfl, dyn_of_kind_ok t hM.ok (hM.sized rfl)⟩
  | dyn s sh => exact Bool.noConfusion he
  | greedy => exact Bool.noConfusion he

mutual
  theorem fixed_of_ok : (t : Ty) → Cpp.okTy t = true → Spec.dynTy t = false → Spec.fixedTy t = true
    | .prim _, _, _ => rfl
    | .byte, _, _ => rfl
    | .enum _ _, _, _ => rfl
    | .struct _ ms, h, hd => by
      simp only [Spec.fixedTy]
      exact fixedMs_of_ok ms h (by simpa [Spec.dynTy] using hd)
    | .union _ arms, h, _ => by
      simp only [Spec.fixedTy]
      exact fixedArms_of_ok arms h
  theorem fixedMs_of_ok : (ms : List Member) → Cpp.okMs ms = true → Spec.dynMs ms = false → Spec.fixedMs ms = true
    | [], _, _ => rfl
    | .mk n t k :: r, h, hd => by
      obtain ⟨ht, _, _, _, _, hr⟩ := (Cpp.okMs_cons n t k r).1 h
      rw [Spec.dynMs_cons, Bool.or_eq_false_iff] at hd
      obtain ⟨hst, hdt⟩ := notEnds_static n t k (.of_okMs h) hd.1
      exact (Spec.fixedMs_cons n t k r).2 ⟨hst, fixed_of_ok t ht hdt, fixedMs_of_ok r hr hd.2⟩
  theorem fixedArms_of_ok : (arms : List Arm) → Cpp.okArms arms = true → Spec.fixedArms arms = true
    | [], _ => rfl
    | .mk n d t :: r, h => by
      obtain ⟨ht, hk, hr⟩ := (Cpp.okArms_cons n d t r).1 h
      simp only [Spec.fixedArms, Bool.and_eq_true]
      exact ⟨fixed_of_ok t ht (dyn_of_kind_ok t ht hk), fixedArms_of_ok r hr⟩
end

theorem fixedMs_of_front : (ms all before : List Member) → frontMs all ms before = true →
    Spec.dynMs ms = false → Spec.fixedMs ms = true :=
  fun ms all before h => fixedMs_of_ok ms (Cpp.okMs_of_front all ms before h)

theorem fixed_of_kind_ok (t : Ty) (ht : Cpp.okTy t = true) (hk : (nodeTy t).kind = 0) : Spec.fixedTy t = true :=
  fixed_of_ok t ht (dyn_of_kind_ok t ht hk)

theorem static_fixed_of_not_endsBlock (n : String) (t : Ty) (k : MKind) (hM : Cpp.MemberOk t k)
    (he : Spec.endsBlock (.mk n t k) = false) : k.isStatic = true ∧ Spec.fixedTy t = true :=
  have h := notEnds_static n t k hM he
  ⟨h.1, fixed_of_ok t hM.ok h.2⟩

theorem unl_of_kind (t : Ty) (ht : Accept.front t = true) (hk : (PL.nodeTy t).kind ≠ 2) : Spec.unlTy t = false := by
  rw [PL.nodeTy_kind_ok t (Cpp.ok_of_front t ht)] at hk
  unfold PL.specKind at hk
  cases h : Spec.unlTy t with
  | false => rfl
  | true => rw [h] at hk; simp at hk

end PL

/-! ## the acceptance hypothesis is needed for stiffness and size (not for alignment)

  prophyc computes a member's `kind` from its type alone, so an optional of a dynamic struct (which the
  front end rejects) makes the struct DYNAMIC and ends a padding part, while the documented rules
  (`Spec.dynMs`, `Spec.endsBlock`) do not count an optional as dynamic. -/
namespace PLayoutSpecExamples
def D : Ty := .struct "D" [.mk "n" (.prim .u8) .plain, .mk "a" (.prim .u8) (.dyn "n" 0)]
def X1 : Ty := .struct "X" [.mk "o" D .optional]
def X3 : Ty := .struct "X" [.mk "o" D .optional, .mk "x" (.prim .u8) .plain, .mk "y" (.prim .u64) .plain]

example : Accept.front X1 = false ∧ (PL.nodeTy X1).kind = 1 ∧
    (if Spec.unlTy X1 then 2 else if Spec.dynTy X1 then 1 else 0) = 0 := by decide
example : Accept.front X3 = false ∧ (PL.nodeTy X3).size = 24 ∧ Spec.sizeTy X3 = 16 := by decide
end PLayoutSpecExamples

end Prophy

#print axioms Prophy.PL.nodeTy_align
#print axioms Prophy.PL.nodeTy_kind
#print axioms Prophy.PL.nodeTy_size
