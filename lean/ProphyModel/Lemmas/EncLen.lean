/- The length of the canonical encoding of a well-typed value: the documented size when the type is fixed
   (`Spec.clen_fixed`, from `fsz_all`), a multiple of the type's alignment (`Spec.align_dvd_clen`), and not zero for an
   accepted type that does not take the rest of the buffer (`Spec.clen_pos`); the own bytes of an array member are
   its elements and then the unused rest of its slot (`Spec.slack`).  Last, what a round trip takes from acceptance for
   a union and a greedy tail. -/
import ProphyModel.Lemmas.MemberLen
import ProphyModel.Lemmas.Chunks
import ProphyModel.Lemmas.WFLemmas
import ProphyModel.Lemmas.WFAccept
namespace Prophy
open Prophy WF Accept

theorem fixed_ms : (vs : List Val) → ∀ (ms all : List Member) (allv : List Val) (off : Nat),
      Spec.fixedMs ms = true → hasMs all ms vs = true →
      off + Spec.clen (Spec.chunksMs all allv ms vs off false) = Spec.endMs ms off false :=
  fun vs ms all allv off hfx hh => fsz_ms vs ms all allv hfx hh off

theorem Spec.clen_fixed (t : Ty) (v : Val) (hfx : Spec.fixedTy t = true) (hc : v.isCounter = false)
    (hh : hasField [] .plain t v = true) : Spec.clen (Spec.chunksTy t v) = Spec.sizeTy t := by
  have := fsz_field v [] [] "" t .plain hfx rfl hh
  rwa [Spec.fieldChunks_plain [] [] "" t v hc] at this

theorem Spec.align_dvd_clen (t : Ty) (v : Val) (hw : wfTy t = true) (hc : v.isCounter = false)
    (hh : hasField [] .plain t v = true) : Spec.alignTy t ∣ Spec.clen (Spec.chunksTy t v) :=
  Spec.align_dvd_chunksTy t v (fun nm arms e => by
    subst e; simpa [Spec.fixedTy] using Spec.fixedTy_union_of_wf nm arms hw) hc hh

theorem Spec.clen_pos_cases :
    (∀ v all k t, hasField all k t v = true → ∀ (allv : List Val) (n : String), front t = true → pyRt t = true →
      (Py.stTy t).unl = false → posKind k → (v = .sizer → ∃ p, t = .prim p) →
      0 < Spec.clen (Spec.fieldChunks all allv n t k v)) ∧
    (∀ vs all ms, hasMs all ms vs = true → all = ms → ∀ (allv : List Val), ms ≠ [] →
      WF.uniq (ms.map (·.name)) = true → wfMs ms ms = true → frontMs ms ms [] = true → pyRtMs ms ms [] = true →
      (Py.stMs ms).any (·.unl) = false → 0 < Spec.clen (Spec.chunksMs ms allv ms vs 0 false)) ∧
    (∀ xs t, hasElems t xs = true → front t = true → pyRt t = true → (Py.stTy t).unl = false → xs ≠ [] →
      0 < Spec.clen (Spec.chunksElems t xs)) := by
  refine wt_induct ⟨?sizer, ?prim, ?byte, ?enum, ?struct, ?union, ?absent, ?present, ?bytes, ?arr, ?nil, ?cons, ?enil, ?econs⟩
  case sizer =>
    intro all t allv n _ _ _ _ hs
    obtain ⟨p, rfl⟩ := hs rfl
    have := Prim.size_pos p
    simp [Spec.fieldChunks, Spec.clen, Spec.Chunk.len, Spec.sizeTy]; omega
  case prim =>
    intro all p i _ allv n _ _ _ _ _
    have := Prim.size_pos p
    simp [Spec.fieldChunks, Spec.chunksTy, Spec.clen, Spec.Chunk.len]; omega
  case byte => intro all i _ allv n _ _ _ _ _; simp [Spec.fieldChunks, Spec.chunksTy, Spec.clen, Spec.Chunk.len]
  case enum => intro all nm es i _ allv n _ _ _ _ _; simp [Spec.fieldChunks, Spec.chunksTy, Spec.clen, Spec.Chunk.len]
  case struct =>
    intro all nm ms vs _ ih allv n hf hp hu _ _
    obtain ⟨hne, huq, hw, hfm, hpm⟩ := Accept.struct_facts nm ms hf hp
    have := ih rfl vs hne huq hw hfm hpm hu
    rw [Spec.fieldChunks_plain all allv n _ _ rfl, Spec.chunksTy_struct, Spec.clen_append]
    omega
  case union =>
    intro all nm arms idx an d t x ha _ _ _ allv n _ _ _ _ _
    rw [Spec.fieldChunks_plain all allv n _ _ rfl, Spec.chunksTy_union_some nm arms idx x an d t ha]
    simp [Spec.clen, Spec.Chunk.len, Spec.flagSize]
    omega
  case absent => intro all t allv n _ _ _ _ _; simp [Spec.fieldChunks, Spec.clen, Spec.Chunk.len, Spec.flagSize]; omega
  case present => intro all t x _ _ _ allv n _ _ _ _ _; simp [Spec.fieldChunks, Spec.clen, Spec.Chunk.len, Spec.flagSize]; omega
  case bytes =>
    intro all k b hl allv n _ _ _ hk _
    rcases hk with rfl | rfl | ⟨c, hc, rfl⟩
    · cases hl
    · cases hl
    · have := (lenFits_fixed all c _).1 hl
      simp [Spec.fieldChunks, Spec.clen, Spec.Chunk.len]; omega
  case arr =>
    intro all k t xs _ hl _ ih allv n hf hp hu hk _
    rcases hk with rfl | rfl | ⟨c, hc, rfl⟩
    · cases hl
    · cases hl
    · have hne : xs ≠ [] := by
        intro h; subst h
        have := (lenFits_fixed all c _).1 hl
        simp at this; omega
      simpa [Spec.fieldChunks] using ih hf hp hu hne
  case nil => intro all _ allv hne; exact absurd rfl hne
  case cons =>
    intro all n t k r v vs hcnt hf _ ihf _ hall allv _ huq hw hfm hpm hu
    subst hall
    obtain ⟨hft, _, _, _, _, _, _, _, _⟩ := (Accept.frontMs_cons_iff _ n t k r []).1 hfm
    obtain ⟨hpt, _, _, harr, _, _, _, _⟩ := (Accept.pyRtMs_cons _ n t k r []).1 hpm
    simp only [Py.stMs, List.any_cons, Bool.or_eq_false_iff] at hu
    have hk : posKind k := Accept.posKind_head _ n t k r hfm hpm (by rintro rfl; simp [Py.fieldSt] at hu)
    have hut : (Py.stTy t).unl = false := by
      rcases hk with rfl | rfl | ⟨c, _, rfl⟩
      · exact hu.1
      · exact hu.1
      · exact harr rfl
    have hsz : v = .sizer → ∃ p, t = .prim p := by
      intro hv; subst hv
      obtain ⟨p, hp, _⟩ := WF.sizer_prim _ huq hw n t k (List.mem_cons_self ..) hcnt.symm
      exact ⟨p, hp⟩
    have := ihf allv n hft hpt hut hk hsz
    rw [Spec.chunksMs_cons]
    simp only [Spec.clen_cons, Spec.clen_append]
    omega
  case enil => intro t _ _ _ hne; exact absurd rfl hne
  case econs =>
    intro t x xs hcx _ _ ihx _ hf hp hu _
    have h1 := ihx [] "" hf hp hu (Or.inl rfl) (by intro h; subst h; cases hcx)
    rw [Spec.fieldChunks_plain [] [] "" t x hcx] at h1
    rw [Spec.chunksElems_cons, Spec.clen_append]
    omega

theorem pos_ms : (vs : List Val) → ∀ (ms : List Member) (allv : List Val), ms ≠ [] →
      WF.uniq (ms.map (·.name)) = true → wfMs ms ms = true → frontMs ms ms [] = true → pyRtMs ms ms [] = true →
      hasMs ms ms vs = true → (Py.stMs ms).any (·.unl) = false →
      0 < Spec.clen (Spec.chunksMs ms allv ms vs 0 false) :=
  fun vs ms allv hne huq hw hfm hpm hh hu => Spec.clen_pos_cases.2.1 vs ms ms hh rfl allv hne huq hw hfm hpm hu

theorem pos_elems : (xs : List Val) → ∀ (t : Ty), front t = true → pyRt t = true → (Py.stTy t).unl = false →
      hasElems t xs = true → xs ≠ [] → 0 < Spec.clen (Spec.chunksElems t xs) :=
  fun xs t hf hp hu hh hne => Spec.clen_pos_cases.2.2 xs t hh hf hp hu hne

theorem Spec.clen_pos (t : Ty) (v : Val) (hf : front t = true) (hp : pyRt t = true) (hu : (Py.stTy t).unl = false)
    (hc : v.isCounter = false) (hh : hasField [] .plain t v = true) : 0 < Spec.clen (Spec.chunksTy t v) := by
  have := Spec.clen_pos_cases.1 v [] .plain t hh [] "" hf hp hu (Or.inl rfl) (by intro h; subst h; cases hc)
  rwa [Spec.fieldChunks_plain [] [] "" t v hc] at this


/-- the unused rest of the slot of a limited array whose elements take `L` bytes -/
def Spec.slack (t : Ty) (k : MKind) (L : Nat) : Nat :=
  match k with
  | .limited _ c => c * Spec.sizeTy t - L
  | _ => 0

theorem Spec.render_fieldChunks_bytes (e : Endian) (all : List Member) (allv : List Val) (n : String) (k : MKind)
    (b : Bytes) (hka : isArrayKind k = true) :
    Spec.render e (Spec.fieldChunks all allv n .byte k (.bytes b)) = b ++ zeros (Spec.slack .byte k b.length) := by
  cases k with
  | plain => cases hka
  | optional => cases hka
  | _ => simp [Spec.fieldChunks, Spec.render, Spec.Chunk.render, Spec.slack, Spec.sizeTy, zeros]

theorem Spec.render_fieldChunks_arr (e : Endian) (all : List Member) (allv : List Val) (n : String) (t : Ty) (k : MKind)
    (xs : List Val) (hka : isArrayKind k = true) :
    Spec.render e (Spec.fieldChunks all allv n t k (.arr xs)) =
      Spec.render e (Spec.chunksElems t xs) ++ zeros (Spec.slack t k (Spec.clen (Spec.chunksElems t xs))) := by
  cases k with
  | plain => cases hka
  | optional => cases hka
  | _ => simp [Spec.fieldChunks, Spec.render, Spec.Chunk.render, Spec.slack, zeros]

/-- a value of an accepted union on its canonical bytes: discriminator, padding to the union's alignment, the arm,
    the unused rest of the union's size; what acceptance says of the arm (`4` is `Spec.flagSize`) -/
theorem Accept.union_canon (e : Endian) (nm : String) (arms : List Arm) (idx : Nat) (an : String) (d : Nat) (t : Ty)
    (x : Val) (hft : front (.union nm arms) = true) (hpt : pyRt (.union nm arms) = true)
    (ha : arms[idx]? = some (.mk an d t)) (hcx : x.isCounter = false) (hx : hasField [] .plain t x = true) :
    front t = true ∧ pyRt t = true ∧ (Py.stTy t).unl = false ∧ d < 2 ^ 32 ∧
    (∀ (j : Nat) (b : Arm), j < idx → arms[j]? = some b → b.disc ≠ d) ∧
    Spec.alignTy t ∣ max 4 (Spec.alignArms arms) ∧
    Spec.clen (Spec.chunksTy (.union nm arms) (.union idx x)) = Spec.sizeTy (.union nm arms) ∧
    ∃ pad, Spec.render e (Spec.chunksTy (.union nm arms) (.union idx x)) =
      scalarBytes e 4 d ++ (zeros (max 4 (Spec.alignArms arms) - 4) ++ (Spec.render e (Spec.chunksTy t x) ++ zeros pad)) := by
  have hfxU := Spec.fixedTy_union_of_wf nm arms (Accept.wf_of_accept _ hft hpt)
  rw [Accept.front_union] at hft
  simp only [Bool.and_eq_true] at hft
  rw [Accept.pyRt_union, Bool.and_eq_true] at hpt
  obtain ⟨hpt', hnd⟩ : pyRt t = true ∧ (Py.stTy t).dyn = false := Accept.pyRtArms_get arms hpt.2 idx _ ha
  refine ⟨Accept.frontArms_get arms hft.2 idx _ ha, hpt', Py.stTy_not_unl_of_not_dyn t hnd,
    of_decide_eq_true (List.all_eq_true.1 hft.1.2 (.mk an d t) (List.mem_of_getElem? ha)),
    Accept.uniq_disc arms hft.1.1.2 idx _ ha, Spec.alignArm_dvd arms idx _ ha,
    Spec.clen_fixed _ _ hfxU rfl ((hasField_union_iff [] .plain nm arms idx x an d t ha).2 ⟨rfl, hcx, hx⟩),
    Spec.sizeTy (.union "" arms) - max 4 (Spec.alignArms arms) - Spec.clen (Spec.chunksTy t x), ?_⟩
  rw [Spec.chunksTy_union_some nm arms idx x an d t ha]
  simp only [Spec.render, Spec.Chunk.render, Spec.render_append, Spec.flagSize, List.append_nil,
    List.cons_append, List.nil_append]

/-- the greedy tail of a value of an unlimited struct ends on the struct's alignment, and is that of its last member -/
theorem Accept.gal_of_unl_struct (nm : String) (ms : List Member) (vs : List Val) (hpt : pyRt (.struct nm ms) = true)
    (hu : (Py.stMs ms).any (·.unl) = true) (hg : Spec.galTy (.struct nm ms) (.struct vs) = true) :
    padTo (Spec.clen (Spec.chunksMs ms vs ms vs 0 false)) (Spec.alignMs ms) = 0 ∧ Spec.galMs ms vs = true := by
  rw [Spec.galTy_struct, show Spec.unlMs ms = true from Accept.unl_spec (.struct nm ms) hpt hu] at hg
  simpa using hg

end Prophy
