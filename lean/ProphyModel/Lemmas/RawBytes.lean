/- `Raw.reverseAt` on a buffer given in pieces: the scalar kernel of C09; the length of a flag with the gap behind it -/
import ProphyModel.Raw
namespace Prophy

theorem length_flag_gap (e : Endian) (pre : Bytes) (d M pos : Nat) (hpre : pre.length = pos) (hM : 4 ≤ M) :
    (pre ++ (scalarBytes e 4 d ++ zeros (M - 4))).length = pos + M := by
  simp only [List.length_append, scalarBytes_length, zeros_length, hpre]; omega

namespace Raw

theorem reverseAt_append (pre mid post : Bytes) (pos : Nat) (h : pre.length = pos) :
    reverseAt (pre ++ (mid ++ post)) pos mid.length = some (pre ++ (mid.reverse ++ post)) := by
  subst h
  unfold reverseAt
  rw [if_pos (by simp), List.take_left' rfl, List.drop_left' rfl, List.take_left' rfl, ← List.append_assoc pre mid post,
    List.drop_left' (by simp), List.append_assoc]

theorem reverseAt_scalar (k n : Nat) (pre post : Bytes) (pos : Nat) (h : pre.length = pos) :
    reverseAt (pre ++ (scalarBytes .big k n ++ post)) pos k = some (pre ++ (scalarBytes .little k n ++ post)) := by
  have := reverseAt_append pre (scalarBytes .big k n) post pos h
  rw [scalarBytes_length, show (scalarBytes .big k n).reverse = scalarBytes .little k n by simp [scalarBytes]] at this
  exact this

end Raw
end Prophy
