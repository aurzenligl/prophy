/- Python decode inverts encode and consumes exactly the message (property C02) -/
import ProphyModel.Lemmas.PyRoundTripBase
namespace Prophy
open Prophy WF Accept

/-- `SizerDec.dec` for one member: what its decode needs to know when it is a counter -/
abbrev SizerAt (all : List Member) (allv : List Val) (n : String) (t : Ty) : Prop :=
  isSizer n all = true → ∃ p, t = .prim p ∧
    inRange p ((Spec.counter n all allv + sizerShift n all : Nat) : Int) = true ∧
    Spec.counter n all allv ≤ guardLimit

theorem Spec.fixedTy_of_not_composite {t : Ty} (h : t.isComposite = false) : Spec.fixedTy t = true := by
  cases t <;> simp_all [Ty.isComposite, Spec.fixedTy]

theorem greedy_cnt (dl pos esz len : Nat) (hdl : dl = pos + len * esz) (hesz : 0 < esz) :
    (if ((dl : Int) - (pos : Int)) ≤ 0 then 0
     else ((dl : Int) - (pos : Int)).toNat / esz + (if ((dl : Int) - (pos : Int)).toNat % esz = 0 then 0 else 1)) = len := by
  have h : ((dl : Int) - (pos : Int)).toNat = len * esz := by omega
  rw [h, Nat.mul_mod_left, Nat.mul_div_cancel _ hesz]
  by_cases hl : len = 0
  · subst hl; simp [hdl]
  · have : 0 < len * esz := Nat.mul_pos (by omega) hesz
    rw [if_neg (by omega)]; simp

/-- a member value is read back from its encoding, at any position of any buffer.  Hypotheses on the schema (front, pyRt,
    fixed where the kind needs it, no unlimited element), the value (agree, guard, gal), the buffer (`post = []` behind an
    unlimited member and at a message's end, alignment, the split of `data`), the counter (`isCounter`, `SizerAt`, hint) -/
def DecField (e : Endian) (all : List Member) (k : MKind) (t : Ty) (v : Val) : Prop :=
  ∀ (allv : List Val) (n : String) (data pre post : Bytes) (pos : Nat) (hints : List (String × Nat)) (terminal : Bool),
    front t = true → pyRt t = true → (needsFixed k = true → Spec.fixedTy t = true) →
    (isArrayKind k = true → (Py.stTy t).unl = false) →
    agreeTy t v = true → guardTy t v = true →
    ((Py.stTy t).unl = true → Spec.galTy t v = true) →
    ((Py.fieldSt (Py.stTy t) k).unl = true → post = []) → (terminal = true → post = []) →
    Spec.alignMember (.mk n t k) ∣ pos →
    v.isCounter = isSizer n all → SizerAt all allv n t →
    (∀ s, k.sizer? = some s → hints.lookup n = some v.len) →
    data = pre ++ (Spec.render e (Spec.fieldChunks all allv n t k v) ++ post) → pre.length = pos →
    Py.fieldDec e all n t k (Py.fieldSt (Py.stTy t) k) data pos hints terminal =
      .ok (v, Spec.clen (Spec.fieldChunks all allv n t k v),
        if isSizer n all then Py.boundHints all n (Spec.counter n all allv) ++ hints else hints)

/-- the members `ms` of a struct with members `all` are read back by the loop of `struct._decode_impl`,
    entered after the members `before` with the hints these have left.  `base` is where the struct starts (a
    multiple of its alignment), `off` the offset its encoding has reached, `p0` where the loop stands: after the
    padding that follows a dynamic member (`ad`), before the member's own -/
def DecMs (e : Endian) (all ms : List Member) (vs : List Val) : Prop :=
  ∀ (allv : List Val) (before : List Member)
    (data pre post : Bytes) (hints : List (String × Nat)) (off : Nat) (ad : Bool) (base p0 : Nat),
    all = before ++ ms → WF.uniq (all.map (·.name)) = true →
    frontMs all ms before = true → pyRtMs all ms before = true →
    agreeFields ms vs = true → guardFields all ms vs = true →
    ((Py.stMs all).any (·.unl) = true → Spec.galMs ms vs = true) →
    ((Py.stMs all).any (·.unl) = true → post = []) →
    Spec.alignMs all ∣ base → pre.length = base + off →
    data = pre ++ (Spec.render e (Spec.chunksMs all allv ms vs off ad) ++ post) →
    lensOk all allv ms vs → HintInv all allv hints before ms → SizerDec all allv →
    p0 = pre.length + padTo off (aheadAl ad ms) →
    Py.decMs e all ms (Py.stMs ms) (Py.partials (Py.stMs ms)) data p0 hints =
      .ok (vs, pre.length + Spec.clen (Spec.chunksMs all allv ms vs off ad))

/-- the elements of an array are read back by `decN`, and by `decWhile` when nothing follows them -/
def DecElems (e : Endian) (t : Ty) (xs : List Val) : Prop :=
  ∀ (data pre post : Bytes) (pos cursor : Nat),
    front t = true → pyRt t = true → (Py.stTy t).unl = false →
    agreeElems t xs = true → guardElems t xs = true →
    Spec.alignTy t ∣ pos + cursor →
    data = pre ++ (Spec.render e (Spec.chunksElems t xs) ++ post) → pre.length = pos + cursor →
    Py.decN (fun d q => Py.decTy e t d q false) xs.length data pos cursor =
        .ok (xs, cursor + Spec.clen (Spec.chunksElems t xs)) ∧
      (post = [] → ∀ fuel, xs.length ≤ fuel →
        Py.decWhile (fun d q => Py.decTy e t d q false) fuel data pos cursor =
          .ok (xs, cursor + Spec.clen (Spec.chunksElems t xs)))

/-- a plain member that is no counter: `fieldDec` is the decoder of its type -/
theorem DecField.of_decTy {e : Endian} {all : List Member} {t : Ty} {v : Val} (hv : v.isCounter = false)
    (h : ∀ (data pre post : Bytes) (pos : Nat) (terminal : Bool), front t = true → pyRt t = true →
      agreeTy t v = true → guardTy t v = true → ((Py.stTy t).unl = true → Spec.galTy t v = true) →
      ((Py.stTy t).unl = true → post = []) → (terminal = true → post = []) → Spec.alignTy t ∣ pos →
      data = pre ++ (Spec.render e (Spec.chunksTy t v) ++ post) → pre.length = pos →
      Py.decTy e t data pos terminal = .ok (v, Spec.clen (Spec.chunksTy t v))) :
    DecField e all .plain t v := by
  intro allv n data pre post pos hints terminal hft hpt _ _ hag hgd hgl hpost hterm hal hc _ _ hd hpos
  have hns : isSizer n all = false := by rw [← hc, hv]
  rw [Spec.fieldChunks_plain all allv n t v hv] at hd ⊢
  simp [Py.fieldDec, hns, h data pre post pos terminal hft hpt hag hgd hgl hpost hterm hal hd hpos, bind, Except.bind,
    pure, Except.pure]

/-- what `DecField` says of a value that is no counter, outside any struct (where nothing is a counter) -/
theorem DecField.decTy {e : Endian} {t : Ty} {v : Val} (h : DecField e [] .plain t v) (hv : v.isCounter = false)
    (data pre post : Bytes) (pos : Nat) (terminal : Bool) (hft : front t = true) (hpt : pyRt t = true)
    (hag : agreeTy t v = true) (hgd : guardTy t v = true) (hgl : (Py.stTy t).unl = true → Spec.galTy t v = true)
    (hpost : (Py.stTy t).unl = true → post = []) (hterm : terminal = true → post = []) (hal : Spec.alignTy t ∣ pos)
    (hd : data = pre ++ (Spec.render e (Spec.chunksTy t v) ++ post)) (hpos : pre.length = pos) :
    Py.decTy e t data pos terminal = .ok (v, Spec.clen (Spec.chunksTy t v)) := by
  have h1 := h [] "" data pre post pos [] terminal hft hpt (fun h => nomatch h) (fun h => nomatch h) hag hgd hgl hpost hterm
    hal (by rw [hv]; rfl) (fun h => nomatch h) (fun s h => nomatch h)
    (by rw [Spec.fieldChunks_plain [] [] "" t v hv]; exact hd) hpos
  rw [Spec.fieldChunks_plain [] [] "" t v hv] at h1
  have hq : Py.fieldDec e [] "" t .plain (Py.fieldSt (Py.stTy t) .plain) data pos [] terminal =
      (do let (w, sz) ← Py.decTy e t data pos terminal; pure (w, sz, [])) := rfl
  rw [hq] at h1
  obtain ⟨⟨w, sz⟩, hx, h1⟩ := bind_ok h1
  obtain ⟨rfl, rfl, -⟩ := pure_ok3 h1
  exact hx

theorem dec_sizer (e : Endian) (all : List Member) (t : Ty) : DecField e all .plain t .sizer := by
  intro allv n data pre post pos hints terminal _ _ _ _ _ _ _ _ _ _ hc hsz _ hd hpos
  have hs : isSizer n all = true := hc.symm
  obtain ⟨p, rfl, hr, hg⟩ := hsz hs
  have hd' : data = pre ++ (scalarBytes e p.size (Spec.counter n all allv + sizerShift n all) ++ post) := by
    rw [hd]; simp [Spec.fieldChunks, Spec.render, Spec.Chunk.render, Spec.sizeTy]
  have h1 := Py.decSizer_at e p _ _ data pre post pos hd' hpos hr hg
  simp [Py.fieldDec, hs, Py.sizerPrim, h1, bind, Except.bind, pure, Except.pure, Py.boundHints, Spec.fieldChunks, Spec.clen,
    Spec.Chunk.len, Spec.sizeTy]

theorem dec_int {e : Endian} {all : List Member} {t : Ty} {p : Prim} {i : Int}
    (hdec : ∀ data pos term, Py.decTy e t data pos term = (do let (v, sz) ← Py.decScalar e p data pos; pure (.int v, sz)))
    (hch : Spec.chunksTy t (.int i) = [.scalar p.size (toUnsigned p.size i)]) (hr : inRange p i = true) :
    DecField e all .plain t (.int i) := by
  refine .of_decTy rfl ?_
  intro data pre post pos terminal _ _ _ _ _ _ _ _ hd hpos
  rw [hdec, hch, Py.decScalar_at e p i data pre post pos (by rw [hd, hch]; simp [Spec.render, Spec.Chunk.render]) hpos hr]
  rfl

theorem dec_enum (e : Endian) (all : List Member) (nm : String) (es : List (String × Nat)) (i : Int)
    (hany : es.any (fun e => (e.2 : Int) == i) = true) : DecField e all .plain (.enum nm es) (.int i) := by
  refine .of_decTy rfl ?_
  intro data pre post pos terminal hft hpt _ _ _ _ _ _ hd hpos
  have hwt := Accept.wf_of_accept _ hft hpt
  have hr : inRange .u32 i = true := inRange_enum es i (by rwa [WF.wfTy_enum] at hwt) hany
  have hck : Py.checkEnum es i = .ok i := by
    unfold Py.checkEnum
    rw [if_pos]
    simpa using hany
  rw [Py.decTy_enum, Py.decScalar_at e .u32 i data pre post pos (by rw [hd]; simp [Spec.chunksTy, Spec.render, Spec.Chunk.render, Prim.size]) hpos hr]
  simp only [bind, Except.bind, hck]
  rfl

theorem dec_struct (e : Endian) (all : List Member) (nm : String) (ms : List Member) (vs : List Val)
    (hhm : hasMs ms ms vs = true) (ih : DecMs e ms ms vs) : DecField e all .plain (.struct nm ms) (.struct vs) := by
  refine .of_decTy rfl ?_
  intro data pre post pos terminal hft hpt hag hgd hgl hpost hterm halS hd hpos
  obtain ⟨hne, huq, hw, hfm, hpm⟩ := Accept.struct_facts nm ms hft hpt
  rw [WF.agreeTy_struct, Bool.and_eq_true] at hag
  rw [WF.guardTy_struct] at hgd
  have hsd := sizerDec ms vs huq hw hhm hgd
  have hlens := lensOk_of_agree ms vs hag.1
  have hunl : (Py.stMs ms).any (·.unl) = true → (Py.stTy (.struct nm ms)).unl = true := fun h => h
  have hq0 := fun hu => Accept.gal_of_unl_struct nm ms vs hpt (hunl hu) (hgl (hunl hu))
  rw [Spec.chunksTy_struct] at hd ⊢
  generalize hbody : Spec.chunksMs ms vs ms vs 0 false = body at hd hq0 ⊢
  have hd1 : data = pre ++ (Spec.render e body ++ (zeros (padTo (Spec.clen body) (Spec.alignMs ms)) ++ post)) := by
    rw [hd]; simp [Spec.render, Spec.Chunk.render, List.append_assoc]
  have hIH := ih vs [] data pre (zeros (padTo (Spec.clen body) (Spec.alignMs ms)) ++ post) [] 0 false pos pos rfl huq hfm hpm hag.2 hgd
    (fun hu => (hq0 hu).2)
    (fun hu => by rw [(hq0 hu).1, hpost (hunl hu)]; rfl)
    halS (by omega) (by rw [hbody]; exact hd1) hlens (HintInv.nil ms vs ms) hsd (by simp [aheadAl, padTo_one, hpos])
  rw [hbody] at hIH
  have hpq : padTo (pre.length + Spec.clen body) (Spec.alignMs ms) = padTo (Spec.clen body) (Spec.alignMs ms) :=
    padTo_add_mul pre.length _ _ (by rw [hpos]; exact halS)
  have hlen : data.length = pre.length + Spec.clen body + padTo (Spec.clen body) (Spec.alignMs ms) + post.length := by
    rw [hd1]; simp only [List.length_append, Spec.render_length, zeros_length]; omega
  rw [Py.decTy_struct]
  simp only [hIH, bind, Except.bind, show (Py.structSt (Py.stMs ms)).align = _ from Py.stMs_align ms, hpq]
  have hcnd : ¬ ((terminal && decide (pre.length + Spec.clen body +
      padTo (Spec.clen body) (Spec.alignMs ms) < data.length)) = true) := by
    cases terminal with
    | false => simp
    | true =>
      have hp := hterm rfl
      subst hp
      simp only [List.length_nil, Nat.add_zero] at hlen
      simp only [Bool.true_and, decide_eq_true_eq]
      omega
  rw [if_neg hcnd]
  simp only [pure, Except.pure, Spec.clen_append, Spec.clen_cons, Spec.clen_nil, Spec.Chunk.len]
  congr 2
  omega

theorem dec_union (e : Endian) (all : List Member) (nm : String) (arms : List Arm) (idx : Nat) (an : String) (d : Nat)
    (t : Ty) (x : Val) (ha : arms[idx]? = some (.mk an d t)) (hcx : x.isCounter = false)
    (hx : hasField [] .plain t x = true) (ih : DecField e [] .plain t x) :
    DecField e all .plain (.union nm arms) (.union idx x) := by
  refine .of_decTy rfl ?_
  intro data pre post pos terminal hft hpt hag hgd _ _ hterm halU hd hpos
  obtain ⟨hft', hpt', hun, hd32, hdisc, halt, hcl, pad, hren⟩ := Accept.union_canon e nm arms idx an d t x hft hpt ha hcx hx
  have hus := Py.unionSt_size nm arms (Spec.fixedTy_union_of_wf nm arms (Accept.wf_of_accept _ hft hpt))
  have hlen : data.length = pos + Spec.sizeTy (.union nm arms) + post.length := by
    rw [hd, ← hpos]; simp only [List.length_append, Spec.render_length, hcl]; omega
  rw [hcl]
  have hd0 : data = pre ++ (scalarBytes e (Prim.size .u32) d ++ (zeros (max 4 (Spec.alignArms arms) - 4) ++
      (Spec.render e (Spec.chunksTy t x) ++ (zeros pad ++ post)))) := by
    rw [hd, hren]; simp only [List.append_assoc, Prim.size]
  have h0 := Py.decScalar_nat_at e .u32 d data pre _ pos hd0 hpos (inRange_u32 d hd32)
  have hpick := Py.decArms_pick e arms data (pos + max 4 (Spec.alignArms arms)) d an t arms 0 idx ha hdisc
  have hm4 : 4 ≤ max 4 (Spec.alignArms arms) := by omega
  have h1 := ih.decTy hcx data (pre ++ scalarBytes e 4 d ++ zeros (max 4 (Spec.alignArms arms) - 4)) (zeros pad ++ post)
    (pos + max 4 (Spec.alignArms arms)) false hft' hpt'
    (by rwa [WF.agreeTy_union nm arms idx x an d t ha] at hag) (by rwa [WF.guardTy_union nm arms idx x an d t ha] at hgd)
    (fun h => by rw [hun] at h; cases h) (fun h => by rw [hun] at h; cases h) (fun h => nomatch h)
    ((Nat.dvd_add_right (Nat.dvd_trans halt halU)).2 halt)
    (by rw [hd0]; simp [List.append_assoc, Prim.size])
    (by simp [hpos]; omega)
  rw [Py.decTy_union]
  simp only [h0, bind, Except.bind, Py.unionSt_align, Nat.zero_add, hpick, h1]
  have hc1 : ¬ ((data.length : Int) - (pos : Int) < ((Py.unionSt (Py.stArms arms)).size : Int)) := by
    rw [hus]; omega
  have hc2 : ¬ ((terminal && decide ((data.length : Int) - (pos : Int) >
      ((Py.unionSt (Py.stArms arms)).size : Int))) = true) := by
    cases terminal with
    | false => simp
    | true =>
      have hp := hterm rfl
      subst hp
      rw [hus]
      simp only [List.length_nil, Nat.add_zero] at hlen
      simp only [Bool.true_and, decide_eq_true_eq]
      omega
  simp only [pure, Except.pure]
  rw [if_neg hc1, if_neg hc2, hus]

theorem dec_absent (e : Endian) (all : List Member) (t : Ty) : DecField e all .optional t .absent := by
  intro allv n data pre post pos hints terminal _ _ hfx _ _ _ _ _ _ _ hc _ _ hd hpos
  have hns : isSizer n all = false := hc.symm
  have hz : zeros (max 4 (Spec.alignTy t) + Spec.sizeTy t) = zeros 4 ++ zeros (max 4 (Spec.alignTy t) + Spec.sizeTy t - 4) := by
    rw [← zeros_add]; congr 1; omega
  have hd' : data = pre ++ (scalarBytes e (Prim.size .u32) 0 ++ (zeros (max 4 (Spec.alignTy t) + Spec.sizeTy t - 4) ++ post)) := by
    rw [hd]
    simp only [Spec.fieldChunks, Spec.render, Spec.Chunk.render, Spec.flagSize, List.append_nil, hz, List.append_assoc,
      scalarBytes_zero, Prim.size]
  have h1 := Py.decScalar_nat_at e .u32 0 data pre _ pos hd' hpos (by decide)
  simp [Py.fieldDec, h1, bind, Except.bind, pure, Except.pure, hns, Py.fieldSt, Py.stTy_size_fixed t (hfx rfl), Py.stTy_align t,
    Spec.fieldChunks, Spec.clen, Spec.Chunk.len, Spec.flagSize, Py.flagSize]

theorem dec_present (e : Endian) (all : List Member) (t : Ty) (x : Val) (hcx : x.isCounter = false)
    (ih : DecField e [] .plain t x) : DecField e all .optional t (.present x) := by
  intro allv n data pre post pos hints terminal hft hpt hfx _ hag hgd _ _ _ hal hc _ _ hd hpos
  have hns : isSizer n all = false := hc.symm
  have hun := Accept.not_unl_of_fixed t hft hpt (hfx rfl)
  have hm4 : 4 ≤ max 4 (Spec.alignTy t) := by omega
  have hd0 : data = pre ++ (scalarBytes e (Prim.size .u32) 1 ++ (zeros (max 4 (Spec.alignTy t) - 4) ++
      (Spec.render e (Spec.chunksTy t x) ++ post))) := by
    rw [hd]
    simp [Spec.fieldChunks, Spec.render, Spec.Chunk.render, Spec.flagSize, List.append_assoc, Prim.size]
  have h0 := Py.decScalar_nat_at e .u32 1 data pre _ pos hd0 hpos (by decide)
  have halm : max 4 (Spec.alignTy t) ∣ pos := hal
  have h1 := ih.decTy hcx data (pre ++ scalarBytes e 4 1 ++ zeros (max 4 (Spec.alignTy t) - 4)) post
    (pos + max 4 (Spec.alignTy t)) false hft hpt (by rwa [WF.agreeTy_present] at hag) (by rwa [WF.guardTy_present] at hgd)
    (fun h => by rw [hun] at h; cases h) (fun h => by rw [hun] at h; cases h) (fun h => nomatch h)
    (Spec.alignTy_dvd_add_gap t halm)
    (by rw [hd0]; simp [List.append_assoc, Prim.size])
    (by simp [hpos]; omega)
  simp [Py.fieldDec, h0, h1, bind, Except.bind, pure, Except.pure, hns, Py.fieldSt, Py.stTy_align t, Spec.fieldChunks, Spec.clen,
    Spec.Chunk.len, Spec.flagSize, Py.flagSize]
  omega

theorem dec_bytes (e : Endian) (all : List Member) (k : MKind) (b : Bytes) (hl : lenFits all k b.length = true) :
    DecField e all k .byte (.bytes b) := by
  intro allv n data pre post pos hints terminal _ _ _ _ _ _ _ hpost _ _ hc _ hhint hd hpos
  have hns : isSizer n all = false := hc.symm
  have hd' : data = pre ++ (b ++ (zeros (Spec.slack .byte k b.length) ++ post)) := by
    rw [hd, Spec.render_fieldChunks_bytes e all allv n k b (isArrayKind_of_lenFits hl), List.append_assoc]
  have hsl := Py.slice_at data pre b _ pos hd' hpos
  have hlen : data.length = pos + b.length + Spec.slack .byte k b.length + post.length := by
    rw [hd', ← hpos]; simp only [List.length_append, zeros_length]; omega
  have hh' : ∀ s, k.sizer? = some s → Py.lookupHint hints n = .ok b.length := by
    intro s hs; unfold Py.lookupHint; rw [hhint s hs]; rfl
  simp only [hns, Bool.false_eq_true, if_false]
  cases k with
  | plain => cases hl
  | optional => cases hl
  | fixed c =>
    obtain rfl := (lenFits_fixed all c _).1 hl
    simp only [Py.fieldDec]
    rw [if_neg (by omega), hsl]
    simp [pure, Except.pure, Spec.fieldChunks, Spec.clen, Spec.Chunk.len]
  | dyn s sh =>
    simp only [Py.fieldDec, hh' s rfl, bind, Except.bind]
    rw [if_neg (by omega), hsl]
    simp [pure, Except.pure, Spec.fieldChunks, Spec.clen, Spec.Chunk.len]
  | limited s c =>
    have hl' : b.length ≤ c := ((lenFits_limited all s c _).1 hl).1
    have hrl : Spec.slack .byte (.limited s c) b.length = c - b.length := by
      show c * 1 - b.length = _; rw [Nat.mul_one]
    rw [hrl] at hlen
    simp only [Py.fieldDec, hh' s rfl, bind, Except.bind]
    rw [if_neg (by omega), if_neg (by omega), hsl, if_neg (by omega)]
    simp [pure, Except.pure, Spec.fieldChunks, Spec.clen, Spec.Chunk.len]
    omega
  | greedy =>
    have hp : post = [] := hpost rfl
    subst hp
    have hd2 : data = pre ++ b := by
      rw [hd]; simp [Spec.fieldChunks, Spec.render, Spec.Chunk.render]
    have hdr : data.drop pos = b := by rw [hd2, ← hpos]; simp
    have hlen2 : data.length = pos + b.length := by rw [hd2, ← hpos]; simp
    simp only [Py.fieldDec]
    rw [if_neg (by omega), hdr]
    simp [pure, Except.pure, Spec.fieldChunks, Spec.clen, Spec.Chunk.len]
    omega

theorem dec_arr (e : Endian) (all : List Member) (k : MKind) (t : Ty) (xs : List Val) (htb : t ≠ .byte)
    (hl : lenFits all k xs.length = true) (hel : hasElems t xs = true) (ih : DecElems e t xs) :
    DecField e all k t (.arr xs) := by
  intro allv n data pre post pos hints terminal hft hpt hfx hnu hag hgd hgl hpost hterm hal hc hsz hhint hd hpos
  have hns : isSizer n all = false := hc.symm
  have hka := isArrayKind_of_lenFits hl
  have hun := hnu hka
  have hagE : agreeElems t xs = true := by rwa [WF.agreeTy_arr] at hag
  have hgdE : guardElems t xs = true := by rwa [WF.guardTy_arr] at hgd
  rw [Spec.alignMember_of_ne_optional n t k (lenFits_kind all k _ hl).2] at hal
  -- the member's bytes are those of the elements, followed by the unused rest of a limited array's slot
  have hr := Spec.render_fieldChunks_arr e all allv n t k xs hka
  have hcl : Spec.clen (Spec.fieldChunks all allv n t k (.arr xs)) =
      Spec.clen (Spec.chunksElems t xs) + Spec.slack t k (Spec.clen (Spec.chunksElems t xs)) := by
    have := congrArg List.length hr
    simpa only [List.length_append, Spec.render_length, zeros_length] using this
  rw [hr, List.append_assoc] at hd
  rw [hcl]
  have IH := ih data pre _ pos 0 hft hpt hun hagE hgdE hal hd hpos
  rw [Nat.zero_add] at IH
  have hlen : data.length = pos + Spec.clen (Spec.chunksElems t xs) +
      Spec.slack t k (Spec.clen (Spec.chunksElems t xs)) + post.length := by
    rw [hd, ← hpos]; simp only [List.length_append, Spec.render_length, zeros_length]; omega
  have hhint' : ∀ s, k.sizer? = some s → Py.lookupHint hints n = .ok xs.length := by
    intro s hs; unfold Py.lookupHint; rw [hhint s hs]; rfl
  simp only [hns, Bool.false_eq_true, if_false]
  cases k with
  | plain => cases hka
  | optional => cases hka
  | fixed c =>
    obtain rfl := (lenFits_fixed all c _).1 hl
    have hcle := fsz_elems xs t (hfx rfl) hel
    -- the guard of `decode_array` does not fire: the encoded array occupies exactly `f.size` bytes from `pos`
    have hg0 : ¬ (((Py.fieldSt (Py.stTy t) (.fixed xs.length)).size : Int) > (data.length : Int) - (pos : Int)) := by
      show ¬ (((xs.length * (Py.stTy t).size : Nat) : Int) > _); rw [Py.stTy_size_fixed t (hfx rfl)]; omega
    rw [Py.fieldDec_fixed_arr _ _ _ _ _ _ _ _ _ _ htb]
    simp only [bind, Except.bind]
    rw [if_neg hg0, IH.1]
    simp [pure, Except.pure, Spec.slack]
  | dyn s sh =>
    have hg0 : ¬ (((Py.fieldSt (Py.stTy t) (.dyn s sh)).size : Int) > (data.length : Int) - (pos : Int)) := by
      show ¬ (((0 : Nat) : Int) > _); omega
    rw [Py.fieldDec_dyn_arr _ _ _ _ _ _ _ _ _ _ _ htb, hhint' s rfl]
    simp only [bind, Except.bind]
    rw [if_neg hg0]
    simp [IH.1, pure, Except.pure, Spec.slack, Py.fieldSt]
  | limited s lim =>
    have hl : xs.length ≤ lim := ((lenFits_limited all s lim _).1 hl).1
    have hsz' := Py.stTy_size_fixed t (hfx rfl)
    have hcle := fsz_elems xs t (hfx rfl) hel
    have hmul := Nat.mul_le_mul_right (Spec.sizeTy t) hl
    simp only [Spec.slack] at hlen ⊢
    have hg0 : ¬ (((Py.fieldSt (Py.stTy t) (.limited s lim)).size : Int) > (data.length : Int) - (pos : Int)) := by
      show ¬ (((lim * (Py.stTy t).size : Nat) : Int) > _); rw [hsz']; omega
    rw [Py.fieldDec_limited_arr _ _ _ _ _ _ _ _ _ _ _ htb, hhint' s rfl]
    simp only [bind, Except.bind]
    rw [if_neg hg0, Nat.min_eq_left hl, IH.1]
    dsimp only
    rw [if_neg (by omega)]
    simp [pure, Except.pure, Py.fieldSt, hsz']
    omega
  | greedy =>
    have hp : post = [] := hpost rfl
    subst hp
    simp only [Spec.slack, Nat.add_zero, List.length_nil] at hlen ⊢
    have hg0 : ¬ (((Py.fieldSt (Py.stTy t) .greedy).size : Int) > (data.length : Int) - (pos : Int)) := by
      show ¬ (((0 : Nat) : Int) > _); omega
    cases htc : t.isComposite with
    | true =>
      have hposx : ∀ x ∈ xs, 0 < Spec.clen (Spec.chunksTy t x) := fun x hx =>
        Spec.clen_pos t x hft hpt hun (hasElems_mem t xs hel x hx).1 (hasElems_mem t xs hel x hx).2
      have hle := Spec.length_le_clen_elems t xs hposx
      rw [Py.fieldDec_greedy_comp _ _ _ _ _ _ _ _ _ htc]
      simp only [bind, Except.bind]
      rw [if_neg hg0, IH.2 rfl data.length (by omega)]
      simp [pure, Except.pure, Py.fieldSt]
    | false =>
      have hfxt := Spec.fixedTy_of_not_composite htc
      have hcle := fsz_elems xs t hfxt hel
      have hszp : 0 < Spec.sizeTy t := by
        cases t with
        | prim p => exact Prim.size_pos p
        | byte => exact absurd rfl htb
        | enum _ _ => simp [Spec.sizeTy]
        | struct _ _ => simp [Ty.isComposite] at htc
        | union _ _ => simp [Ty.isComposite] at htc
      have hcnt := greedy_cnt data.length pos (Spec.sizeTy t) xs.length (by rw [hlen, hcle]) hszp
      rw [Py.fieldDec_greedy_scalar _ _ _ _ _ _ _ _ _ htb htc]
      simp only [bind, Except.bind, Py.stTy_size_fixed t hfxt]
      rw [if_neg hg0, hcnt, IH.1]
      simp [pure, Except.pure, Py.fieldSt]

theorem dec_nil (e : Endian) (all : List Member) : DecMs e all [] [] := by
  intro allv before data pre post hints off ad base p0 hall huq hfm hpm hag hgd hgl hpost hbase hpre hd hlens hinv hsd hp0
  have hp : padTo off (aheadAl ad []) = 0 := by cases ad <;> simp [aheadAl, Spec.blockAlign, padTo_one]
  rw [Py.decMs_nil, hp0, hp, Spec.chunksMs_nil]; rfl

theorem dec_cons (e : Endian) (all : List Member) (n : String) (t : Ty) (k : MKind) (r : List Member) (v : Val) (vs : List Val)
    (hcnt : v.isCounter = isSizer n all) (_ : hasField all k t v = true) (hhr : hasMs all r vs = true)
    (ihf : DecField e all k t v) (ihm : DecMs e all r vs) : DecMs e all (.mk n t k :: r) (v :: vs) := by
  intro allv before data pre post hints off ad base p0 hall huq hfm hpm hag hgd hgl hpost hbase hpre hd hlens hinv hsd hp0
  have hw := Accept.wfMs_of_accept all (.mk n t k :: r) before hall hfm hpm
  obtain ⟨hwt, hfx, _, _, hwr⟩ := (wfMs_cons all n t k r).1 hw
  obtain ⟨hft, hfr⟩ := Accept.frontMs_head_tail hfm
  obtain ⟨hpt, _, _, harr, _, _, _, hpr⟩ := (Accept.pyRtMs_cons all n t k r before).1 hpm
  rw [WF.agreeFields_cons, Bool.and_eq_true] at hag
  rw [WF.guardFields_cons] at hgd
  simp only [Bool.and_eq_true] at hgd
  have hmem : Member.mk n t k ∈ all := by rw [hall]; simp
  have hsub : ∀ m ∈ r, m ∈ all := by intro m hm; rw [hall]; simp [hm]
  have hA := Spec.alignMs_isAl all
  have hdm : Spec.alignMember (.mk n t k) ∣ Spec.alignMs all := Spec.alignMember_dvd_alignMs _ all hmem
  have hdb : Spec.blockAlign r ∣ Spec.alignMs all :=
    Spec.blockAlign_dvd _ hA r (fun m hm => Spec.alignMember_dvd_alignMs m all (hsub m hm))
  have hal : (Py.fieldSt (Py.stTy t) k).align = Spec.alignMember (.mk n t k) := Py.fieldSt_align_member n t k
  have hdyn : (Py.fieldSt (Py.stTy t) k).dyn = Spec.endsBlock (.mk n t k) := Py.fieldSt_dyn all n t k r hw
  have hpa : Py.partialAl (Py.stMs r) = Spec.blockAlign r := Py.partialAl_stMs all r hwr
  obtain ⟨hda, hapos, hoff, _⟩ := aheadAl_pad ad (.mk n t k) r off
  generalize hadef : (if ad = true then Spec.blockAlign (.mk n t k :: r) else Spec.alignMember (.mk n t k)) = a
    at hda hapos hoff
  rw [Spec.chunksMs_cons, hadef] at hd ⊢
  obtain ⟨hgal, hlast, hhint, hinv'⟩ := HintInv.member hall huq hpm hhr hgl hlens hinv
  have hbody := ihf allv n data (pre ++ zeros (padTo off a))
    (Spec.render e (Spec.chunksMs all allv r vs (off + padTo off a + Spec.clen (Spec.fieldChunks all allv n t k v))
      (Spec.endsBlock (.mk n t k))) ++ post)
    (pre.length + padTo off a) hints false hft hpt hfx harr hag.1 hgd.1.2
    hgal
    (by
      intro hu
      obtain ⟨rfl, -, hany⟩ := hlast hu
      simp [Spec.chunksMs_nil, Spec.render, hpost hany])
    (by intro h; cases h)
    (by
      rw [hpre, Nat.add_assoc]
      exact (Nat.dvd_add_right (Nat.dvd_trans hdm hbase)).2 (Nat.dvd_trans hda (dvd_alignUp off a hapos)))
    hcnt (hsd.dec n t k hmem)
    hhint
    (by rw [hd]; simp [Spec.render, Spec.Chunk.render, List.append_assoc]) (by simp)
  generalize Spec.fieldChunks all allv n t k v = fc at hd hbody ⊢
  have hIH := ihm allv (before ++ [Member.mk n t k]) data (pre ++ zeros (padTo off a) ++ Spec.render e fc) post _
    (off + padTo off a + Spec.clen fc) (Spec.endsBlock (.mk n t k)) base _
    (by simp [hall]) huq hfr hpr hag.2 hgd.2 (fun hu => Spec.galMs_tail _ r v vs (hgl hu)) hpost hbase
    (by simp [hpre]; omega) (by rw [hd]; simp [Spec.render, Spec.Chunk.render, List.append_assoc]) hlens.2 hinv' hsd rfl
  -- the loop reaches the member where the encoding has it, and the rest where `hIH` starts
  have hpos0 : p0 + padTo p0 (Py.fieldSt (Py.stTy t) k).align = pre.length + padTo off a := by
    have hq : padTo p0 (Spec.alignMember (.mk n t k)) =
        padTo (alignUp off (aheadAl ad (.mk n t k :: r))) (Spec.alignMember (.mk n t k)) := by
      rw [hp0, hpre, Nat.add_assoc]
      exact padTo_add_mul base _ _ (Nat.dvd_trans hdm hbase)
    rw [hal, hq, hp0]
    unfold alignUp at hoff ⊢
    omega
  have hnext : Py.nextPos (if Spec.endsBlock (.mk n t k) = true then some (Spec.blockAlign r) else none)
        (pre.length + padTo off a + Spec.clen fc) =
      (pre ++ zeros (padTo off a) ++ Spec.render e fc).length +
        padTo (off + padTo off a + Spec.clen fc) (aheadAl (Spec.endsBlock (.mk n t k)) r) := by
    simp only [List.length_append, zeros_length, Spec.render_length]
    cases Spec.endsBlock (.mk n t k)
    · simp [Py.nextPos, aheadAl, padTo_one]
    · simp only [Py.nextPos, aheadAl, if_true]
      rw [hpre, show base + off + padTo off a + Spec.clen fc = base + (off + padTo off a + Spec.clen fc) by omega,
        padTo_add_mul base _ _ (Nat.dvd_trans hdb hbase)]
  have hst : Py.stMs (.mk n t k :: r) = Py.fieldSt (Py.stTy t) k :: Py.stMs r := rfl
  rw [hst, Py.partials_cons, Py.decMs_cons, hpos0, hbody]
  simp only [bind, Except.bind, hdyn, hpa, hnext, hIH, pure, Except.pure]
  simp only [Spec.clen_cons, Spec.clen_append, Spec.Chunk.len, List.length_append, zeros_length, Spec.render_length]
  congr 2
  omega

theorem dec_enil (e : Endian) (t : Ty) : DecElems e t [] := by
  intro data pre post pos cursor hft hpt hnu hag hgd hal hd hpos
  refine ⟨by simp [Py.decN, Spec.chunksElems, Spec.clen, pure, Except.pure], ?_⟩
  intro hp fuel _
  subst hp
  have hlen : data.length = pos + cursor := by
    rw [hd, ← hpos]; simp [Spec.chunksElems, Spec.render]
  cases fuel <;> simp [Py.decWhile, hlen, Spec.chunksElems, Spec.clen, pure, Except.pure]

theorem dec_econs (e : Endian) (t : Ty) (x : Val) (xs : List Val) (hcx : x.isCounter = false)
    (hx : hasField [] .plain t x = true) (ihx : DecField e [] .plain t x)
    (ihxs : DecElems e t xs) : DecElems e t (x :: xs) := by
  intro data pre post pos cursor hft hpt hnu hag hgd hal hd hpos
  rw [WF.agreeElems_cons, Bool.and_eq_true] at hag
  rw [WF.guardElems_cons, Bool.and_eq_true] at hgd
  have hwt := Accept.wf_of_accept t hft hpt
  have hd1 : data = pre ++ (Spec.render e (Spec.chunksTy t x) ++ (Spec.render e (Spec.chunksElems t xs) ++ post)) := by
    rw [hd]; simp [Spec.chunksElems_cons, List.append_assoc]
  have h1' := ihx.decTy hcx data pre _ (pos + cursor) false hft hpt hag.1 hgd.1 (fun h => by rw [hnu] at h; cases h)
    (fun h => by rw [hnu] at h; cases h) (fun h => nomatch h) hal hd1 hpos
  have hdv := Spec.align_dvd_clen t x hwt hcx hx
  have hd2 : data = (pre ++ Spec.render e (Spec.chunksTy t x)) ++ (Spec.render e (Spec.chunksElems t xs) ++ post) := by
    rw [hd]; simp [Spec.chunksElems_cons, List.append_assoc]
  have h2 := ihxs data (pre ++ Spec.render e (Spec.chunksTy t x)) post pos
    (cursor + Spec.clen (Spec.chunksTy t x)) hft hpt hnu hag.2 hgd.2
    (by rw [← Nat.add_assoc]; exact (Nat.dvd_add_right hal).2 hdv) hd2
    (by simp [hpos]; omega)
  have hcl : cursor + Spec.clen (Spec.chunksTy t x) + Spec.clen (Spec.chunksElems t xs) =
      cursor + Spec.clen (Spec.chunksElems t (x :: xs)) := by
    simp only [Spec.chunksElems_cons, Spec.clen_append]; omega
  rw [hcl] at h2
  refine ⟨?_, ?_⟩
  · simp [Py.decN, h1', h2.1, bind, Except.bind, pure, Except.pure]
  · intro hp fuel hfu
    have hpx := Spec.clen_pos t x hft hpt hnu hcx hx
    have hlen : pos + cursor < data.length := by
      rw [hd2, ← hpos]; simp only [List.length_append, Spec.render_length]; omega
    cases fuel with
    | zero => simp at hfu
    | succ fuel =>
      have := h2.2 hp fuel (by simpa using hfu)
      simp [Py.decWhile, hlen, h1', this, bind, Except.bind, pure, Except.pure]

theorem Py.roundtrip_all (e : Endian) :
    (∀ v all k t, hasField all k t v = true → DecField e all k t v) ∧
    (∀ vs all ms, hasMs all ms vs = true → DecMs e all ms vs) ∧
    (∀ xs t, hasElems t xs = true → DecElems e t xs) :=
  wt_induct ⟨dec_sizer e, fun _ _ _ hr => dec_int (fun _ _ _ => rfl) rfl hr, fun _ _ hr => dec_int (fun _ _ _ => rfl) rfl hr,
    dec_enum e, dec_struct e, dec_union e, dec_absent e, fun all t x hcx _ => dec_present e all t x hcx,
    dec_bytes e, dec_arr e, dec_nil e, dec_cons e, dec_enil e,
    fun t x xs hcx hx _ => dec_econs e t x xs hcx hx⟩

theorem dec_ms (e : Endian) : (vs : List Val) → ∀ (ms all : List Member) (allv : List Val) (before : List Member)
      (data pre post : Bytes) (hints : List (String × Nat)) (off : Nat) (ad : Bool) (base p0 : Nat),
      all = before ++ ms → WF.uniq (all.map (·.name)) = true →
      frontMs all ms before = true → pyRtMs all ms before = true →
      hasMs all ms vs = true → agreeFields ms vs = true → guardFields all ms vs = true →
      ((Py.stMs all).any (·.unl) = true → Spec.galMs ms vs = true) →
      ((Py.stMs all).any (·.unl) = true → post = []) →
      Spec.alignMs all ∣ base → pre.length = base + off →
      data = pre ++ (Spec.render e (Spec.chunksMs all allv ms vs off ad) ++ post) →
      lensOk all allv ms vs → HintInv all allv hints before ms → SizerDec all allv →
      p0 = pre.length + padTo off (aheadAl ad ms) →
      Py.decMs e all ms (Py.stMs ms) (Py.partials (Py.stMs ms)) data p0 hints =
        .ok (vs, pre.length + Spec.clen (Spec.chunksMs all allv ms vs off ad)) :=
  fun vs ms all allv before data pre post hints off ad base p0 hall huq hfm hpm hh =>
    (Py.roundtrip_all e).2.1 vs all ms hh allv before data pre post hints off ad base p0 hall huq hfm hpm

theorem dec_elems (e : Endian) : (xs : List Val) → ∀ (t : Ty) (data pre post : Bytes) (pos cursor : Nat),
      front t = true → pyRt t = true → (Py.stTy t).unl = false →
      hasElems t xs = true → agreeElems t xs = true → guardElems t xs = true →
      Spec.alignTy t ∣ pos + cursor →
      data = pre ++ (Spec.render e (Spec.chunksElems t xs) ++ post) → pre.length = pos + cursor →
      Py.decN (fun d q => Py.decTy e t d q false) xs.length data pos cursor =
          .ok (xs, cursor + Spec.clen (Spec.chunksElems t xs)) ∧
        (post = [] → ∀ fuel, xs.length ≤ fuel →
          Py.decWhile (fun d q => Py.decTy e t d q false) fuel data pos cursor =
            .ok (xs, cursor + Spec.clen (Spec.chunksElems t xs))) :=
  fun xs t data pre post pos cursor hft hpt hnu hh => (Py.roundtrip_all e).2.2 xs t hh data pre post pos cursor hft hpt hnu

/-- C02: `Message.decode()` of the Python runtime inverts the canonical encoding and consumes exactly
    the message, for every schema prophyc accepts and the runtime imports, every well-typed value
    whose arrays agree with their counters, whose counters pass the decoder's guard (`guardTy`, D49)
    and whose greedy tail ends on the message's alignment boundary (`galTy`, the documented
    exception) -/
theorem Py.decode_encode (t : Ty) (v : Val) (e : Endian)
    (hf : Accept.front t = true) (hp : Accept.pyRt t = true)
    (hv : hasType t v = true) (ha : WF.agreeTy t v = true)
    (hg : Spec.galTy t v = true) (hG : WF.guardTy t v = true) :
    Py.decode t (Spec.enc t v e) e = .ok (v, (Spec.enc t v e).length) := by
  simp only [hasType, Bool.and_eq_true, Bool.not_eq_true'] at hv
  have h := ((Py.roundtrip_all e).1 v [] .plain t hv.2).decTy hv.1 (Spec.enc t v e) [] [] 0 true hf hp ha hG (fun _ => hg)
    (fun _ => rfl) (fun _ => rfl) (Nat.dvd_zero _) (by simp [Spec.enc]) rfl
  simpa [Py.decode, Spec.enc] using h

end Prophy

#print axioms Prophy.Py.decode_encode
