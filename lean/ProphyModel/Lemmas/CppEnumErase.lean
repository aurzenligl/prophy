/-
  Enums are outside what the C++ decoder checks: `eraseEnum` replaces every enum of a schema by `u32`, and neither
  prophyc's layout, nor the decoder, nor `get_byte_size`, nor acceptance and coherence can tell the difference.  With it
  the two schema predicates of CppDecodeExact: `noEnum`, `limFirst`.
-/
import ProphyModel.Lemmas.CppRoundTripBase
import ProphyModel.Lemmas.CppObjects
namespace Prophy
open WF Accept

namespace Cpp

/- `eraseEnum t`: `t` with every enum replaced by `u32` (same wire layout, same C++ decoder) -/
mutual
  def eraseEnum : Ty → Ty
    | .prim p => .prim p
    | .byte => .byte
    | .enum _ _ => .prim .u32
    | .struct n ms => .struct n (eraseEnumMs ms)
    | .union n arms => .union n (eraseEnumArms arms)
  def eraseEnumMs : List Member → List Member
    | [] => []
    | .mk n t k :: r => .mk n (eraseEnum t) k :: eraseEnumMs r
  def eraseEnumArms : List Arm → List Arm
    | [] => []
    | .mk n d t :: r => .mk n d (eraseEnum t) :: eraseEnumArms r
end

/-- "like `hasType`, but an enum value is any 32-bit unsigned integer": the typing the C++ decoder
    guarantees (it does not check enumerators; the Python decoder does) -/
def hasTypeW (t : Ty) (v : Val) : Bool := hasType (eraseEnum t) v

mutual
  def noEnum : Ty → Bool
    | .enum _ _ => false
    | .struct _ ms => noEnumMs ms
    | .union _ arms => noEnumArms arms
    | _ => true
  def noEnumMs : List Member → Bool
    | [] => true
    | .mk _ t _ :: r => noEnum t && noEnumMs r
  def noEnumArms : List Arm → Bool
    | [] => true
    | .mk _ _ t :: r => noEnum t && noEnumArms r
end

/- In every struct (at any depth), the FIRST array bound to the counter of a limited array is a limited array with a
   limit that is not greater.  May several arrays share a counter?  `Accept.front` is a predicate on trees and holds of a tree
   with two limited arrays on one counter (isar can produce it); model and theorems are stated over `Accept.front`; there
   `do_decode_resize` is generated with the limit of the first bound array only.  The C++ generator itself refuses such a struct ("Multiple arrays bounded by the same member",
   cpp_full.py), and prophyc's own language gives every `T x<n>` its own counter: for every schema that has generated
   C++, `limFirst` holds. -/
mutual
  def limFirst : Ty → Bool
    | .struct _ ms => limFirstMs ms ms
    | .union _ arms => limFirstArms arms
    | _ => true
  def limFirstMs (all : List Member) : List Member → Bool
    | [] => true
    | .mk _ t k :: r =>
      (match k with
       | .limited s l =>
         (match all.find? (fun m => decide (m.kind.sizer? = some s)) with
          | some m => (match m.kind with
            | .limited _ l' => decide (l' ≤ l)
            | _ => false)
          | none => false)
       | _ => true) && limFirst t && limFirstMs all r
  def limFirstArms : List Arm → Bool
    | [] => true
    | .mk _ _ t :: r => limFirst t && limFirstArms r
end


def eraseM : Member → Member
  | .mk n t k => .mk n (eraseEnum t) k

theorem eraseEnumMs_map : (ms : List Member) → eraseEnumMs ms = ms.map eraseM
  | [] => rfl
  | .mk n t k :: r => by simp [eraseEnumMs, eraseM, eraseEnumMs_map r]

@[simp] theorem eraseM_name (m : Member) : (eraseM m).name = m.name := by cases m; rfl
@[simp] theorem eraseM_kind (m : Member) : (eraseM m).kind = m.kind := by cases m; rfl

theorem eraseEnumMs_append (a b : List Member) : eraseEnumMs (a ++ b) = eraseEnumMs a ++ eraseEnumMs b := by
  simp [eraseEnumMs_map]

theorem isSizer_erase (n : String) (all : List Member) : isSizer n (eraseEnumMs all) = isSizer n all := by
  simp only [isSizer, eraseEnumMs_map, List.any_map]
  congr 1
  funext m
  simp

theorem names_erase (ms : List Member) : (eraseEnumMs ms).map (·.name) = ms.map (·.name) := by
  simp only [eraseEnumMs_map, List.map_map]
  congr 1
  funext m
  simp

mutual
  theorem nodeTy_erase : (t : Ty) → PL.nodeTy (eraseEnum t) = PL.nodeTy t
    | .prim _ => rfl
    | .byte => rfl
    | .enum _ _ => rfl
    | .struct _ ms => by simp only [eraseEnum, PL.nodeTy, memsOf_erase ms]
    | .union _ arms => by simp only [eraseEnum, PL.nodeTy, armsOf_erase_p17 arms]
  theorem memsOf_erase : (ms : List Member) → PL.memsOf (eraseEnumMs ms) = PL.memsOf ms
    | [] => rfl
    | .mk _ t k :: r => by simp only [eraseEnumMs, PL.memsOf, nodeTy_erase t, memsOf_erase r]
  theorem armsOf_erase_p17 : (arms : List Arm) → PL.armsOf (eraseEnumArms arms) = PL.armsOf arms
    | [] => rfl
    | .mk _ _ t :: r => by simp only [eraseEnumArms, PL.armsOf, nodeTy_erase t, armsOf_erase_p17 r]
end

theorem structMembers_erase (ms : List Member) : PL.structMembers (eraseEnumMs ms) = PL.structMembers ms := by
  simp only [PL.structMembers, memsOf_erase]

mutual
  theorem cppAlign_erase : (t : Ty) → cppAlign (eraseEnum t) = cppAlign t
    | .prim _ => rfl
    | .byte => rfl
    | .enum _ _ => rfl
    | .struct _ ms => by simp only [eraseEnum, cppAlign]; exact cppAlignMs_erase_p17 ms ms
    | .union _ arms => by simp only [eraseEnum, cppAlign, cppAlignArms_erase_p17 arms]
  theorem cppAlignMs_erase_p17 (all : List Member) : (ms : List Member) →
      cppAlignMs (eraseEnumMs all) (eraseEnumMs ms) = cppAlignMs all ms
    | [] => rfl
    | .mk n t k :: r => by
      simp only [eraseEnumMs, cppAlignMs, cppAlign_erase t, cppAlignMs_erase_p17 all r, isSizer_erase]
  theorem cppAlignArms_erase_p17 : (arms : List Arm) → cppAlignArms (eraseEnumArms arms) = cppAlignArms arms
    | [] => rfl
    | .mk _ _ t :: r => by simp only [eraseEnumArms, cppAlignArms, cppAlign_erase t, cppAlignArms_erase_p17 r]
end

theorem codecSize_erase (t : Ty) : codecSize (eraseEnum t) = codecSize t := by
  cases t with
  | prim _ => rfl
  | byte => rfl
  | enum _ _ => rfl
  | struct nm ms =>
    have := nodeTy_erase (.struct nm ms)
    simp only [eraseEnum] at this
    simp only [eraseEnum, codecSize, this]
  | union nm arms =>
    have := nodeTy_erase (.union nm arms)
    simp only [eraseEnum] at this
    simp only [eraseEnum, codecSize, this]

theorem isMessage_erase_p17 (t : Ty) : isMessage (eraseEnum t) = isMessage t := by cases t <;> rfl

mutual
  theorem optMisaligned_erase : (t : Ty) → optMisaligned (eraseEnum t) = optMisaligned t
    | .prim _ => rfl
    | .byte => rfl
    | .enum _ _ => rfl
    | .struct _ ms => by simp only [eraseEnum, optMisaligned, optMisalignedMs_erase_p17 ms]
    | .union _ arms => by simp only [eraseEnum, optMisaligned, optMisalignedArms_erase_p17 arms]
  theorem optMisalignedMs_erase_p17 : (ms : List Member) → optMisalignedMs (eraseEnumMs ms) = optMisalignedMs ms
    | [] => rfl
    | .mk _ t k :: r => by
      simp only [eraseEnumMs, optMisalignedMs, cppAlign_erase t, nodeTy_erase t, optMisaligned_erase t,
        optMisalignedMs_erase_p17 r]
  theorem optMisalignedArms_erase_p17 : (arms : List Arm) →
      optMisalignedArms (eraseEnumArms arms) = optMisalignedArms arms
    | [] => rfl
    | .mk _ _ t :: r => by
      simp only [eraseEnumArms, optMisalignedArms, optMisaligned_erase t, optMisalignedArms_erase_p17 r]
end

mutual
  theorem noShift_erase : (t : Ty) → Cpp.noShift (eraseEnum t) = Cpp.noShift t
    | .prim _ => rfl
    | .byte => rfl
    | .enum _ _ => rfl
    | .struct _ ms => by simp only [eraseEnum, Cpp.noShift, noShiftMs_erase_p17 ms]
    | .union _ arms => by simp only [eraseEnum, Cpp.noShift, noShiftArms_erase_p17 arms]
  theorem noShiftMs_erase_p17 : (ms : List Member) → Cpp.noShiftMs (eraseEnumMs ms) = Cpp.noShiftMs ms
    | [] => rfl
    | .mk _ t k :: r => by simp only [eraseEnumMs, Cpp.noShiftMs, noShift_erase t, noShiftMs_erase_p17 r]
  theorem noShiftArms_erase_p17 : (arms : List Arm) → Cpp.noShiftArms (eraseEnumArms arms) = Cpp.noShiftArms arms
    | [] => rfl
    | .mk _ _ t :: r => by simp only [eraseEnumArms, Cpp.noShiftArms, noShift_erase t, noShiftArms_erase_p17 r]
end

mutual
  theorem noEnum_erase : (t : Ty) → noEnum (eraseEnum t) = true
    | .prim _ => rfl
    | .byte => rfl
    | .enum _ _ => rfl
    | .struct _ ms => by simp only [eraseEnum, noEnum, noEnumMs_erase_p17 ms]
    | .union _ arms => by simp only [eraseEnum, noEnum, noEnumArms_erase_p17 arms]
  theorem noEnumMs_erase_p17 : (ms : List Member) → noEnumMs (eraseEnumMs ms) = true
    | [] => rfl
    | .mk _ t k :: r => by simp only [eraseEnumMs, noEnumMs, noEnum_erase t, noEnumMs_erase_p17 r, Bool.and_self]
  theorem noEnumArms_erase_p17 : (arms : List Arm) → noEnumArms (eraseEnumArms arms) = true
    | [] => rfl
    | .mk _ _ t :: r => by
      simp only [eraseEnumArms, noEnumArms, noEnum_erase t, noEnumArms_erase_p17 r, Bool.and_self]
end

theorem find_sizer_erase (s : String) (all : List Member) :
    (eraseEnumMs all).find? (fun m => decide (m.kind.sizer? = some s)) =
      (all.find? (fun m => decide (m.kind.sizer? = some s))).map eraseM := by
  rw [eraseEnumMs_map, List.find?_map]
  congr 2
  funext m
  simp

mutual
  theorem limFirst_erase : (t : Ty) → limFirst (eraseEnum t) = limFirst t
    | .prim _ => rfl
    | .byte => rfl
    | .enum _ _ => rfl
    | .struct _ ms => by simp only [eraseEnum, limFirst]; exact limFirstMs_erase_p17 ms ms
    | .union _ arms => by simp only [eraseEnum, limFirst, limFirstArms_erase_p17 arms]
  theorem limFirstMs_erase_p17 (all : List Member) : (ms : List Member) →
      limFirstMs (eraseEnumMs all) (eraseEnumMs ms) = limFirstMs all ms
    | [] => rfl
    | .mk _ t k :: r => by
      simp only [eraseEnumMs, limFirstMs, limFirst_erase t, limFirstMs_erase_p17 all r]
      congr 2
      cases k with
      | limited s l =>
        simp only [find_sizer_erase]
        cases all.find? (fun m => decide (m.kind.sizer? = some s)) with
        | none => rfl
        | some m => simp
      | _ => rfl
  theorem limFirstArms_erase_p17 : (arms : List Arm) → limFirstArms (eraseEnumArms arms) = limFirstArms arms
    | [] => rfl
    | .mk _ _ t :: r => by simp only [eraseEnumArms, limFirstArms, limFirst_erase t, limFirstArms_erase_p17 r]
end

theorem isEmpty_erase (ms : List Member) : (eraseEnumMs ms).isEmpty = ms.isEmpty := by
  cases ms with
  | nil => rfl
  | cons m r => obtain ⟨n, t, k⟩ := m; rfl

theorem find_name_erase (s : String) (l : List Member) :
    (eraseEnumMs l).find? (fun m => m.name == s) = (l.find? (fun m => m.name == s)).map eraseM := by
  rw [eraseEnumMs_map, List.find?_map]
  congr 2
  funext m
  simp

theorem isIntPrim_erase (t : Ty) (h : isIntPrim t = true) : isIntPrim (eraseEnum t) = true := by
  cases t <;> simp_all [isIntPrim, eraseEnum]

theorem eraseEnum_ne_byte (t : Ty) (h : t ≠ .byte) : eraseEnum t ≠ .byte := by
  cases t <;> first | exact Ty.noConfusion | exact absurd rfl h

mutual
  theorem front_erase : (t : Ty) → front t = true → front (eraseEnum t) = true
    | .prim _, _ => rfl
    | .byte, _ => rfl
    | .enum _ _, _ => rfl
    | .struct nm ms, h => by
      simp only [front, Bool.and_eq_true] at h
      simp only [eraseEnum, front, Bool.and_eq_true, isEmpty_erase, names_erase]
      exact ⟨h.1, frontMs_erase_p17 ms ms [] h.2⟩
    | .union nm arms, h => by
      simp only [front, Bool.and_eq_true] at h
      obtain ⟨⟨⟨⟨h1, h2⟩, h3⟩, h4⟩, h5⟩ := h
      obtain ⟨a1, a2, a3, a4, a5⟩ := frontArms_erase_p17 arms h5
      simp only [eraseEnum, front, Bool.and_eq_true, a1, a2, a3, a4]
      exact ⟨⟨⟨⟨h1, h2⟩, h3⟩, h4⟩, a5⟩
  theorem frontMs_erase_p17 (all : List Member) : (ms before : List Member) → frontMs all ms before = true →
      frontMs (eraseEnumMs all) (eraseEnumMs ms) (eraseEnumMs before) = true
    | [], _, _ => by simp [eraseEnumMs, frontMs]
    | .mk n t k :: r, before, h => by
      obtain ⟨h1, h2, h3, h4, h5, h6, h7, h8, h9⟩ := (Accept.frontMs_cons_iff all n t k r before).1 h
      have ih := frontMs_erase_p17 all r (before ++ [Member.mk n t k]) h9
      rw [eraseEnumMs_append] at ih
      refine (Accept.frontMs_cons_iff _ n (eraseEnum t) k (eraseEnumMs r) _).2
        ⟨front_erase t h1, ?_, ?_, ?_, h5, ?_, ?_, ?_, ih⟩
      · rw [nodeTy_erase]; exact h2
      · rw [nodeTy_erase]; exact h3
      · rw [nodeTy_erase]; exact h4
      · intro s hs
        obtain ⟨sn, sty, sk, hfd, hi, ho, ha⟩ := h6 s hs
        rw [find_name_erase, hfd]
        exact ⟨sn, eraseEnum sty, sk, rfl, isIntPrim_erase sty hi, ho, ha⟩
      · rw [nodeTy_erase]
        rcases h7 with rfl | h7
        · exact Or.inl rfl
        · exact Or.inr h7
      · intro hb
        cases t with
        | byte => exact h8 rfl
        | _ => cases hb
  theorem frontArms_erase_p17 : (arms : List Arm) → frontArms arms = true →
      (eraseEnumArms arms).isEmpty = arms.isEmpty ∧
      (eraseEnumArms arms).map (·.name) = arms.map (·.name) ∧
      (eraseEnumArms arms).map (fun a => toString a.disc) = arms.map (fun a => toString a.disc) ∧
      (eraseEnumArms arms).all (fun a => decide (a.disc < 2 ^ 32)) = arms.all (fun a => decide (a.disc < 2 ^ 32)) ∧
      frontArms (eraseEnumArms arms) = true
    | [], _ => by simp [eraseEnumArms, frontArms]
    | .mk n d t :: r, h => by
      obtain ⟨h1, h2, h3, h4⟩ := (Accept.frontArms_cons_iff n d t r).1 h
      obtain ⟨a1, a2, a3, a4, a5⟩ := frontArms_erase_p17 r h4
      refine ⟨rfl, ?_, ?_, ?_, ?_⟩
      · exact congrArg (n :: ·) a2
      · exact congrArg (toString d :: ·) a3
      · exact congrArg (decide (d < 2 ^ 32) && ·) a4
      · exact (Accept.frontArms_cons_iff n d (eraseEnum t) _).2
          ⟨front_erase t h1, (nodeTy_erase t).symm ▸ h2, eraseEnum_ne_byte t h3, a5⟩
end

theorem sizerPrimOf_erase (n : String) (all : List Member) :
    sizerPrimOf n (eraseEnumMs all) = sizerPrimOf n all := by
  unfold sizerPrimOf
  rw [find_name_erase]
  cases all.find? (fun m => m.name == n) with
  | none => rfl
  | some m => obtain ⟨a, t, k⟩ := m; cases t <;> rfl

theorem bound_erase (n : String) (cnt : Nat) (all : List Member) :
    (eraseEnumMs all).filterMap (fun m => if m.kind.sizer? = some n then some (m.name, cnt) else none) =
      all.filterMap (fun m => if m.kind.sizer? = some n then some (m.name, cnt) else none) := by
  rw [eraseEnumMs_map, List.filterMap_map]
  congr 1
  funext m
  simp

theorem lim_erase (n : String) (all : List Member) (g : Member → Option Nat)
    (hg : ∀ m, g (eraseM m) = g m) :
    ((eraseEnumMs all).find? (fun m => decide (m.kind.sizer? = some n))).bind g =
      (all.find? (fun m => decide (m.kind.sizer? = some n))).bind g := by
  rw [find_sizer_erase]
  cases all.find? (fun m => decide (m.kind.sizer? = some n)) with
  | none => rfl
  | some m => simp [hg]

theorem resizeElem_erase (n : String) (all : List Member) :
    resizeElem n (eraseEnumMs all) = resizeElem n all := by
  unfold resizeElem
  rw [find_sizer_erase]
  cases all.find? (fun m => decide (m.kind.sizer? = some n)) with
  | none => rfl
  | some m =>
    obtain ⟨a, t, k⟩ := m
    simp only [Option.map, eraseM, Member.ty, codecSize_erase]
    rfl

theorem decArray_erase (f : Nat → List Nat → DRes Val × Nat) (t : Ty) (cnt size pos : Nat) (rs : List Nat) :
    decArray f (eraseEnum t) cnt size pos rs = decArray f t cnt size pos rs := by
  rw [decArray_eq, decArray_eq, isMessage_erase_p17, codecSize_erase,
    show arrVal (eraseEnum t) = arrVal t by cases t <;> rfl]

theorem memberStep_erase (e : Endian) (all : List Member) (n : String) (t : Ty) (k : MKind) (msize : Nat)
    (data : Bytes) (pos : Nat) (rs : List Nat) (lens : List (String × Nat))
    (elem : Nat → List Nat → DRes Val × Nat) :
    memberStep e (eraseEnumMs all) n (eraseEnum t) k msize data pos rs lens elem =
      memberStep e all n t k msize data pos rs lens elem := by
  unfold memberStep
  cases k with
  | plain =>
    simp only [isSizer_erase, sizerPrimOf_erase, bound_erase, resizeElem_erase]
    rw [lim_erase n all _ (fun m => by cases m; rfl)]
  | optional => simp only [cppAlign_erase, codecSize_erase]
  | fixed c => simp only [decArray_erase]
  | dyn s sh => simp only [decArray_erase]
  | limited s l => simp only [decArray_erase]
  | greedy => simp only [decArray_erase, codecSize_erase]

mutual
  theorem decTy_erase (e : Endian) : (t : Ty) → ∀ (data : Bytes) (pos : Nat) (rs : List Nat),
      decTy e (eraseEnum t) data pos rs = decTy e t data pos rs
    | .prim _, _, _, _ => rfl
    | .byte, _, _, _ => rfl
    | .enum _ _, _, _, _ => rfl
    | .struct nm ms, data, pos, rs => by
      simp only [eraseEnum, decTy, structMembers_erase]
      rw [decMs_erase_p17 e ms ms]
    | .union nm arms, data, pos, rs => by
      have hn := nodeTy_erase (.union nm arms)
      simp only [eraseEnum] at hn
      simp only [eraseEnum, decTy, hn]
      have : ∀ d q r i, decArms e (eraseEnumArms arms) d data q r i = decArms e arms d data q r i :=
        fun d q r i => decArms_erase_p17 e arms d data q r i
      simp only [this]
  theorem decArms_erase_p17 (e : Endian) : (arms : List Arm) → ∀ (disc : Int) (data : Bytes) (pos : Nat)
      (rs : List Nat) (idx : Nat),
      decArms e (eraseEnumArms arms) disc data pos rs idx = decArms e arms disc data pos rs idx
    | [], _, _, _, _, _ => rfl
    | .mk _ d t :: r, disc, data, pos, rs, idx => by
      simp only [eraseEnumArms, decArms, decTy_erase e t, decArms_erase_p17 e r]
  theorem decMs_erase_p17 (e : Endian) (all : List Member) : (ms : List Member) →
      ∀ (ls : List (Nat × Nat × Int)) (data : Bytes) (pos : Nat) (rs : List Nat) (lens : List (String × Nat)),
      decMs e (eraseEnumMs all) (eraseEnumMs ms) ls data pos rs lens = decMs e all ms ls data pos rs lens
    | [], ls, data, pos, rs, lens => by
      simp only [eraseEnumMs, decMs_nil]
    | .mk n t k :: r, [], data, pos, rs, lens => by
      simp only [eraseEnumMs, decMs_nil_layout]
    | .mk n t k :: r, (msize, a, padding) :: ls, data, pos, rs, lens => by
      simp only [eraseEnumMs]
      rw [decMs_cons, decMs_cons, memberStep_erase]
      have hfe : (fun q rs' => decTy e (eraseEnum t) data q rs') = (fun q rs' => decTy e t data q rs') := by
        funext q rs'; exact decTy_erase e t data q rs'
      rw [hfe]
      have : ∀ q x l, decMs e (eraseEnumMs all) (eraseEnumMs r) ls data q x l = decMs e all r ls data q x l :=
        fun q x l => decMs_erase_p17 e all r ls data q x l
      simp only [this]
end

theorem decode_erase (t : Ty) (data : Bytes) (e : Endian) : decode (eraseEnum t) data e = decode t data e := by
  unfold decode
  rw [decTy_erase]

theorem bszPair_erase (t : Ty) (k : MKind) (v : Val) (kind msize : Nat) (padding acc bytes : Int)
    (h1 : byteSizeTy (eraseEnum t) v = byteSizeTy t v)
    (h2 : ∀ xs, v = .arr xs → byteSizeElems (eraseEnum t) xs = byteSizeElems t xs) :
    bszPair (eraseEnum t) k v kind msize padding acc bytes = bszPair t k v kind msize padding acc bytes := by
  unfold bszPair
  rw [nodeTy_erase, h1]
  cases v with
  | arr xs => simp only [h2 xs rfl]
  | _ => rfl

/-- unless a struct value of a struct type is asked for, `get_byte_size` is the static size, which erasure keeps -/
theorem byteSizeTy_erase_of (t : Ty) (v : Val) (h : ∀ nm ms vs, ¬ (t = .struct nm ms ∧ v = .struct vs)) :
    byteSizeTy (eraseEnum t) v = byteSizeTy t v := by
  rw [byteSizeTy_other (eraseEnum t) v ?_, byteSizeTy_other t v h, nodeTy_erase]
  intro nm ms vs h'
  cases t with
  | struct nm' ms' => exact h nm' ms' vs ⟨rfl, h'.2⟩
  | _ => cases h'.1

mutual
  theorem bszTy_erase : (v : Val) → ∀ (t : Ty), byteSizeTy (eraseEnum t) v = byteSizeTy t v
    | .struct vs, t => by
      cases t with
      | struct nm ms =>
        simp only [eraseEnum, byteSizeTy_struct, memsOf_erase, structMembers_erase]
        exact bszMs_erase_p17 vs ms ms _ _ 0 0
      | _ => exact byteSizeTy_erase_of _ _ (fun _ _ _ h => Ty.noConfusion h.1)
    | .int _, t => byteSizeTy_erase_of t _ (fun _ _ _ h => Val.noConfusion h.2)
    | .bytes _, t => byteSizeTy_erase_of t _ (fun _ _ _ h => Val.noConfusion h.2)
    | .arr _, t => byteSizeTy_erase_of t _ (fun _ _ _ h => Val.noConfusion h.2)
    | .union _ _, t => byteSizeTy_erase_of t _ (fun _ _ _ h => Val.noConfusion h.2)
    | .absent, t => byteSizeTy_erase_of t _ (fun _ _ _ h => Val.noConfusion h.2)
    | .present _, t => byteSizeTy_erase_of t _ (fun _ _ _ h => Val.noConfusion h.2)
    | .sizer, t => byteSizeTy_erase_of t _ (fun _ _ _ h => Val.noConfusion h.2)
  theorem bszMs_erase_p17 : (vs : List Val) → ∀ (all ms : List Member) (mems : List PL.Mem)
      (ls : List (Nat × Nat × Int)) (acc bytes : Int),
      byteSizeMs (eraseEnumMs all) (eraseEnumMs ms) vs mems ls acc bytes = byteSizeMs all ms vs mems ls acc bytes
    | [], all, ms, mems, ls, acc, bytes => by
      cases ms with
      | nil => rfl
      | cons m r => obtain ⟨n, t, k⟩ := m; rfl
    | v :: vs, all, ms, mems, ls, acc, bytes => by
      cases ms with
      | nil => rfl
      | cons m r =>
        obtain ⟨n, t, k⟩ := m
        cases mems with
        | nil => rfl
        | cons mem mems =>
          cases ls with
          | nil => rfl
          | cons l ls =>
            obtain ⟨msize, al, padding⟩ := l
            have h1 := bszTy_erase v t
            have h2 : ∀ xs, v = .arr xs → byteSizeElems (eraseEnum t) xs = byteSizeElems t xs := by
              intro xs hv
              cases v with
              | arr ys =>
                injection hv with hv
                subst hv
                exact bszElems_erase_p17 ys t
              | _ => cases hv
            simp only [eraseEnumMs]
            rw [byteSizeMs_unfold, byteSizeMs_unfold, bszPair_erase t k v _ _ _ _ _ h1 h2]
            exact bszMs_erase_p17 vs all r mems ls _ _
  theorem bszElems_erase_p17 : (xs : List Val) → ∀ (t : Ty), byteSizeElems (eraseEnum t) xs = byteSizeElems t xs
    | [], t => rfl
    | x :: xs, t => by
      rw [byteSizeElems_cons, byteSizeElems_cons, bszTy_erase x t, bszElems_erase_p17 xs t]
end

theorem getByteSize_erase (t : Ty) (v : Val) : getByteSize (eraseEnum t) v = getByteSize t v := by
  unfold getByteSize
  rw [bszTy_erase]

theorem boundLens_erase (s : String) : (ms : List Member) → (vs : List Val) →
    boundLens s (eraseEnumMs ms) vs = boundLens s ms vs
  | [], _ => rfl
  | .mk n t k :: r, [] => rfl
  | .mk n t k :: r, v :: vs => by
    have ih := boundLens_erase s r vs
    simp only [eraseEnumMs]
    by_cases hk : k.sizer? = some s
    · rw [boundLens_cons_bound s n _ k _ v vs hk, boundLens_cons_bound s n _ k _ v vs hk, ih]
    · rw [boundLens_cons_skip s n _ k _ v vs hk, boundLens_cons_skip s n _ k _ v vs hk, ih]

theorem agreeMs_erase (ms : List Member) (vs : List Val) : agreeMs (eraseEnumMs ms) vs = agreeMs ms vs := by
  unfold agreeMs
  simp only [Spec.counter, boundLens_erase]
  rw [eraseEnumMs_map, List.all_map]
  congr 1
  funext m
  simp

theorem arms_get_erase : (arms : List Arm) → (idx : Nat) →
    (eraseEnumArms arms)[idx]? = (arms[idx]?).map (fun a => Arm.mk a.name a.disc (eraseEnum a.ty))
  | [], _ => by simp [eraseEnumArms]
  | .mk n d t :: r, 0 => by simp [eraseEnumArms, Arm.name, Arm.disc, Arm.ty]
  | .mk n d t :: r, i + 1 => by simpa [eraseEnumArms] using arms_get_erase r i

mutual
  theorem agreeTy_erase : (v : Val) → ∀ (t : Ty), agreeTy (eraseEnum t) v = agreeTy t v
    | .present x, t => by rw [agreeTy_present, agreeTy_present]; exact agreeTy_erase x t
    | .arr xs, t => by rw [agreeTy_arr, agreeTy_arr]; exact agreeElems_erase_p17 xs t
    | .struct vs, t => by
      cases t with
      | struct nm ms => simp only [eraseEnum, agreeTy, agreeMs_erase, agreeFields_erase_p17 vs ms]
      | _ => simp [eraseEnum, agreeTy]
    | .union idx x, t => by
      cases t with
      | union nm arms =>
        simp only [eraseEnum, agreeTy, arms_get_erase]
        cases arms[idx]? with
        | none => rfl
        | some a =>
          obtain ⟨an, ad, at'⟩ := a
          simp only [Option.map, Arm.ty]
          exact agreeTy_erase x at'
      | _ => simp [eraseEnum, agreeTy]
    | .int _, t => by cases t <;> simp [agreeTy]
    | .bytes _, t => by cases t <;> simp [agreeTy]
    | .absent, t => by cases t <;> simp [agreeTy]
    | .sizer, t => by cases t <;> simp [agreeTy]
  theorem agreeFields_erase_p17 : (vs : List Val) → ∀ (ms : List Member),
      agreeFields (eraseEnumMs ms) vs = agreeFields ms vs
    | [], ms => by
      cases ms with
      | nil => rfl
      | cons m r => obtain ⟨n, t, k⟩ := m; simp [eraseEnumMs, agreeFields]
    | v :: vs, ms => by
      cases ms with
      | nil => rfl
      | cons m r =>
        obtain ⟨n, t, k⟩ := m
        simp only [eraseEnumMs, agreeFields, agreeTy_erase v t, agreeFields_erase_p17 vs r]
  theorem agreeElems_erase_p17 : (xs : List Val) → ∀ (t : Ty), agreeElems (eraseEnum t) xs = agreeElems t xs
    | [], t => by simp [agreeElems]
    | x :: xs, t => by simp only [agreeElems, agreeTy_erase x t, agreeElems_erase_p17 xs t]
end

theorem sizerMax_erase_le (s : String) (all : List Member) : sizerMax s all ≤ sizerMax s (eraseEnumMs all) := by
  unfold sizerMax
  rw [find_name_erase]
  cases all.find? (fun m => m.name == s) with
  | none => simp
  | some m =>
    obtain ⟨a, t, k⟩ := m
    cases t <;> simp [eraseM, eraseEnum, primRange, Prim.isFloat, Prim.isSigned, Prim.size]

theorem lenFits_erase (all : List Member) (k : MKind) (n : Nat) (h : lenFits all k n = true) :
    lenFits (eraseEnumMs all) k n = true := by
  cases k with
  | limited s c =>
    have := sizerMax_erase_le s all
    rw [lenFits_limited] at h ⊢
    exact ⟨h.1, by omega⟩
  | dyn s sh =>
    have := sizerMax_erase_le s all
    rw [lenFits_dyn] at h ⊢
    omega
  | _ => exact h

theorem hasW_cases : WtCases
    (fun all k t v => wfTy t = true → hasField (eraseEnumMs all) k (eraseEnum t) v = true)
    (fun all ms vs => ∀ all0, wfMs all0 ms = true → hasMs (eraseEnumMs all) (eraseEnumMs ms) vs = true)
    (fun t xs => wfTy t = true → hasElems (eraseEnum t) xs = true) where
  sizer all t _ := (hasField_sizer _ _ _).2 rfl
  prim all p i hr _ := by show (true && inRange p i) = true; rw [hr]; rfl
  byte all i hr _ := by show (true && inRange .u8 i) = true; rw [hr]; rfl
  enum all nm es i hany hw := by
    show (true && inRange .u32 i) = true
    rw [inRange_enum es i hw hany]; rfl
  struct all nm ms vs _ ih hw :=
    (hasField_struct_iff _ .plain nm _ vs).2 ⟨rfl, ih ms (wfMs_of_wfTy hw)⟩
  union all nm arms idx an d t x ha hc _ ih hw := by
    have hget : (eraseEnumArms arms)[idx]? = some (.mk an d (eraseEnum t)) := by rw [arms_get_erase, ha]; rfl
    exact (hasField_union_iff _ .plain nm _ idx x an d _ hget).2 ⟨rfl, hc, ih (WF.wfArms_get arms (wfArms_of_wfTy hw) idx _ ha).1⟩
  absent all t _ := (hasField_absent _ _ _).2 rfl
  present all t x hc _ ih hw :=
    (hasField_present _ .optional _ x).2 ⟨rfl, hc, by rw [hasField_plain_indep _ []]; exact ih hw⟩
  bytes all k b hl _ := (hasField_bytes_iff _ k .byte b).2 ⟨rfl, lenFits_erase all k _ hl⟩
  arr all k t xs hb hl _ ih hw := (hasField_arr_iff _ k _ xs).2 ⟨eraseEnum_ne_byte t hb, lenFits_erase all k _ hl, ih hw⟩
  nil all _ _ := rfl
  cons all n t k r v vs hc _ _ ihf ihm all0 hw := by
    obtain ⟨hwt, _, _, _, hwr⟩ := (wfMs_cons all0 n t k r).1 hw
    exact (hasMs_cons _ n _ k _ v vs).2 ⟨by rw [isSizer_erase]; exact hc, ihf hwt, ihm all0 hwr⟩
  enil t _ := hasElems_nil _
  econs t x xs hc _ _ ihf ihe hw := (hasElems_cons _ x xs).2 ⟨hc, ihf hw, ihe hw⟩

theorem hasMsW_of_p17 : (vs : List Val) → ∀ (all all0 ms : List Member), wfMs all0 ms = true →
      hasMs all ms vs = true → hasMs (eraseEnumMs all) (eraseEnumMs ms) vs = true :=
  fun vs all all0 ms hw h => (wt_induct hasW_cases).2.1 vs all ms h all0 hw

theorem hasElemsW_of_p17 : (xs : List Val) → ∀ (t : Ty), wfTy t = true → hasElems t xs = true →
      hasElems (eraseEnum t) xs = true :=
  fun xs t hw h => (wt_induct hasW_cases).2.2 xs t h hw

/-- the weak typing is implied by the full one (for a well-formed schema: enumerators fit 32 bits) -/
theorem hasTypeW_of_hasType (t : Ty) (v : Val) (hw : wfTy t = true) (h : hasType t v = true) :
    hasTypeW t v = true := by
  simp only [hasTypeW, hasType, Bool.and_eq_true] at h ⊢
  exact ⟨h.1, by simpa [eraseEnumMs] using (wt_induct hasW_cases).1 v [] .plain t h.2 hw⟩

mutual
  theorem eraseEnum_of_noEnum : (t : Ty) → noEnum t = true → eraseEnum t = t
    | .prim _, _ => rfl
    | .byte, _ => rfl
    | .enum _ _, h => by simp [noEnum] at h
    | .struct _ ms, h => by
      simp only [noEnum] at h
      simp only [eraseEnum, eraseEnumMs_of_noEnum_p17 ms h]
    | .union _ arms, h => by
      simp only [noEnum] at h
      simp only [eraseEnum, eraseEnumArms_of_noEnum_p17 arms h]
  theorem eraseEnumMs_of_noEnum_p17 : (ms : List Member) → noEnumMs ms = true → eraseEnumMs ms = ms
    | [], _ => rfl
    | .mk _ t _ :: r, h => by
      simp only [noEnumMs, Bool.and_eq_true] at h
      simp only [eraseEnumMs, eraseEnum_of_noEnum t h.1, eraseEnumMs_of_noEnum_p17 r h.2]
  theorem eraseEnumArms_of_noEnum_p17 : (arms : List Arm) → noEnumArms arms = true → eraseEnumArms arms = arms
    | [], _ => rfl
    | .mk _ _ t :: r, h => by
      simp only [noEnumArms, Bool.and_eq_true] at h
      simp only [eraseEnumArms, eraseEnum_of_noEnum t h.1, eraseEnumArms_of_noEnum_p17 r h.2]
end

theorem hasTypeW_of_noEnum (t : Ty) (v : Val) (h : noEnum t = true) : hasTypeW t v = hasType t v := by
  unfold hasTypeW
  rw [eraseEnum_of_noEnum t h]

end Cpp

end Prophy
