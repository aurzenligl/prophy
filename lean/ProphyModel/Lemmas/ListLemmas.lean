/- General facts about lists.  Schema predicates on member and arm lists are conjunctions along the list
   (`f (a :: r) = (p a && f r)`, as `wfArms`, `frontArms`, `okMs`, `msgFitsMs` ...): what the head satisfies, every element
   satisfies.  Association lists (`List.lookup`) and `flatMap`. -/
namespace Prophy

theorem forall_mem_of_cons {α : Type} {f : List α → Bool} {P : α → Prop}
    (hc : ∀ a r, f (a :: r) = true → P a ∧ f r = true) :
    ∀ {l : List α}, f l = true → ∀ a ∈ l, P a
  | [], _, _, h => nomatch h
  | b :: r, hf, a, h => by
    obtain ⟨hb, hr⟩ := hc b r hf
    rcases List.mem_cons.1 h with rfl | h
    · exact hb
    · exact forall_mem_of_cons hc hr a h

theorem get_of_cons {α : Type} {f : List α → Bool} {P : α → Prop}
    (hc : ∀ a r, f (a :: r) = true → P a ∧ f r = true) {l : List α} (h : f l = true) {i : Nat} {a : α}
    (hi : l[i]? = some a) : P a :=
  forall_mem_of_cons hc h a (List.mem_of_getElem? hi)

theorem mem_of_lookup {α β : Type} [BEq α] [LawfulBEq α] {l : List (α × β)} {a : α} {c : β}
    (h : l.lookup a = some c) : (a, c) ∈ l := by
  obtain ⟨l₁, l₂, rfl, _⟩ := List.lookup_eq_some_iff.1 h
  exact List.mem_append_right _ List.mem_cons_self

theorem lookup_cons {α β : Type} [DecidableEq α] (a k : α) (b : β) (c : List (α × β)) :
    List.lookup a ((k, b) :: c) = if a = k then some b else List.lookup a c := by
  rw [List.lookup_cons]
  by_cases h : a = k
  · rw [if_pos h, h, beq_self_eq_true]
  · rw [if_neg h, beq_eq_false_iff_ne.mpr h]

theorem flatMap_congr {α β : Type} {f g : α → List β} {l : List α} (h : ∀ e ∈ l, f e = g e) :
    l.flatMap f = l.flatMap g := by
  rw [List.flatMap_def, List.flatMap_def, List.map_congr_left h]

theorem length_le_flatMap {α β : Type} (f : α → List β) :
    ∀ {l : List α} {e : α}, e ∈ l → (f e).length ≤ (l.flatMap f).length
  | a :: l, e, h => by
    rw [List.flatMap_cons, List.length_append]
    rcases List.mem_cons.mp h with rfl | h
    · omega
    · have := length_le_flatMap f h
      omega

end Prophy
