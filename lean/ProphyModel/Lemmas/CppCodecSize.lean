/- `codec_traits<T>::size` (`Cpp.codecSize`, `elemSz`, `resizeElem`) and the gap behind a 4-byte flag or discriminator:
   the facts about the C++ runtime's constants that encoder and decoder share -/
import ProphyModel.Cpp
namespace Prophy.Cpp

/-- `codec_traits<T>::size > 0 ? size_t(codec_traits<T>::size) : 1` -/
def elemSz (t : Ty) : Nat := if codecSize t > 0 then (codecSize t).toNat else 1

theorem one_le_elemSz (t : Ty) : 1 ≤ elemSz t := by
  unfold elemSz
  split <;> omega

theorem resizeElem_eq (n : String) (all : List Member) :
    resizeElem n all = match all.find? (fun m => m.kind.sizer? = some n) with
      | some m => elemSz m.ty
      | none => 1 := rfl

theorem one_le_resizeElem (n : String) (all : List Member) : 1 ≤ resizeElem n all := by
  rw [resizeElem_eq]
  split
  · exact one_le_elemSz _
  · exact Nat.le_refl _

/-- the gap the codec leaves behind a 4-byte flag or discriminator in front of something aligned to `a` -/
theorem gap_eq (a : Nat) : (if a > 4 then a - 4 else 0) = max 4 a - 4 := by
  split <;> omega

/-- gap between the discriminator and the arms of a union -/
def discPad (n : String) (arms : List Arm) : Nat :=
  if (PL.nodeTy (.union n arms)).align > PL.discSize then (PL.nodeTy (.union n arms)).align - PL.discSize else 0

theorem discPad_eq (n : String) (arms : List Arm) : discPad n arms = max 4 (PL.nodeTy (.union n arms)).align - 4 :=
  gap_eq _

theorem kind0_of_codecSize (t : Ty) (h : codecSize t ≥ 0) : (PL.nodeTy t).kind = 0 := by
  cases t with
  | prim p => rfl
  | byte => rfl
  | enum nm es => rfl
  | struct nm ms =>
    simp only [codecSize] at h
    by_cases hk : (PL.nodeTy (.struct nm ms)).kind = 0
    · exact hk
    · rw [if_neg hk] at h; omega
  | union nm arms => rfl

theorem codecSize_of_kind0 (t : Ty) (hk : (PL.nodeTy t).kind = 0) : codecSize t = ((PL.nodeTy t).size : Int) := by
  cases t with
  | prim p => rfl
  | byte => rfl
  | enum nm es => rfl
  | struct nm ms => simp only [codecSize, hk, if_true]
  | union nm arms => rfl

theorem codecSize_nonneg_of_not_message (t : Ty) (h : isMessage t = false) : codecSize t ≥ 0 := by
  cases t with
  | prim p => exact Int.natCast_nonneg _
  | byte => decide
  | enum nm es => exact (by decide : (4 : Int) ≥ 0)
  | struct nm ms => cases h
  | union nm arms => cases h

end Prophy.Cpp
