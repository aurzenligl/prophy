/-
  copy_from (property C11): a well-typed value has the shape of its type; for EVERY value the copy encodes to the
  same bytes and copying is idempotent.
-/
import ProphyModel.Copy
import ProphyModel.Lemmas.PyEncode
import ProphyModel.Lemmas.CopyEqns
import ProphyModel.Lemmas.TypingLemmas
namespace Prophy
open Prophy Prophy.Copy

theorem Copy.copyField_struct_off_p14 (k : MKind) (t : Ty) (fs : List Val)
    (h : ∀ n ms, t ≠ .struct n ms) : copyField k t (.struct fs) = (.struct fs, true) := by
  cases t with
  | struct n ms => exact absurd rfl (h n ms)
  | _ => rfl

theorem Copy.copyField_union_off_p14 (k : MKind) (t : Ty) (idx : Nat) (v : Val)
    (h : ∀ n arms, t ≠ .union n arms) : copyField k t (.union idx v) = (.union idx v, true) := by
  cases t with
  | union n arms => exact absurd rfl (h n arms)
  | _ => rfl

theorem Copy.shape_cases : WtCases (fun _ _ t v => shapeField t v = true) (fun _ ms vs => shapeMs ms vs = true)
    (fun t xs => shapeElems t xs = true) where
  sizer := fun _ t => by cases t <;> rfl
  prim := fun _ _ _ _ => rfl
  byte := fun _ _ _ => rfl
  enum := fun _ _ _ _ _ => rfl
  struct := fun _ _ _ _ _ ih => ih
  union := fun _ _ arms idx _ _ t x ha _ _ ih => by
    show (match arms[idx]? with | some (.mk _ _ t) => shapeField t x | none => false) = true
    rw [ha]; exact ih
  absent := fun _ t => by cases t <;> rfl
  present := fun _ t x _ _ ih => (shapeField_present t x).trans ih
  bytes := fun _ _ _ _ => rfl
  arr := fun _ _ t xs _ _ _ ih => (shapeField_arr t xs).trans ih
  nil := fun _ => rfl
  cons := fun _ n t k r v vs _ _ _ ihf ihm => by rw [shapeMs_cons, ihf, ihm]; rfl
  enil := fun t => by cases t <;> rfl
  econs := fun t x xs _ _ _ ihf ihe => by rw [shapeElems_cons, ihf, ihe]; rfl

theorem Copy.shape_of_typed :
    (∀ v all k t, hasField all k t v = true → shapeField t v = true) ∧
    (∀ vs all ms, hasMs all ms vs = true → shapeMs ms vs = true) ∧
    (∀ xs t, hasElems t xs = true → shapeElems t xs = true) :=
  wt_induct Copy.shape_cases

theorem Copy.shape_of_hasMs_p14 : (vs : List Val) → ∀ (all ms : List Member),
    hasMs all ms vs = true → shapeMs ms vs = true :=
  Copy.shape_of_typed.2.1

/-! Off-shape values are not copied literally: `copyMs` drops the values of a struct beyond its member
list.  The encoder never looks at them either, and the lengths of arrays (what counters are computed
from) are preserved, so the bytes - or the exception - are the same. -/

theorem Copy.copyElems_length (t : Ty) : (xs : List Val) → (copyElems t xs).1.length = xs.length
  | [] => rfl
  | x :: xs => by
    rw [copyElems_cons]
    exact congrArg Nat.succ (Copy.copyElems_length t xs)

theorem Copy.copyField_len (k : MKind) (t : Ty) (v : Val) : (copyField k t v).1.len = v.len := by
  cases v with
  | arr xs =>
    rw [copyField_arr]
    exact Copy.copyElems_length t xs
  | union idx x =>
    cases t with
    | union n arms =>
      rw [copyField_union]
      cases arms[idx]? with
      | none => rfl
      | some a => cases a; rfl
    | _ => rfl
  | _ => cases t <;> rfl

theorem Copy.boundLens_copy (s : String) : (ms : List Member) → (vs : List Val) →
    boundLens s ms (copyMs ms vs).1 = boundLens s ms vs
  | [], vs => by rw [copyMs_nil_left]; cases vs <;> rfl
  | m :: r, [] => by rw [copyMs_nil_right]
  | .mk n t k :: r, v :: vs => by
    rw [copyMs_cons]
    show (if k.sizer? = some s then (copyField k t v).1.len :: boundLens s r (copyMs r vs).1
      else boundLens s r (copyMs r vs).1) = _
    rw [Copy.copyField_len, Copy.boundLens_copy s r vs]
    rfl

/-- `v'` stands where `v` stood and the encoder cannot tell: the same value, or a set optional / an array / a message
    whose content encodes alike -/
inductive Copy.EncSame (e : Endian) (t : Ty) : Val → Val → Prop
  | refl (v : Val) : Copy.EncSame e t v v
  | present {x x' : Val} (h : Py.encTy e t x' = Py.encTy e t x) : Copy.EncSame e t (.present x') (.present x)
  | arr {xs xs' : List Val} (h : Py.encElems e t xs' = Py.encElems e t xs) : Copy.EncSame e t (.arr xs') (.arr xs)
  | struct {fs fs' : List Val} (h : Py.encTy e t (.struct fs') = Py.encTy e t (.struct fs)) :
      Copy.EncSame e t (.struct fs') (.struct fs)
  | union {i : Nat} {x x' : Val} (h : Py.encTy e t (.union i x') = Py.encTy e t (.union i x)) :
      Copy.EncSame e t (.union i x') (.union i x)

theorem Copy.EncSame.encTy {e : Endian} {t : Ty} {v v' : Val} (h : Copy.EncSame e t v' v) :
    Py.encTy e t v' = Py.encTy e t v := by
  cases h with
  | refl => rfl
  | present => rw [Py.encTy_present, Py.encTy_present]
  | arr => rw [Py.encTy_arr, Py.encTy_arr]
  | struct h => exact h
  | union h => exact h

/-- the body of the loop of struct.encode for such a pair, in a struct whose bound arrays have the same lengths
    (`allv'`: the values of the copied struct) -/
theorem Copy.EncSame.fieldBytes {e : Endian} {t : Ty} {v v' : Val} (h : Copy.EncSame e t v' v) (k : MKind)
    (all : List Member) (allv allv' : List Val) (n : String) (f : Py.St)
    (hb : ∀ s, boundLens s all allv' = boundLens s all allv) :
    Py.fieldBytes e all allv' n t k v' f = Py.fieldBytes e all allv n t k v f := by
  cases k with
  | plain =>
    show (if isSizer n all then do
        let c ← Py.evaluateSize n all allv'
        Py.pack e (Py.sizerPrim t) (c + sizerShift n all)
      else Py.encTy e t v') = (if isSizer n all then do
        let c ← Py.evaluateSize n all allv
        Py.pack e (Py.sizerPrim t) (c + sizerShift n all)
      else Py.encTy e t v)
    rw [h.encTy]
    unfold Py.evaluateSize
    rw [hb]
  | optional =>
    cases h with
    | refl v => cases v <;> rfl
    | present h => exact congrArg (fun m => do
        let flag ← Py.pack e .u32 1
        let b ← m
        pure (Py.ljust flag f.align ++ b)) h
    | _ => rfl
  | limited s c =>
    cases h with
    | refl v => cases v <;> rfl
    | arr h => exact congrArg (fun m => do
        let b ← m
        pure (Py.ljust b f.size)) h
    | _ => rfl
  | fixed c => cases h with
    | refl v => cases v <;> rfl
    | arr h => exact h
    | _ => rfl
  | dyn s sh => cases h with
    | refl v => cases v <;> rfl
    | arr h => exact h
    | _ => rfl
  | greedy => cases h with
    | refl v => cases v <;> rfl
    | arr h => exact h
    | _ => rfl

mutual
  theorem Copy.field_enc : (v : Val) → ∀ (t : Ty) (e : Endian) (k : MKind), Copy.EncSame e t (copyField k t v).1 v
    | .sizer, t, e, k => by rw [copyField_sizer]; exact .refl _
    | .absent, t, e, k => by rw [copyField_absent]; exact .refl _
    | .bytes b, t, e, k => by rw [copyField_bytes]; exact .refl _
    | .int i, t, e, k => by rw [copyField_int]; exact .refl _
    | .present x, t, e, k => by rw [copyField_present]; exact .present (Copy.field_enc x t e .plain).encTy
    | .arr xs, t, e, k => by rw [copyField_arr]; exact .arr (Copy.elems_enc_p14 xs t e)
    | .struct fs, t, e, k => by
      cases t with
      | struct sn ms =>
        rw [copyField_struct]
        refine .struct ?_
        rw [Py.encTy_struct, Py.encTy_struct, Copy.ms_enc_p14 fs ms e ms fs (copyMs ms fs).1
          (Py.stMs ms) (Py.partials (Py.stMs ms)) 0 (fun s => Copy.boundLens_copy s ms fs)]
      | _ => exact .refl _
    | .union idx x, t, e, k => by
      cases t with
      | union un arms =>
        rw [copyField_union]
        cases harm : arms[idx]? with
        | none => exact .refl _
        | some a =>
          obtain ⟨an, ad, at_⟩ := a
          refine .union ?_
          rw [Py.encTy_union e un arms idx _ an ad at_ harm, Py.encTy_union e un arms idx _ an ad at_ harm,
            (Copy.field_enc x at_ e .plain).encTy]
      | _ => exact .refl _
  theorem Copy.ms_enc_p14 : (vs : List Val) → ∀ (ms : List Member) (e : Endian) (all : List Member)
      (allv allv' : List Val) (fs : List Py.St) (ps : List (Option Nat)) (off : Nat),
      (∀ s, boundLens s all allv' = boundLens s all allv) →
      Py.encMs e all allv' ms (copyMs ms vs).1 fs ps off = Py.encMs e all allv ms vs fs ps off
    | [], ms, e, all, allv, allv', fs, ps, off, _ => by
      rw [copyMs_nil_right]
      cases ms with
      | nil => rfl
      | cons m r => cases m; rfl
    | v :: vs, ms, e, all, allv, allv', fs, ps, off, hb => by
      cases ms with
      | nil => rfl
      | cons m r =>
        obtain ⟨n, t, k⟩ := m
        rw [copyMs_cons]
        cases fs with
        | nil => rfl
        | cons f fs =>
          cases ps with
          | nil => rfl
          | cons p ps =>
            rw [Py.encMs_cons, Py.encMs_cons, (Copy.field_enc v t e k).fieldBytes k all allv allv' n f hb]
            cases hbody : Py.fieldBytes e all allv n t k v f with
            | error x => rfl
            | ok body =>
              show Py.encMs e all allv' r (copyMs r vs).1 fs ps _ >>= _ = _
              rw [Copy.ms_enc_p14 vs r e all allv allv' fs ps _ hb]
              rfl
  theorem Copy.elems_enc_p14 : (xs : List Val) → ∀ (t : Ty) (e : Endian),
      Py.encElems e t (copyElems t xs).1 = Py.encElems e t xs
    | [], t, e => rfl
    | x :: xs, t, e => by
      rw [copyElems_cons, Py.encElems_cons, Py.encElems_cons, (Copy.field_enc x t e .plain).encTy,
        Copy.elems_enc_p14 xs t e]
end

theorem Copy.copy_encoding (t : Ty) (v : Val) (e : Endian) :
    Py.encode t (Copy.copyFrom t v).1 e = Py.encode t v e :=
  (Copy.field_enc v t e .plain).encTy

mutual
  theorem Copy.field_idem : (v : Val) → ∀ (k k' : MKind) (t : Ty),
      (copyField k' t (copyField k t v).1).1 = (copyField k t v).1
    | .sizer, k, k', t => by rw [copyField_sizer, copyField_sizer]
    | .absent, k, k', t => by rw [copyField_absent, copyField_absent]
    | .bytes b, k, k', t => by rw [copyField_bytes, copyField_bytes]
    | .int i, k, k', t => by rw [copyField_int, copyField_int]
    | .present x, k, k', t => by
      rw [copyField_present, copyField_present, Copy.field_idem x .plain .plain t]
    | .arr xs, k, k', t => by
      rw [copyField_arr, copyField_arr, Copy.elems_idem_p14 xs t]
    | .struct fs, k, k', t => by
      cases t with
      | struct n ms => rw [copyField_struct, copyField_struct, Copy.ms_idem_p14 fs ms]
      | _ => rfl
    | .union idx x, k, k', t => by
      cases t with
      | union un arms =>
        rw [copyField_union]
        cases harm : arms[idx]? with
        | none =>
          show (copyField k' (.union un arms) (.union idx x)).1 = _
          rw [copyField_union, harm]
        | some a =>
          obtain ⟨an, ad, at_⟩ := a
          show (copyField k' (.union un arms) (.union idx (copyField .plain at_ x).1)).1 = _
          rw [copyField_union, harm]
          show Val.union idx (copyField .plain at_ (copyField .plain at_ x).1).1 = _
          rw [Copy.field_idem x .plain .plain at_]
      | _ => rfl
  theorem Copy.ms_idem_p14 : (vs : List Val) → ∀ (ms : List Member),
      (copyMs ms (copyMs ms vs).1).1 = (copyMs ms vs).1
    | [], ms => by rw [copyMs_nil_right, copyMs_nil_right]
    | v :: vs, ms => by
      cases ms with
      | nil => rw [copyMs_nil_left, copyMs_nil_left]
      | cons m r =>
        obtain ⟨n, t, k⟩ := m
        rw [copyMs_cons, copyMs_cons, Copy.field_idem v k k t, Copy.ms_idem_p14 vs r]
  theorem Copy.elems_idem_p14 : (xs : List Val) → ∀ (t : Ty),
      (copyElems t (copyElems t xs).1).1 = (copyElems t xs).1
    | [], t => rfl
    | x :: xs, t => by
      rw [copyElems_cons, copyElems_cons, Copy.field_idem x .plain .plain t, Copy.elems_idem_p14 xs t]
end

theorem Copy.copy_idempotent (t : Ty) (v : Val) :
    (Copy.copyFrom t (Copy.copyFrom t v).1).1 = (Copy.copyFrom t v).1 :=
  Copy.field_idem v .plain .plain t

/-- values of a struct beyond its member list are dropped (`hasType` excludes such a state): the copy of an arbitrary
    value is not that value, which is why `copy_encoding` and `copy_idempotent` are inductions of their own -/
theorem Copy.copy_eq_untyped_false :
    (Copy.copyFrom (.struct "S" []) (.struct [.int 1])).1 ≠ .struct [.int 1] := by
  intro h
  have h' : Val.struct [] = Val.struct [.int 1] := h
  cases h'

/-- `shared` is not `false` for every type and value: a struct object under a scalar type is stored as it is -/
theorem Copy.shared_false_unrestricted_false : ¬ (∀ (t : Ty) (v : Val), (Copy.copyFrom t v).2 = false) := by
  intro h
  have h' : true = false := h (.prim .u8) (.struct [])
  cases h'

end Prophy

#print axioms Prophy.Copy.copy_encoding
#print axioms Prophy.Copy.copy_idempotent
