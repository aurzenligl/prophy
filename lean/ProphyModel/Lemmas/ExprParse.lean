/-
  The precedence-climbing parser of `Expr.lean` with the operator table as a parameter (`parseWith`, ExprHosts.lean): its
  language, `parseWith_iff_repT : parseWith T.info t = some a ↔ RepT T 0 a t` for every well-formed table `T`, where
  `RepT T l a t` relates a tree `a` to every token list `t` that writes it with the parentheses `T` requires plus
  ANY redundant ones.  At calc's table `parseWith` is `Expr.parse` (`parseWith_binInfo`).
-/
import ProphyModel.Expr
import ProphyModel.ExprHosts
import ProphyModel.Lemmas.ExceptLemmas
namespace Prophy
namespace Expr

section Unfold
variable (info : Tok → Option (Nat × Bool × BinOp))

theorem parseAtomW_zero (t : List Tok) : parseAtomW info 0 t = none := rfl

theorem parseAtomW_num (f : Nat) (n : Nat) (r : List Tok) :
    parseAtomW info (f + 1) (.num n :: r) = some (.num n, r) := rfl

theorem parseAtomW_ident (f : Nat) (s : String) (r : List Tok) :
    parseAtomW info (f + 1) (.ident s :: r) = some (.name s, r) := rfl

theorem parseAtomW_minus (f : Nat) (r : List Tok) :
    parseAtomW info (f + 1) (.minus :: r) =
      match parseAtomW info f r with
      | some (e, r') => some (.neg e, r')
      | none => none := rfl

theorem parseAtomW_lpar (f : Nat) (r : List Tok) :
    parseAtomW info (f + 1) (.lpar :: r) =
      match parseExprW info f 0 r with
      | some (e, .rpar :: r') => some (e, r')
      | _ => none := rfl

theorem parseExprW_zero (m : Nat) (t : List Tok) : parseExprW info 0 m t = none := rfl

theorem parseExprW_succ (f m : Nat) (t : List Tok) :
    parseExprW info (f + 1) m t =
      match parseAtomW info f t with
      | some (lhs, r) => parseLoopW info f m lhs r
      | none => none := rfl

theorem parseLoopW_zero (m : Nat) (a : Ast) (t : List Tok) : parseLoopW info 0 m a t = none := rfl

theorem parseLoopW_nil (f m : Nat) (a : Ast) : parseLoopW info (f + 1) m a [] = some (a, []) := rfl

theorem parseLoopW_cons (f m : Nat) (a : Ast) (t : Tok) (r : List Tok) :
    parseLoopW info (f + 1) m a (t :: r) =
      match info t with
      | some (lvl, rightAssoc, op) =>
        if lvl < m then some (a, t :: r)
        else
          match parseExprW info f (if rightAssoc then lvl else lvl + 1) r with
          | some (rhs, r') => parseLoopW info f m (.bin op a rhs) r'
          | none => none
      | none => some (a, t :: r) := rfl

theorem parseAtomW_nil (f : Nat) : parseAtomW info f [] = none := by
  cases f <;> rfl

theorem parseAtomW_other (f : Nat) (tk : Tok) (r : List Tok)
    (h1 : ∀ n, tk ≠ .num n) (h2 : ∀ s, tk ≠ .ident s) (h3 : tk ≠ .minus) (h4 : tk ≠ .lpar) :
    parseAtomW info f (tk :: r) = none := by
  cases f with
  | zero => exact parseAtomW_zero info _
  | succ f =>
    cases tk with
    | num n => exact absurd rfl (h1 n)
    | ident s => exact absurd rfl (h2 s)
    | minus => exact absurd rfl h3
    | lpar => exact absurd rfl h4
    | _ => simp only [parseAtomW] <;> rfl

end Unfold

theorem parseAtom_minus (f : Nat) (r : List Tok) :
    parseAtom (f + 1) (.minus :: r) =
      match parseAtom f r with
      | some (e, r') => some (.neg e, r')
      | none => none := rfl

theorem parseAtom_lpar (f : Nat) (r : List Tok) :
    parseAtom (f + 1) (.lpar :: r) =
      match parseExpr f 0 r with
      | some (e, .rpar :: r') => some (e, r')
      | _ => none := rfl

theorem parseExpr_succ (f m : Nat) (t : List Tok) :
    parseExpr (f + 1) m t =
      match parseAtom f t with
      | some (lhs, r) => parseLoop f m lhs r
      | none => none := rfl

theorem parseLoop_cons (f m : Nat) (a : Ast) (t : Tok) (r : List Tok) :
    parseLoop (f + 1) m a (t :: r) =
      match binInfo t with
      | some (lvl, rightAssoc, op) =>
        if lvl < m then some (a, t :: r)
        else
          match parseExpr f (if rightAssoc then lvl else lvl + 1) r with
          | some (rhs, r') => parseLoop f m (.bin op a rhs) r'
          | none => none
      | none => some (a, t :: r) := rfl

theorem parseW_binInfo (f : Nat) :
    (∀ t, parseAtomW binInfo f t = parseAtom f t) ∧
    (∀ m t, parseExprW binInfo f m t = parseExpr f m t) ∧
    (∀ m a t, parseLoopW binInfo f m a t = parseLoop f m a t) := by
  induction f with
  | zero =>
    refine ⟨?_, ?_, ?_⟩
    · exact fun t => rfl
    · exact fun m t => rfl
    · exact fun m a t => rfl
  | succ f ih =>
    obtain ⟨ihA, ihE, ihL⟩ := ih
    refine ⟨?_, ?_, ?_⟩
    · intro t
      cases t with
      | nil => rfl
      | cons tk tl =>
        cases tk with
        | num n => rfl
        | ident s => rfl
        | minus => rw [parseAtomW_minus, parseAtom_minus, ihA]
        | lpar => rw [parseAtomW_lpar, parseAtom_lpar, ihE]
        | _ => simp [parseAtomW, parseAtom]
    · intro m t
      rw [parseExprW_succ, parseExpr_succ, ihA]
      cases parseAtom f t with
      | none => rfl
      | some p => exact ihL _ _ _
    · intro m a t
      cases t with
      | nil => rfl
      | cons tk tl =>
        rw [parseLoopW_cons, parseLoop_cons]
        cases binInfo tk with
        | none => rfl
        | some q =>
          obtain ⟨lv, ra, op⟩ := q
          simp only
          rw [ihE]
          split
          · rfl
          · cases parseExpr f (if ra = true then lv else lv + 1) tl with
            | none => rfl
            | some p => exact ihL _ _ _

theorem parseWith_binInfo : parseWith binInfo = parse := by
  funext t
  unfold parseWith parse
  rw [(parseW_binInfo _).2.1]; rfl

def lvl : BinOp → Nat
  | .bor => 0
  | .add => 1 | .sub => 1
  | .mul => 2 | .div => 2
  | .shl => 3 | .shr => 3

def rassoc : BinOp → Bool
  | .bor => true
  | _ => false

def opTok : BinOp → Tok
  | .bor => .bar
  | .add => .plus | .sub => .minus
  | .mul => .star | .div => .slash
  | .shl => .shl | .shr => .shr

/-- minimum level at which the parser reads the RIGHT operand of `op` -/
def nxt (op : BinOp) : Nat := if rassoc op then lvl op else lvl op + 1
/-- minimum level an unparenthesised LEFT operand of `op` must have -/
def lnx (op : BinOp) : Nat := if rassoc op then lvl op + 1 else lvl op

theorem lvl_le_three (op : BinOp) : lvl op ≤ 3 := by cases op <;> decide

/-- a precedence table: level and associativity of every binary operator
    (unary minus is above all of them, level 4, in calc, Python and C++ alike) -/
structure Table where
  lv : BinOp → Nat
  ra : BinOp → Bool

def Table.info (T : Table) : Tok → Option (Nat × Bool × BinOp)
  | .bar => some (T.lv .bor, T.ra .bor, .bor)
  | .plus => some (T.lv .add, T.ra .add, .add)
  | .minus => some (T.lv .sub, T.ra .sub, .sub)
  | .star => some (T.lv .mul, T.ra .mul, .mul)
  | .slash => some (T.lv .div, T.ra .div, .div)
  | .shl => some (T.lv .shl, T.ra .shl, .shl)
  | .shr => some (T.lv .shr, T.ra .shr, .shr)
  | _ => none

/-- levels are below unary minus, and one level has one associativity (as in every yacc table and
    in the grammars of Python and C++) -/
structure Table.WF (T : Table) : Prop where
  le3 : ∀ op, T.lv op ≤ 3
  coh : ∀ op op', T.lv op = T.lv op' → T.ra op = T.ra op'

def Table.nxt (T : Table) (op : BinOp) : Nat := if T.ra op then T.lv op else T.lv op + 1
def Table.lnx (T : Table) (op : BinOp) : Nat := if T.ra op then T.lv op + 1 else T.lv op

def calcT : Table := ⟨lvl, rassoc⟩

theorem calcT_info : calcT.info = binInfo := by
  funext t; cases t <;> rfl

theorem calcT_wf : calcT.WF :=
  ⟨lvl_le_three, by intro op op'; cases op <;> cases op' <;> decide⟩

theorem Table.info_opTok (T : Table) (op : BinOp) :
    T.info (opTok op) = some (T.lv op, T.ra op, op) := by
  cases op <;> rfl

theorem Table.info_inv (T : Table) {tk : Tok} {lv : Nat} {ra : Bool} {op : BinOp}
    (h : T.info tk = some (lv, ra, op)) : tk = opTok op ∧ lv = T.lv op ∧ ra = T.ra op := by
  cases tk <;> simp [Table.info] at h <;> (obtain ⟨rfl, rfl, rfl⟩ := h; exact ⟨rfl, rfl, rfl⟩)

theorem Table.lv_le_lnx (T : Table) (op : BinOp) : T.lv op ≤ T.lnx op := by
  unfold Table.lnx; split <;> omega

section Generic
variable (info : Tok → Option (Nat × Bool × BinOp))

theorem parseW_mono_step (f : Nat) :
    (∀ t r, parseAtomW info f t = some r → parseAtomW info (f + 1) t = some r) ∧
    (∀ m t r, parseExprW info f m t = some r → parseExprW info (f + 1) m t = some r) ∧
    (∀ m a t r, parseLoopW info f m a t = some r → parseLoopW info (f + 1) m a t = some r) := by
  induction f with
  | zero =>
    refine ⟨?_, ?_, ?_⟩
    · intro t r h; rw [parseAtomW_zero] at h; cases h
    · intro m t r h; rw [parseExprW_zero] at h; cases h
    · intro m a t r h; rw [parseLoopW_zero] at h; cases h
  | succ f ih =>
    obtain ⟨ihA, ihE, ihL⟩ := ih
    refine ⟨?_, ?_, ?_⟩
    · intro t r h
      cases t with
      | nil => rw [parseAtomW_nil] at h; cases h
      | cons tk tl =>
        cases tk with
        | num n => rw [parseAtomW_num] at h ⊢; exact h
        | ident s => rw [parseAtomW_ident] at h ⊢; exact h
        | minus =>
          rw [parseAtomW_minus] at h ⊢
          cases h1 : parseAtomW info f tl with
          | none => rw [h1] at h; cases h
          | some p => rw [ihA _ _ h1]; rw [h1] at h; exact h
        | lpar =>
          rw [parseAtomW_lpar] at h ⊢
          cases h1 : parseExprW info f 0 tl with
          | none => rw [h1] at h; cases h
          | some p => rw [ihE _ _ _ h1]; rw [h1] at h; exact h
        | _ => simp [parseAtomW] at h
    · intro m t r h
      rw [parseExprW_succ] at h ⊢
      cases h1 : parseAtomW info f t with
      | none => rw [h1] at h; cases h
      | some p =>
        obtain ⟨lhs, r'⟩ := p
        rw [ihA _ _ h1]; rw [h1] at h
        exact ihL _ _ _ _ h
    · intro m a t r h
      cases t with
      | nil => rw [parseLoopW_nil] at h ⊢; exact h
      | cons tk tl =>
        rw [parseLoopW_cons] at h ⊢
        cases hb : info tk with
        | none => rw [hb] at h; exact h
        | some q =>
          obtain ⟨lv, ra, op⟩ := q
          rw [hb] at h
          simp only at h ⊢
          by_cases hl : lv < m
          · simp only [hl, if_true] at h ⊢; exact h
          · simp only [hl, if_false] at h ⊢
            cases h1 : parseExprW info f (if ra = true then lv else lv + 1) tl with
            | none => rw [h1] at h; cases h
            | some p =>
              obtain ⟨rhs, r'⟩ := p
              rw [ihE _ _ _ h1]; rw [h1] at h
              exact ihL _ _ _ _ h

variable {info}

theorem parseAtomW_mono {f f' : Nat} {t : List Tok} {r} (h : parseAtomW info f t = some r)
    (hf : f ≤ f') : parseAtomW info f' t = some r :=
  mono_of_succ (P := fun f => parseAtomW info f t = some r) (fun _ => (parseW_mono_step info _).1 _ _) hf h

theorem parseExprW_mono {f f' : Nat} {m : Nat} {t : List Tok} {r}
    (h : parseExprW info f m t = some r) (hf : f ≤ f') : parseExprW info f' m t = some r :=
  mono_of_succ (P := fun f => parseExprW info f m t = some r) (fun _ => (parseW_mono_step info _).2.1 _ _ _) hf h

theorem parseLoopW_mono {f f' : Nat} {m : Nat} {a : Ast} {t : List Tok} {r}
    (h : parseLoopW info f m a t = some r) (hf : f ≤ f') : parseLoopW info f' m a t = some r :=
  mono_of_succ (P := fun f => parseLoopW info f m a t = some r) (fun _ => (parseW_mono_step info _).2.2 _ _ _ _) hf h

theorem parseExprW_of {F fa fl m : Nat} {t : List Tok} {lhs : Ast} {r' : List Tok} {r}
    (ha : parseAtomW info fa t = some (lhs, r')) (hl : parseLoopW info fl m lhs r' = some r)
    (h1 : fa < F) (h2 : fl < F) : parseExprW info F m t = some r := by
  obtain ⟨F, rfl⟩ : ∃ k, F = k + 1 := ⟨F - 1, by omega⟩
  rw [parseExprW_succ, parseAtomW_mono ha (by omega)]
  exact parseLoopW_mono hl (by omega)

theorem parseLoopW_op {F fe fl m lv : Nat} {ra : Bool} {op : BinOp} {a rhs : Ast} {tk : Tok}
    {tl r' : List Tok} {r}
    (hb : info tk = some (lv, ra, op)) (hm : ¬ lv < m)
    (he : parseExprW info fe (if ra then lv else lv + 1) tl = some (rhs, r'))
    (hl : parseLoopW info fl m (.bin op a rhs) r' = some r)
    (h1 : fe < F) (h2 : fl < F) : parseLoopW info F m a (tk :: tl) = some r := by
  obtain ⟨F, rfl⟩ : ∃ k, F = k + 1 := ⟨F - 1, by omega⟩
  rw [parseLoopW_cons, hb]
  simp only [hm, if_false]
  rw [parseExprW_mono he (by omega)]
  exact parseLoopW_mono hl (by omega)

/-- `rest` does not start with a binary operator of level `≥ k` -/
def okRestW (info : Tok → Option (Nat × Bool × BinOp)) (k : Nat) (rest : List Tok) : Prop :=
  ∀ t r lv ra op, rest = t :: r → info t = some (lv, ra, op) → lv < k

theorem okRestW_nil (k : Nat) : okRestW info k [] := by
  intro t r lv ra op h; cases h

theorem okRestW_mono {k k' : Nat} {rest : List Tok} (h : okRestW info k rest) (hk : k ≤ k') :
    okRestW info k' rest := by
  intro t r lv ra op h1 h2
  have := h t r lv ra op h1 h2
  omega

theorem parseLoopW_stop {F m : Nat} {a : Ast} {rest : List Tok} (h : okRestW info m rest)
    (hF : 0 < F) : parseLoopW info F m a rest = some (a, rest) := by
  obtain ⟨F, rfl⟩ : ∃ k, F = k + 1 := ⟨F - 1, by omega⟩
  cases rest with
  | nil => rw [parseLoopW_nil]
  | cons tk tl =>
    rw [parseLoopW_cons]
    cases hb : info tk with
    | none => rfl
    | some q =>
      obtain ⟨lv, ra, op⟩ := q
      have := h tk tl lv ra op rfl hb
      simp only [this, if_true]

theorem parseAtomW_neg_of {F f : Nat} {t r : List Tok} {e : Ast}
    (h : parseAtomW info f t = some (e, r)) (hf : f < F) :
    parseAtomW info F (.minus :: t) = some (.neg e, r) := by
  obtain ⟨F, rfl⟩ : ∃ k, F = k + 1 := ⟨F - 1, by omega⟩
  rw [parseAtomW_minus, parseAtomW_mono h (by omega)]

theorem parseAtomW_paren_of {F f : Nat} {t r : List Tok} {e : Ast}
    (h : parseExprW info f 0 t = some (e, .rpar :: r)) (hf : f < F) :
    parseAtomW info F (.lpar :: t) = some (e, r) := by
  obtain ⟨F, rfl⟩ : ∃ k, F = k + 1 := ⟨F - 1, by omega⟩
  rw [parseAtomW_lpar, parseExprW_mono h (by omega)]

end Generic

theorem Table.okRest_rpar (T : Table) (k : Nat) (r : List Tok) : okRestW T.info k (.rpar :: r) := by
  intro t r lv ra op h hb
  cases h
  simp [Table.info] at hb

/-- `RepT T l a t`: the token list `t` writes the tree `a`, at table `T`, in a context that admits
    unparenthesised binary operators of level `≥ l` only; parentheses may be added anywhere and
    omitted only where `T` allows it. -/
inductive RepT (T : Table) : Nat → Ast → List Tok → Prop
  | num (l n : Nat) : RepT T l (.num n) [.num n]
  | name (l : Nat) (s : String) : RepT T l (.name s) [.ident s]
  | neg (l : Nat) (e : Ast) (t : List Tok) : RepT T 4 e t → RepT T l (.neg e) (.minus :: t)
  | bin (l : Nat) (op : BinOp) (x y : Ast) (tx ty : List Tok) :
      l ≤ T.lv op → RepT T (T.lnx op) x tx → RepT T (T.nxt op) y ty →
      RepT T l (.bin op x y) (tx ++ opTok op :: ty)
  | paren (l : Nat) (a : Ast) (t : List Tok) : RepT T 0 a t → RepT T l a (.lpar :: t ++ [.rpar])

/-- what may follow a representation at level `l` without being absorbed into its last operand:
    no operator above `l`, and none AT `l` either when level `l` is right-associative -/
def condT (T : Table) (l : Nat) (rest : List Tok) : Prop :=
  okRestW T.info (l + 1) rest ∧ (∀ op, T.ra op = true → T.lv op = l → okRestW T.info l rest)

theorem condT_of_okRest {T : Table} {l : Nat} {rest : List Tok} (h : okRestW T.info l rest) :
    condT T l rest :=
  ⟨okRestW_mono h (by omega), fun _ _ _ => h⟩

/-- continuation form, so that the induction goes through a left operand: parsing `t ++ rest` does whatever the operator
    loop does with `a` on `rest` (fuel: that of the loop plus two per token); a level-4 text is read by `parseAtomW` -/
theorem RepT.parse_cont {T : Table} (hT : T.WF) {l : Nat} {a : Ast} {t : List Tok} (h : RepT T l a t) :
    (∀ m rest r f0, m ≤ l → condT T l rest → parseLoopW T.info f0 m a rest = some r →
        parseExprW T.info (f0 + 2 * t.length) m (t ++ rest) = some r) ∧
    (4 ≤ l → ∀ rest, parseAtomW T.info (2 * t.length) (t ++ rest) = some (a, rest)) := by
  induction h with
  | num l n =>
    refine ⟨?_, ?_⟩
    · intro m rest r f0 _ _ hL
      exact parseExprW_of (fa := 1) (parseAtomW_num _ 0 n rest) hL (by simp) (by simp)
    · intro _ rest
      exact parseAtomW_num _ 1 n rest
  | name l s =>
    refine ⟨?_, ?_⟩
    · intro m rest r f0 _ _ hL
      exact parseExprW_of (fa := 1) (parseAtomW_ident _ 0 s rest) hL (by simp) (by simp)
    · intro _ rest
      exact parseAtomW_ident _ 1 s rest
  | neg l e t _ ih =>
    have hA := ih.2 (Nat.le_refl 4)
    refine ⟨?_, ?_⟩
    · intro m rest r f0 _ _ hL
      refine parseExprW_of (fa := 2 * t.length + 1) ?_ hL ?_ ?_
      · exact parseAtomW_neg_of (hA rest) (by omega)
      · simp only [List.length_cons]; omega
      · simp only [List.length_cons]; omega
    · intro _ rest
      exact parseAtomW_neg_of (hA rest) (by simp only [List.length_cons]; omega)
  | bin l op x y tx ty hl _ _ ihx ihy =>
    refine ⟨?_, ?_⟩
    · intro m rest r f0 hm hc hL
      have hlist : (tx ++ opTok op :: ty) ++ rest = tx ++ (opTok op :: (ty ++ rest)) := by simp
      rw [hlist]
      have hlnx := T.lv_le_lnx op
      -- `rest` is not absorbed into the right operand
      have hok : okRestW T.info (T.nxt op) rest := by
        by_cases hr : T.ra op = true
        · have hn : T.nxt op = T.lv op := by simp [Table.nxt, hr]
          rw [hn]
          by_cases hlt : l = T.lv op
          · exact hlt ▸ hc.2 op hr hlt.symm
          · exact okRestW_mono hc.1 (by omega)
        · have hn : T.nxt op = T.lv op + 1 := by simp [Table.nxt, hr]
          exact okRestW_mono hc.1 (by omega)
      have hcy : condT T (T.nxt op) rest := condT_of_okRest hok
      have hcx : condT T (T.lnx op) (opTok op :: (ty ++ rest)) := by
        refine ⟨?_, ?_⟩
        · intro t r lv ra o h1 h2
          cases h1
          rw [T.info_opTok] at h2
          cases h2
          omega
        · intro op' hr' hlv' t r lv ra o h1 h2
          cases h1
          rw [T.info_opTok] at h2
          cases h2
          by_cases hr : T.ra op = true
          · simp [Table.lnx, hr]
          · exfalso
            have h1 : T.lnx op = T.lv op := by simp [Table.lnx, hr]
            have := hT.coh op' op (by omega)
            rw [hr'] at this
            exact hr this.symm
      have hy := ihy.1 (T.nxt op) rest (y, rest) 1 (Nat.le_refl _) hcy
        (parseLoopW_stop hok (by omega))
      have hstep : parseLoopW T.info (f0 + 2 * ty.length + 2) m x (opTok op :: (ty ++ rest)) = some r := by
        refine parseLoopW_op (T.info_opTok op) (by omega) (fe := 1 + 2 * ty.length) (fl := f0)
          ?_ hL (by omega) (by omega)
        exact hy
      have := ihx.1 m (opTok op :: (ty ++ rest)) r _ (by omega) hcx hstep
      refine parseExprW_mono this ?_
      simp only [List.length_append, List.length_cons]; omega
    · intro h4
      have := hT.le3 op
      omega
  | paren l a t _ ih =>
    have hin : ∀ rest, parseExprW T.info (1 + 2 * t.length) 0 (t ++ (.rpar :: rest)) = some (a, .rpar :: rest) :=
      fun rest => ih.1 0 (.rpar :: rest) (a, .rpar :: rest) 1 (Nat.le_refl _)
        (condT_of_okRest (T.okRest_rpar _ _)) (parseLoopW_stop (T.okRest_rpar _ _) (by omega))
    have hlist : ∀ rest, (Tok.lpar :: t ++ [Tok.rpar]) ++ rest = Tok.lpar :: (t ++ (.rpar :: rest)) := by
      intro rest; simp
    refine ⟨?_, ?_⟩
    · intro m rest r f0 _ _ hL
      rw [hlist]
      refine parseExprW_of (fa := 2 * t.length + 2) ?_ hL ?_ ?_
      · exact parseAtomW_paren_of (hin rest) (by omega)
      · simp only [List.length_append, List.length_cons, List.length_nil]; omega
      · simp only [List.length_append, List.length_cons, List.length_nil]; omega
    · intro _ rest
      rw [hlist]
      refine parseAtomW_paren_of (hin rest) ?_
      simp only [List.length_append, List.length_cons, List.length_nil]; omega

theorem RepT.parseExpr_append {T : Table} (hT : T.WF) {l : Nat} {a : Ast} {t : List Tok}
    (h : RepT T l a t) (rest : List Tok) (hrest : okRestW T.info l rest) (F : Nat)
    (hF : 2 * t.length + 1 ≤ F) : parseExprW T.info F l (t ++ rest) = some (a, rest) := by
  have := (h.parse_cont hT).1 l rest (a, rest) 1 (Nat.le_refl _) (condT_of_okRest hrest)
    (parseLoopW_stop hrest (by omega))
  exact parseExprW_mono this (by omega)

theorem RepT.parse_eq {T : Table} (hT : T.WF) {a : Ast} {t : List Tok} (h : RepT T 0 a t) :
    parseWith T.info t = some a := by
  have := h.parseExpr_append hT [] (okRestW_nil 0) (4 * t.length + 4) (by omega)
  rw [List.append_nil] at this
  unfold parseWith
  rw [this]

/-- invariant of the operator loop: the tokens `t1` read so far write the left operand `lhs` at level `m`, and also at
    the level the next operator (if it is taken, `m ≤ lv`) asks of its left operand -/
def LoopInvT (T : Table) (m : Nat) (lhs : Ast) (t1 t : List Tok) : Prop :=
  RepT T m lhs t1 ∧
  ∀ tk tl lv ra op, t = tk :: tl → T.info tk = some (lv, ra, op) → m ≤ lv → RepT T (T.lnx op) lhs t1

/-- what each parser function has read when it succeeds: an atom (any level), an expression at level `m` with a rest
    that is not absorbed, the loop from a left operand satisfying `LoopInvT` -/
theorem parseW_sound {T : Table} (hT : T.WF) (f : Nat) :
    (∀ t a r, parseAtomW T.info f t = some (a, r) → ∃ t0, t = t0 ++ r ∧ ∀ l, RepT T l a t0) ∧
    (∀ m t a r, parseExprW T.info f m t = some (a, r) →
        ∃ t0, t = t0 ++ r ∧ RepT T m a t0 ∧ okRestW T.info m r) ∧
    (∀ m lhs t a r, parseLoopW T.info f m lhs t = some (a, r) → ∀ t1, LoopInvT T m lhs t1 t →
        ∃ t0, t1 ++ t = t0 ++ r ∧ RepT T m a t0 ∧ okRestW T.info m r) := by
  induction f with
  | zero =>
    refine ⟨?_, ?_, ?_⟩
    · intro t a r h; rw [parseAtomW_zero] at h; cases h
    · intro m t a r h; rw [parseExprW_zero] at h; cases h
    · intro m lhs t a r h; rw [parseLoopW_zero] at h; cases h
  | succ f ih =>
    obtain ⟨ihA, ihE, ihL⟩ := ih
    refine ⟨?_, ?_, ?_⟩
    · intro t a r h
      cases t with
      | nil => rw [parseAtomW_nil] at h; cases h
      | cons tk tl =>
        cases tk with
        | num n =>
          rw [parseAtomW_num] at h
          cases h
          exact ⟨[.num n], rfl, fun l => .num l n⟩
        | ident s =>
          rw [parseAtomW_ident] at h
          cases h
          exact ⟨[.ident s], rfl, fun l => .name l s⟩
        | minus =>
          rw [parseAtomW_minus] at h
          cases h1 : parseAtomW T.info f tl with
          | none => rw [h1] at h; cases h
          | some p =>
            obtain ⟨e, r'⟩ := p
            rw [h1] at h
            cases h
            obtain ⟨t0, ht, hrep⟩ := ihA _ _ _ h1
            exact ⟨.minus :: t0, by rw [ht]; rfl, fun l => .neg l e t0 (hrep 4)⟩
        | lpar =>
          rw [parseAtomW_lpar] at h
          cases h1 : parseExprW T.info f 0 tl with
          | none => rw [h1] at h; cases h
          | some p =>
            obtain ⟨e, r'⟩ := p
            rw [h1] at h
            cases r' with
            | nil => cases h
            | cons tk2 r2 =>
              cases tk2 with
              | rpar =>
                cases h
                obtain ⟨t0, ht, hrep, _⟩ := ihE _ _ _ _ h1
                exact ⟨.lpar :: t0 ++ [.rpar], by rw [ht]; simp, fun l => .paren l _ t0 hrep⟩
              | _ => cases h
        | _ => simp [parseAtomW] at h
    · intro m t a r h
      rw [parseExprW_succ] at h
      cases h1 : parseAtomW T.info f t with
      | none => rw [h1] at h; cases h
      | some p =>
        obtain ⟨lhs, r1⟩ := p
        rw [h1] at h
        obtain ⟨t0, ht, hrep⟩ := ihA _ _ _ h1
        obtain ⟨t0', ht', hrep', hok⟩ := ihL _ _ _ _ _ h t0 ⟨hrep m, fun _ _ _ _ op _ _ _ => hrep (T.lnx op)⟩
        exact ⟨t0', by rw [ht, ht'], hrep', hok⟩
    · intro m lhs t a r h t1 hinv
      cases t with
      | nil =>
        rw [parseLoopW_nil] at h
        cases h
        exact ⟨t1, rfl, hinv.1, okRestW_nil m⟩
      | cons tk tl =>
        rw [parseLoopW_cons] at h
        cases hb : T.info tk with
        | none =>
          rw [hb] at h
          cases h
          refine ⟨t1, rfl, hinv.1, ?_⟩
          intro t' r' lv ra op he hb'
          cases he
          rw [hb] at hb'; cases hb'
        | some q =>
          obtain ⟨lv, ra, op⟩ := q
          rw [hb] at h
          simp only at h
          by_cases hl : lv < m
          · simp only [hl, if_true] at h
            cases h
            refine ⟨t1, rfl, hinv.1, ?_⟩
            intro t' r' lv' ra' op' he hb'
            cases he
            rw [hb] at hb'; cases hb'
            exact hl
          · simp only [hl, if_false] at h
            obtain ⟨htk, hlv, hra⟩ := T.info_inv hb
            cases h1 : parseExprW T.info f (if ra = true then lv else lv + 1) tl with
            | none => rw [h1] at h; cases h
            | some p =>
              obtain ⟨rhs, r'⟩ := p
              rw [h1] at h
              have hnx : (if ra = true then lv else lv + 1) = T.nxt op := by
                rw [hlv, hra]; rfl
              rw [hnx] at h1
              obtain ⟨ty, hty, hrepy, hoky⟩ := ihE _ _ _ _ h1
              have hx : RepT T (T.lnx op) lhs t1 := hinv.2 tk tl lv ra op rfl hb (by omega)
              have hinv' : LoopInvT T m (.bin op lhs rhs) (t1 ++ opTok op :: ty) r' := by
                refine ⟨.bin m op lhs rhs t1 ty (by omega) hx hrepy, ?_⟩
                intro tk2 tl2 lv2 ra2 op2 he2 hb2 _
                have h2 := hoky tk2 tl2 lv2 ra2 op2 he2 hb2
                obtain ⟨_, hlv2, _⟩ := T.info_inv hb2
                refine .bin _ op lhs rhs t1 ty ?_ hx hrepy
                subst hlv2
                -- `lv op2 < nxt op → lnx op2 ≤ lv op`
                by_cases hr : T.ra op = true
                · have : T.nxt op = T.lv op := by simp [Table.nxt, hr]
                  have : T.lnx op2 ≤ T.lv op2 + 1 := by unfold Table.lnx; split <;> omega
                  omega
                · have hn : T.nxt op = T.lv op + 1 := by simp [Table.nxt, hr]
                  by_cases he : T.lv op2 = T.lv op
                  · have := hT.coh op2 op he
                    have : T.lnx op2 = T.lv op2 := by
                      unfold Table.lnx; rw [this]; simp [hr]
                    omega
                  · have : T.lnx op2 ≤ T.lv op2 + 1 := by unfold Table.lnx; split <;> omega
                    omega
              obtain ⟨t0, ht0, hrep0, hok0⟩ := ihL _ _ _ _ _ h _ hinv'
              refine ⟨t0, ?_, hrep0, hok0⟩
              rw [← ht0, hty, htk]; simp

theorem parseWith_iff_repT {T : Table} (hT : T.WF) (t : List Tok) (a : Ast) :
    parseWith T.info t = some a ↔ RepT T 0 a t := by
  constructor
  · intro h
    unfold parseWith at h
    cases h1 : parseExprW T.info (4 * t.length + 4) 0 t with
    | none => rw [h1] at h; cases h
    | some p =>
      obtain ⟨e, r⟩ := p
      rw [h1] at h
      cases r with
      | cons _ _ => cases h
      | nil =>
        injection h with h; subst h
        obtain ⟨t0, ht, hrep, _⟩ := (parseW_sound hT _).2.1 _ _ _ _ h1
        rw [List.append_nil] at ht
        rw [ht]; exact hrep
  · exact RepT.parse_eq hT

end Expr
end Prophy

#print axioms Prophy.Expr.parseWith_binInfo
#print axioms Prophy.Expr.parseWith_iff_repT
