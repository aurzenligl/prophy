/- little-endian byte lists, two's complement, the ranges of the scalar types -/
import ProphyModel.Typing
namespace Prophy

theorem leVal_leBytes (k n : Nat) : leVal (leBytes k n) = n % 256 ^ k := by
  induction k generalizing n with
  | zero => simp [leBytes, leVal, Nat.mod_one]
  | succ k ih =>
    simp only [leBytes, leVal, ih]
    have h : (UInt8.ofNat (n % 256)).toNat = n % 256 := by
      simp [UInt8.toNat_ofNat']
    rw [h, Nat.pow_succ, Nat.mul_comm (256 ^ k) 256, Nat.mod_mul]

theorem scalarVal_scalarBytes (e : Endian) (k n : Nat) : scalarVal e (scalarBytes e k n) = n % 256 ^ k := by
  cases e <;> simp [scalarVal, scalarBytes, leVal_leBytes]

theorem leVal_lt (bs : Bytes) : leVal bs < 256 ^ bs.length := by
  induction bs with
  | nil => simp [leVal]
  | cons b r ih =>
    have hb : b.toNat < 256 := UInt8.toNat_lt b
    simp only [leVal, List.length_cons, Nat.pow_succ]
    omega

theorem scalarVal_lt (e : Endian) (bs : Bytes) : scalarVal e bs < 256 ^ bs.length := by
  cases e
  · exact leVal_lt bs
  · have := leVal_lt bs.reverse
    simpa [scalarVal] using this

theorem toUnsigned_lt (k : Nat) (i : Int) : toUnsigned k i < 256 ^ k := by
  unfold toUnsigned
  have hpos : (0 : Int) < ((256 ^ k : Nat) : Int) := by
    have : 0 < 256 ^ k := Nat.pow_pos (by decide)
    omega
  have h1 := Int.emod_lt_of_pos i hpos
  have h0 := Int.emod_nonneg i (Int.ne_of_gt hpos)
  omega

theorem toSigned_toUnsigned (k : Nat) (i : Int)
    (hlo : -((256 ^ k / 2 : Nat) : Int) ≤ i) (hhi : i ≤ ((256 ^ k / 2 : Nat) : Int) - 1) (hk : 0 < k) :
    toSigned k (toUnsigned k i) = i := by
  have heven : 256 ^ k = 2 * (256 ^ k / 2) := by
    obtain ⟨j, rfl⟩ : ∃ j, k = j + 1 := ⟨k - 1, by omega⟩
    rw [Nat.pow_succ]; omega
  generalize hM : 256 ^ k / 2 = H at *
  unfold toSigned toUnsigned
  rw [heven]
  by_cases hneg : i < 0
  · have : i % ((2 * H : Nat) : Int) = i + (2 * H : Nat) := by
      rw [← Int.add_emod_right i ((2 * H : Nat) : Int)]
      exact Int.emod_eq_of_lt (by omega) (by omega)
    rw [this]
    split <;> omega
  · have : i % ((2 * H : Nat) : Int) = i := Int.emod_eq_of_lt (by omega) (by omega)
    rw [this]
    split <;> omega

theorem toUnsigned_nonneg (k : Nat) (i : Int) (h0 : 0 ≤ i) (h1 : i ≤ ((256 ^ k : Nat) : Int) - 1) :
    ((toUnsigned k i : Nat) : Int) = i := by
  unfold toUnsigned
  have : i % ((256 ^ k : Nat) : Int) = i := Int.emod_eq_of_lt h0 (by omega)
  rw [this]; omega

theorem primRange_pos (p : Prim) (h : p.isFloat = false) : 0 < (primRange p).2 := by
  cases p <;> simp [primRange, Prim.isFloat, Prim.isSigned, Prim.size] at h ⊢

theorem primRange_nonfloat (p : Prim) (h : p.isFloat = false) :
    (primRange p).1 ≤ 0 ∧ (primRange p).2 ≤ ((256 ^ p.size : Nat) : Int) - 1 := by
  cases p <;> simp_all [primRange, Prim.isFloat, Prim.isSigned, Prim.size]

theorem toUnsigned_nat (k n : Nat) (h : n < 256 ^ k) : toUnsigned k (n : Int) = n := by
  have := toUnsigned_nonneg k (n : Int) (by omega) (by omega)
  omega

theorem inRange_nat_lt (p : Prim) (n : Nat) (h : inRange p (n : Int) = true) : n < 256 ^ p.size := by
  simp only [inRange, Bool.and_eq_true, decide_eq_true_eq] at h
  have h2 := h.2
  cases p <;> simp [primRange, Prim.isFloat, Prim.isSigned, Prim.size] at h2 ⊢ <;> omega

theorem inRange_u32 (n : Nat) (h : n < 2 ^ 32) : inRange .u32 (n : Int) = true := by
  simp [inRange, primRange, Prim.isFloat, Prim.isSigned, Prim.size]; omega

theorem inRange_enum (es : List (String × Nat)) (i : Int)
    (hw : es.all (fun en => decide (en.2 < 2 ^ 32)) = true) (h : es.any (fun e => (e.2 : Int) == i) = true) :
    inRange .u32 i = true := by
  obtain ⟨en, hen, heq⟩ := List.any_eq_true.1 h
  have := List.all_eq_true.1 hw en hen
  simp only [decide_eq_true_eq] at this
  have hi : (en.2 : Int) = i := by simpa using heq
  rw [← hi]; exact inRange_u32 _ this

theorem scalarBytes_one (e : Endian) (x : UInt8) : scalarBytes e 1 x.toNat = [x] := by
  have h : x.toNat % 256 = x.toNat := Nat.mod_eq_of_lt (UInt8.toNat_lt x)
  cases e <;> simp [scalarBytes, leBytes, h]

theorem Prim.isSigned_of_float (p : Prim) (h : p.isFloat = true) : p.isSigned = false := by
  cases p <;> simp_all [Prim.isFloat, Prim.isSigned]

theorem Prim.size_pos (p : Prim) : 0 < p.size := by cases p <;> simp [Prim.size]

theorem signed_roundtrip (p : Prim) (i : Int) (hr : inRange p i = true) :
    (if p.isSigned = true then toSigned p.size (toUnsigned p.size i) else ((toUnsigned p.size i : Nat) : Int)) = i := by
  simp only [inRange, Bool.and_eq_true, decide_eq_true_eq] at hr
  unfold primRange at hr
  by_cases hf : p.isFloat = true
  · rw [Prim.isSigned_of_float p hf]
    rw [hf] at hr
    simp only [if_true] at hr
    simp only [Bool.false_eq_true, if_false]
    rw [toUnsigned_nonneg p.size i hr.1 hr.2]
  · have hf' : p.isFloat = false := by simpa using hf
    rw [hf'] at hr
    simp only [Bool.false_eq_true, if_false] at hr
    by_cases hs : p.isSigned = true
    · rw [hs] at hr
      simp only [if_true] at hr
      simp only [hs, if_true]
      rw [toSigned_toUnsigned p.size i hr.1 hr.2 (Prim.size_pos p)]
    · have hs' : p.isSigned = false := by simpa using hs
      rw [hs'] at hr
      simp only [Bool.false_eq_true, if_false] at hr
      simp only [hs', Bool.false_eq_true, if_false]
      rw [toUnsigned_nonneg p.size i hr.1 hr.2]

end Prophy
