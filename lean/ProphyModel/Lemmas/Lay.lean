/- prophyc's member list of a struct (size, alignment after the partial paddings, signed padding): as `PL.structSize`
   computes it (`padsFrom`, `lsFrom`), then in the document's terms (`Cpp.lay`, `structMembers_eq_lay`), and the one
   invariant of every walk over it, `LayInv`: in front of the remaining members the offset reached agrees with prophyc's
   static offset modulo every alignment of the current block.  `.init` starts it; two ways to go on: `.step` (at the
   offset reached) and `.restart` (the next block at an origin of the consumer's own: the raw parts).  `namespace Cpp`:
   the C++ generators consume `member.padding`; C04 and the raw view read the same list. -/
import ProphyModel.Lemmas.PLayoutSpec
import ProphyModel.Lemmas.Walk
namespace Prophy

namespace PL

/-- the padding `structSize` records after the last member; `A` the struct's alignment, `d`: some member is dynamic -/
def plastOf (A : Nat) (d : Bool) (last : Mem) (bs : Nat) : Int :=
  if d then (if last.align < A then -(A : Int) else (padTo bs A : Int)) else (padTo bs A : Int)

/-- paddings of `prev` and the members `r` after it; `bs` is the static offset after `prev` -/
def padsFrom (A : Nat) (d : Bool) : Mem → List Mem → Nat → List Int
  | prev, [], bs => [plastOf A d prev bs]
  | prev, m :: r, bs =>
    (if isMemberDynamic prev && prev.align < m.align then -(m.align : Int) else (padTo bs m.align : Int))
      :: padsFrom A d m r (bs + m.size + padTo bs m.align)

theorem sizeLoop_pads (A : Nat) (d : Bool) : (r : List Mem) → (prev : Mem) → (bs : Nat) →
    (sizeLoop r prev bs).2.1 ++ [plastOf A d (sizeLoop r prev bs).2.2 (sizeLoop r prev bs).1] = padsFrom A d prev r bs
  | [], _, _ => rfl
  | m :: r, prev, bs => by
    have ih := sizeLoop_pads A d r m (bs + m.size + padTo bs m.align)
    simp only [sizeLoop, padsFrom, List.cons_append]
    rw [← ih]

theorem structSize_pads (m : Mem) (r : List Mem) :
    (structSize (m :: r)).2.2 =
      padsFrom (maxAlign (m :: r)) ((m :: r).any isMemberDynamic) m r (m.size + padTo 0 m.align) := by
  rw [← sizeLoop_pads]
  simp only [structSize, plastOf]

theorem padsFrom_nil (A : Nat) (d : Bool) (prev : Mem) (bs : Nat) :
    padsFrom A d prev [] bs = [padBetween d prev.align A bs] := by
  simp only [padsFrom, plastOf, padBetween]
  cases d <;> simp

theorem padsFrom_cons (A : Nat) (d : Bool) (prev m : Mem) (r : List Mem) (bs : Nat) :
    padsFrom A d prev (m :: r) bs =
      padBetween (isMemberDynamic prev) prev.align m.align bs :: padsFrom A d m r (alignUp bs m.align + m.size) := by
  simp only [padsFrom, padBetween, alignUp]
  congr 2; omega

/-- the member as evaluate_partial_padding_size leaves it: its alignment is the block's (`r` follows it) if `first` -/
def curMem (first : Bool) (n : String) (t : Ty) (k : MKind) (r : List Member) : Mem :=
  { memOf (nodeTy t) k with
    align := if first then Spec.blockAlign (.mk n t k :: r) else Spec.alignMember (.mk n t k) }

theorem curMem_align_single (ad : Bool) (n : String) (t : Ty) (k : MKind) :
    (curMem ad n t k []).align = Spec.alignMember (.mk n t k) := by
  cases ad <;> simp [curMem, Spec.blockAlign_single]

theorem bump_memsOf_cons (n : String) (t : Ty) (k : MKind) (r : List Member)
    (ad : Bool) (h : Cpp.okMs (.mk n t k :: r) = true) :
    bump (memsOf (.mk n t k :: r)) ad =
      curMem ad n t k r :: bump (memsOf r) (endsPart (memOf (nodeTy t) k)) := by
  have hpm := partMax_memsOf_ok (.mk n t k :: r) h (by simp)
  simp only [memsOf] at hpm ⊢
  rw [bump_cons, hpm, memOf_align_member n t k]
  rfl

theorem any_bump : (l : List Mem) → (b : Bool) → (bump l b).any isMemberDynamic = l.any isMemberDynamic
  | [], _ => rfl
  | m :: r, b => by
    simp only [bump, List.any_cons, any_bump r]
    cases b <;> rfl

theorem any_isMemberDynamic_memsOf : (ms : List Member) → Cpp.okMs ms = true →
    (memsOf ms).any isMemberDynamic = Spec.dynMs ms
  | [], _ => rfl
  | .mk n t k :: r, h => by
    simp only [memsOf, List.any_cons, Spec.dynMs_cons, isMemberDynamic_memOf_endsBlock_ok n t k (.of_okMs h),
      any_isMemberDynamic_memsOf r (Cpp.okMs_tail h)]

/-- the triples (size, alignment, padding) of `cur :: rest` as `structSize` leaves them -/
def lsFrom (A : Nat) (d : Bool) (cur : Mem) (rest : List Mem) (bs : Nat) : List (Nat × Nat × Int) :=
  ((cur :: rest).zip (padsFrom A d cur rest bs)).map (fun (m, p) => (m.size, m.align, p))

theorem lsFrom_nil (A : Nat) (d : Bool) (cur : Mem) (bs : Nat) :
    lsFrom A d cur [] bs = [(cur.size, cur.align, plastOf A d cur bs)] := rfl

theorem structMembers_eq_lsFrom_ok (n : String) (t : Ty) (k : MKind) (r : List Member)
    (hok : Cpp.okMs (.mk n t k :: r) = true) :
    structMembers (.mk n t k :: r) =
      lsFrom (Spec.alignMs (.mk n t k :: r)) (Spec.dynMs (.mk n t k :: r)) (curMem false n t k r)
        (bump (memsOf r) (endsPart (memOf (nodeTy t) k))) (0 + (memOf (nodeTy t) k).size) := by
  have hb := bump_memsOf_cons n t k r false hok
  have hA : maxAlign (bump (memsOf (.mk n t k :: r)) false) = Spec.alignMs (.mk n t k :: r) := by
    rw [maxAlign_bump, memsOf_align _ (by simp)]
  have hd : (bump (memsOf (.mk n t k :: r)) false).any isMemberDynamic = Spec.dynMs (.mk n t k :: r) := by
    rw [any_bump, any_isMemberDynamic_memsOf _ hok]
  show ((bump (memsOf (.mk n t k :: r)) false).zip (structSize (bump (memsOf (.mk n t k :: r)) false)).2.2).map _ = _
  rw [hb] at hA hd ⊢
  rw [structSize_pads, hA, hd, padTo_zero, Nat.add_zero, Nat.zero_add]
  rfl

end PL

namespace Cpp

/-- `member.byte_size`: the static size of the member (0 for dynamic and greedy arrays) -/
def mslot (m : Member) : Nat := (PL.memOf (PL.nodeTy m.ty) m.kind).size

/-- the alignment the document pads to before the first of `ms`; `ad` (`afterDyn` in `Spec.endMs`, `first` in `PL.bump`):
    the member before it ended its block, so to the block alignment.  The nonempty case is by definition the `a` of
    `Spec.endMs`/`chunksMs` and stands for it unfolded; at the struct's end: the struct's alignment `S` -/
def aN (S : Nat) (ad : Bool) : List Member → Nat
  | [] => S
  | m :: r => if ad then Spec.blockAlign (m :: r) else Spec.alignMember m

/-- is the padding after `m` allowed to be an alignment request?  (`any`, `padsFrom`'s `d`: the struct has a dynamic member) -/
def dynFlag (any : Bool) (m : Member) : List Member → Bool
  | [] => any
  | _ :: _ => Spec.endsBlock m

/-- the signed padding after member `m` (followed by `r`); `bs1` is the static offset after `m` -/
def padOf (S : Nat) (any : Bool) (m : Member) (r : List Member) (bs1 : Nat) : Int :=
  if dynFlag any m r && decide (Spec.alignMember m < aN S (Spec.endsBlock m) r)
  then -((aN S (Spec.endsBlock m) r : Nat) : Int) else ((padTo bs1 (aN S (Spec.endsBlock m) r) : Nat) : Int)

/-- `PL.structMembers` from the member at static offset `bs` on -/
def lay (S : Nat) (any : Bool) : List Member → Bool → Nat → List (Nat × Nat × Int)
  | [], _, _ => []
  | m :: r, ad, bs =>
    (mslot m, aN S ad (m :: r), padOf S any m r (bs + mslot m)) ::
      lay S any r (Spec.endsBlock m) (alignUp (bs + mslot m) (aN S (Spec.endsBlock m) r))

theorem aN_nil (S : Nat) (ad : Bool) : aN S ad [] = S := rfl
theorem aN_cons_false (S : Nat) (m : Member) (r : List Member) : aN S false (m :: r) = Spec.alignMember m := rfl
theorem aN_cons_true (S : Nat) (m : Member) (r : List Member) : aN S true (m :: r) = Spec.blockAlign (m :: r) := rfl

theorem lay_cons (S : Nat) (any : Bool) (m : Member) (r : List Member) (ad : Bool) (bs : Nat) :
    lay S any (m :: r) ad bs =
      (mslot m, aN S ad (m :: r), padOf S any m r (bs + mslot m)) ::
        lay S any r (Spec.endsBlock m) (alignUp (bs + mslot m) (aN S (Spec.endsBlock m) r)) := rfl

theorem padOf_eq (S : Nat) (any : Bool) (m : Member) (r : List Member) (bs1 : Nat) :
    padOf S any m r bs1 = PL.padBetween (dynFlag any m r) (Spec.alignMember m) (aN S (Spec.endsBlock m) r) bs1 := rfl

theorem padOf_static (S : Nat) (m : Member) (r : List Member) (b : Nat) (he : Spec.endsBlock m = false) :
    padOf S false m r b = ((padTo b (aN S false r) : Nat) : Int) := by
  unfold padOf dynFlag
  cases r <;> simp [he]

theorem aN_isAl (S : Nat) (hS : IsAl S) (ad : Bool) (ms : List Member) : IsAl (aN S ad ms) := by
  cases ms with
  | nil => exact hS
  | cons m r =>
    cases ad
    · exact Spec.alignMember_isAl m
    · exact Spec.blockAlign_isAl _

theorem alignMember_dvd_aN (S : Nat) (ad : Bool) (m : Member) (r : List Member) :
    Spec.alignMember m ∣ aN S ad (m :: r) := by
  cases ad
  · exact Nat.dvd_refl _
  · exact Spec.alignMember_dvd_blockAlign m r

theorem aN_dvd (S : Nat) (hS : IsAl S) (ad : Bool) (ms : List Member) (h : ∀ m ∈ ms, Spec.alignMember m ∣ S) :
    aN S ad ms ∣ S := by
  cases ms with
  | nil => exact Nat.dvd_refl _
  | cons m r =>
    cases ad
    · exact h m (List.mem_cons_self ..)
    · exact Spec.blockAlign_dvd S hS _ h

/-- prophyc's list from member `(n, t, k)` on, `bump` applied to it, is `lay` from it on: the alignment `bump` gave it
    matters to its padding only if it ends its block, and then it is its own -/
theorem lsFrom_eq_lay (S : Nat) (any : Bool) : (r : List Member) → ∀ (n : String) (t : Ty) (k : MKind)
    (ad : Bool) (bs : Nat), okMs (.mk n t k :: r) = true →
    PL.lsFrom S any (PL.curMem ad n t k r) (PL.bump (PL.memsOf r) (PL.endsPart (PL.memOf (PL.nodeTy t) k)))
        (bs + (PL.memOf (PL.nodeTy t) k).size)
      = lay S any (.mk n t k :: r) ad bs
  | [], n, t, k, ad, bs, _ => by
    have hs : aN S ad [.mk n t k] = Spec.alignMember (.mk n t k) := PL.curMem_align_single ad n t k
    simp only [PL.lsFrom, PL.memsOf, PL.bump, PL.padsFrom_nil, List.zip_cons_cons, List.zip_nil_right, List.map_cons,
      List.map_nil, lay, padOf_eq, dynFlag, aN_nil, hs]
    rw [PL.curMem_align_single]; rfl
  | .mk n' t' k' :: r', n, t, k, ad, bs, ho => by
    obtain ⟨_, _, _, _, hl, hr⟩ := (okMs_cons n t k _).1 ho
    have hM := MemberOk.of_okMs ho
    obtain ⟨_, hk2⟩ := hl.resolve_left (by simp)
    have hd : PL.isMemberDynamic (PL.curMem ad n t k (.mk n' t' k' :: r')) = Spec.endsBlock (.mk n t k) :=
      PL.isMemberDynamic_memOf_endsBlock_ok n t k hM
    have ih := lsFrom_eq_lay S any r' n' t' k' (Spec.endsBlock (.mk n t k))
      (alignUp (bs + mslot (.mk n t k)) (aN S (Spec.endsBlock (.mk n t k)) (.mk n' t' k' :: r'))) hr
    unfold PL.lsFrom at ih ⊢
    rw [PL.endsPart_memOf_ok n t k hM hk2, PL.bump_memsOf_cons n' t' k' r' _ hr, PL.padsFrom_cons,
      List.zip_cons_cons, List.map_cons]
    refine List.cons_eq_cons.2 ⟨Prod.ext rfl (Prod.ext rfl ?_), ih⟩
    show PL.padBetween _ (if ad then _ else _) _ _ = PL.padBetween (Spec.endsBlock (.mk n t k)) _ _ _
    rw [hd]
    cases hb : Spec.endsBlock (.mk n t k)
    · simp only [PL.padBetween, Bool.false_and]; rfl
    · rw [Spec.blockAlign_of_endsBlock _ _ hb, ite_self]; rfl

theorem structMembers_eq_lay (ms : List Member) (ho : okMs ms = true) :
    PL.structMembers ms = lay (Spec.alignMs ms) (Spec.dynMs ms) ms false 0 := by
  cases ms with
  | nil => rfl
  | cons m r =>
    obtain ⟨n, t, k⟩ := m
    exact (PL.structMembers_eq_lsFrom_ok n t k r ho).trans (lsFrom_eq_lay _ _ r n t k false 0 ho)

/-- the walk in front of the remaining members `ms` of a struct of alignment `S` (`any`: it has a dynamic member;
    `ms = []`: at its end): `off0` is the offset reached in the encoding, before the padding to `aN S ad ms`; `bs` the
    static offset prophyc computed for the first of `ms` (every dynamic array empty), after that padding (`bsdvd`).  They
    agree modulo `A`, which every alignment of the current block divides (`blk`), and the struct's if there is no dynamic
    member (`anyA`); `anyd`: a dynamic member still to come makes `any` true.  `A` changes along the walk (the next
    alignment after a block end); `.init`, `.step`, `.restart` choose it, callers never look at it. -/
structure LayInv (S : Nat) (any : Bool) (ms : List Member) (ad : Bool) (off0 bs A : Nat) : Prop where
  bsdvd : aN S ad ms ∣ bs
  cong : alignUp off0 (aN S ad ms) % A = bs % A
  blk : Spec.blockAlign ms ∣ A
  anyA : any = false → S ∣ A
  anyd : Spec.dynMs ms = true → any = true
  memS : ∀ m ∈ ms, Spec.alignMember m ∣ S

theorem LayInv.init (ms : List Member) :
    LayInv (Spec.alignMs ms) (Spec.dynMs ms) ms false 0 0 (Spec.alignMs ms) := by
  have hmem : ∀ m ∈ ms, Spec.alignMember m ∣ Spec.alignMs ms := fun m hm => Spec.alignMember_dvd_alignMs m ms hm
  exact ⟨Nat.dvd_zero _, by rw [alignUp_zero], Spec.blockAlign_dvd _ (Spec.alignMs_isAl ms) ms hmem,
    fun _ => Nat.dvd_refl _, id, hmem⟩

/-- the member starts aligned at every base that is a multiple of `S` -/
theorem LayInv.dvd_pos {S : Nat} {any : Bool} {m : Member} {r : List Member} {ad : Bool} {off0 bs A : Nat} (hS : IsAl S)
    (inv : LayInv S any (m :: r) ad off0 bs A) {base : Nat} (hb : S ∣ base) :
    Spec.alignMember m ∣ base + alignUp off0 (aN S ad (m :: r)) :=
  Nat.dvd_add (Nat.dvd_trans (inv.memS _ (List.mem_cons_self ..)) hb)
    (Nat.dvd_trans (alignMember_dvd_aN S ad m r) (dvd_alignUp _ _ (aN_isAl S hS ad (m :: r)).pos))

/-- after a member that ends its block the padding may be an alignment request -/
theorem LayInv.dynFlag_of_endsBlock {S : Nat} {any : Bool} {m : Member} {r : List Member} {ad : Bool} {off0 bs A : Nat}
    (inv : LayInv S any (m :: r) ad off0 bs A) (he : Spec.endsBlock m = true) : dynFlag any m r = true := by
  cases r with
  | nil => exact inv.anyd (Spec.dynMs_of_endsBlock m [] he)
  | cons m' r' => exact he

/-- after a member that ends its block the walk is in front of the next block at any offset `x` -/
theorem LayInv.restart {S : Nat} {any : Bool} {m : Member} {r : List Member} {ad : Bool} {off0 bs A : Nat} (hS : IsAl S)
    (inv : LayInv S any (m :: r) ad off0 bs A) (he : Spec.endsBlock m = true) (x : Nat) :
    LayInv S any r true x (alignUp (bs + mslot m) (aN S true r)) (aN S true r) := by
  have hp := (aN_isAl S hS true r).pos
  refine ⟨dvd_alignUp _ _ hp, ?_, ?_, fun h => ?_, fun h => inv.anyd (Spec.dynMs_tail m _ h),
    fun x hx => inv.memS x (List.mem_cons_of_mem _ hx)⟩
  · rw [Nat.mod_eq_zero_of_dvd (dvd_alignUp _ _ hp), Nat.mod_eq_zero_of_dvd (dvd_alignUp _ _ hp)]
  · cases r with
    | nil => exact Nat.one_dvd _
    | cons m' r' => exact Nat.dvd_refl _
  · have := inv.anyd (Spec.dynMs_of_endsBlock m r he)
    rw [h] at this; cases this

/-- One step of the walk.  `m` starts at `alignUp off0 (aN S ad (m :: r))` and takes `L` bytes; the padding recorded
    after it then leads to the next place of the documented layout (the next member, the next block, or the struct's
    end), at any base address that is a multiple of `S`; and the walk is in front of `r`. -/
theorem LayInv.step {S : Nat} {any : Bool} {m : Member} {r : List Member} {ad : Bool} {off0 bs A L : Nat} (hS : IsAl S)
    (inv : LayInv S any (m :: r) ad off0 bs A) (hL : PL.LenOk m L (mslot m)) :
    (∀ base, S ∣ base →
      padLen (padOf S any m r (bs + mslot m)) (base + alignUp off0 (aN S ad (m :: r)) + L)
        = padTo (alignUp off0 (aN S ad (m :: r)) + L) (aN S (Spec.endsBlock m) r)) ∧
    ∃ A', LayInv S any r (Spec.endsBlock m) (alignUp off0 (aN S ad (m :: r)) + L)
      (alignUp (bs + mslot m) (aN S (Spec.endsBlock m) r)) A' := by
  have hmemS : ∀ x ∈ r, Spec.alignMember x ∣ S := fun x hx => inv.memS x (List.mem_cons_of_mem _ hx)
  have hanyd : Spec.dynMs r = true → any = true := fun h => inv.anyd (Spec.dynMs_tail m r h)
  have ha'al := aN_isAl S hS (Spec.endsBlock m) r
  have ha'S : aN S (Spec.endsBlock m) r ∣ S := aN_dvd S hS _ r hmemS
  have hmoff : Spec.alignMember m ∣ alignUp off0 (aN S ad (m :: r)) :=
    Nat.dvd_trans (alignMember_dvd_aN S ad m r) (dvd_alignUp _ _ (aN_isAl S hS ad (m :: r)).pos)
  have hmbs : Spec.alignMember m ∣ bs := Nat.dvd_trans (alignMember_dvd_aN S ad m r) inv.bsdvd
  have hmA : Spec.alignMember m ∣ A := Nat.dvd_trans (Spec.alignMember_dvd_blockAlign m r) inv.blk
  have hcong := inv.cong
  generalize alignUp off0 (aN S ad (m :: r)) = off at *
  generalize ha' : aN S (Spec.endsBlock m) r = a' at *
  have hdvd' := dvd_alignUp (off + L) a' ha'al.pos
  have hdvd := dvd_alignUp (bs + mslot m) a' ha'al.pos
  -- unless the padding is an alignment request, the two offsets after `m` agree modulo the next alignment
  have key : (dynFlag any m r && decide (Spec.alignMember m < a')) = false → (off + L) % a' = (bs + mslot m) % a' := by
    intro hc
    cases he : Spec.endsBlock m with
    | true =>
      -- after a dynamic member both are multiples of its alignment, which is at least the next one
      have hle : a' ≤ Spec.alignMember m := by simpa [inv.dynFlag_of_endsBlock he] using hc
      have hd := IsAl.dvd_of_le ha'al (Spec.alignMember_isAl m) hle
      obtain ⟨hL1, hL2⟩ := hL.dyn he
      rw [Nat.mod_eq_zero_of_dvd (Nat.dvd_trans hd (Nat.dvd_add hmoff hL1)),
        Nat.mod_eq_zero_of_dvd (Nat.dvd_trans hd (Nat.dvd_add hmbs hL2))]
    | false =>
      -- after a static member: same length, and the next alignment divides the modulus `A`
      rw [hL.stat he]
      refine add_mod_congr _ _ _ _ (mod_of_dvd_mod _ _ _ A ?_ hcong)
      cases r with
      | cons m' r' =>
        rw [he] at ha'; subst ha'
        exact Nat.dvd_trans (Spec.alignMember_dvd_blockAlign m' r') (Nat.dvd_trans (Spec.blockAlign_tail_dvd m _ he) inv.blk)
      | nil =>
        have : a' = S := ha'.symm
        subst this
        cases hany : any with
        | false => exact inv.anyA hany
        | true =>
          have hle : a' ≤ Spec.alignMember m := by simpa [Cpp.dynFlag, hany] using hc
          exact Nat.dvd_trans (IsAl.dvd_of_le hS (Spec.alignMember_isAl m) hle) hmA
  refine ⟨fun base hb => ?_, ?_⟩
  · have hx : (base + off + L) % a' = (off + L) % a' := by
      rw [Nat.add_assoc, Nat.add_mod, Nat.mod_eq_zero_of_dvd (Nat.dvd_trans ha'S hb), Nat.zero_add, Nat.mod_mod]
    have h := PL.applyPad_padBetween (Cpp.dynFlag any m r) (Spec.alignMember m) a' (bs + mslot m) (base + off + L)
      ha'al.pos (fun hc => hx.trans (key hc))
    rw [applyPad_eq, alignUp, padTo_congr a' _ _ hx] at h
    rw [padOf_eq, ha']
    omega
  · subst ha'
    cases he : Spec.endsBlock m with
    | true => exact ⟨_, inv.restart hS he _⟩
    | false =>
      rw [he] at hdvd hdvd'
      cases r with
      | nil =>
        -- the struct's end after a static member: both offsets are padded to `S`
        exact ⟨aN S false [], hdvd, by rw [Nat.mod_eq_zero_of_dvd hdvd', Nat.mod_eq_zero_of_dvd hdvd], Nat.one_dvd _,
          fun _ => Nat.dvd_refl _, hanyd, hmemS⟩
      | cons m' r' =>
        -- inside a block the modulus stays
        have hB := Nat.dvd_trans (Spec.blockAlign_tail_dvd m _ he) inv.blk
        refine ⟨A, hdvd, ?_, hB, inv.anyA, hanyd, hmemS⟩
        rw [hL.stat he]
        exact alignUp_congr _ _ _ A (Nat.dvd_trans (Spec.alignMember_dvd_blockAlign m' r') hB) (add_mod_congr _ _ _ _ hcong)

/-- the invariant holds as well at the offset already padded to `aN S ad ms` -/
theorem LayInv.aligned {S : Nat} {any : Bool} {ms : List Member} {ad : Bool} {off0 bs A : Nat} (hS : IsAl S)
    (inv : LayInv S any ms ad off0 bs A) : LayInv S any ms ad (alignUp off0 (aN S ad ms)) bs A :=
  ⟨inv.bsdvd, by rw [alignUp_idem _ _ (aN_isAl S hS ad ms).pos]; exact inv.cong, inv.blk, inv.anyA, inv.anyd, inv.memS⟩

/-- after a member that ends its block prophyc's padding is an alignment request or 0 -/
theorem LayInv.padOf_ends {S : Nat} {any : Bool} {m : Member} {r : List Member} {ad : Bool} {off0 bs A L : Nat}
    (hS : IsAl S) (inv : LayInv S any (m :: r) ad off0 bs A) (hL : PL.LenOk m L (mslot m))
    (he : Spec.endsBlock m = true) (h0 : 0 ≤ padOf S any m r (bs + mslot m)) : padOf S any m r (bs + mslot m) = 0 := by
  have ha'al := aN_isAl S hS (Spec.endsBlock m) r
  unfold padOf at h0 ⊢
  rw [inv.dynFlag_of_endsBlock he, Bool.true_and] at h0 ⊢
  split at h0
  · have := ha'al.pos; omega
  · rename_i hc
    rw [if_neg hc, padTo_eq_zero_of_dvd]; · rfl
    exact Nat.dvd_trans (IsAl.dvd_of_le ha'al (Spec.alignMember_isAl m) (by simpa using hc))
      (Nat.dvd_add (Nat.dvd_trans (alignMember_dvd_aN S ad m r) inv.bsdvd) (hL.dyn he).2)

end Cpp

end Prophy
