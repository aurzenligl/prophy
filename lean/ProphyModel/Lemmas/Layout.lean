/- alignments are 1, 2, 4 or 8; a member's alignment divides its block's and its struct's -/
import ProphyModel.Lemmas.Statics
namespace Prophy

def IsAl (a : Nat) : Prop := a = 1 ∨ a = 2 ∨ a = 4 ∨ a = 8

theorem IsAl.pos {a : Nat} (h : IsAl a) : 0 < a := by unfold IsAl at h; omega

theorem IsAl.max {a b : Nat} (ha : IsAl a) (hb : IsAl b) : IsAl (max a b) := by
  unfold IsAl at *
  rcases ha with rfl | rfl | rfl | rfl <;> rcases hb with rfl | rfl | rfl | rfl <;> simp

theorem IsAl.dvd_of_le {a b : Nat} (ha : IsAl a) (hb : IsAl b) (h : a ≤ b) : a ∣ b := by
  unfold IsAl at *
  rcases ha with rfl | rfl | rfl | rfl <;> rcases hb with rfl | rfl | rfl | rfl <;> first | omega | decide

theorem IsAl.dvd_max_left {a b : Nat} (ha : IsAl a) (hb : IsAl b) : a ∣ Nat.max a b :=
  ha.dvd_of_le (ha.max hb) (Nat.le_max_left a b)

theorem IsAl.dvd_max_right {a b : Nat} (ha : IsAl a) (hb : IsAl b) : b ∣ Nat.max a b :=
  hb.dvd_of_le (ha.max hb) (Nat.le_max_right a b)

theorem IsAl.four : IsAl 4 := by unfold IsAl; omega
theorem IsAl.one : IsAl 1 := by unfold IsAl; omega

theorem padTo_lt8 (x a : Nat) (h : IsAl a) : padTo x a < 8 := by
  have := padTo_lt x a h.pos
  unfold IsAl at h
  omega

mutual
  theorem Spec.alignTy_isAl : (t : Ty) → IsAl (Spec.alignTy t)
    | .prim p => by cases p <;> simp [Spec.alignTy, Prim.size, IsAl]
    | .byte => by simp [Spec.alignTy, IsAl]
    | .enum _ _ => by simp [Spec.alignTy, IsAl]
    | .struct _ ms => by simp only [Spec.alignTy]; exact Spec.alignMs_isAl ms
    | .union _ arms => by
      simp only [Spec.alignTy, Spec.flagSize]
      exact IsAl.max IsAl.four (Spec.alignArms_isAl arms)
  theorem Spec.alignMs_isAl : (ms : List Member) → IsAl (Spec.alignMs ms)
    | [] => by simp [Spec.alignMs, IsAl]
    | .mk _ t k :: r => by
      have ht := Spec.alignTy_isAl t
      have hr := Spec.alignMs_isAl r
      simp only [Spec.alignMs]
      refine IsAl.max ?_ hr
      cases k <;> simp only [Spec.flagSize] <;> first | exact ht | exact IsAl.max IsAl.four ht
  theorem Spec.alignArms_isAl : (arms : List Arm) → IsAl (Spec.alignArms arms)
    | [] => by simp [Spec.alignArms, IsAl]
    | .mk _ _ t :: r => by
      simp only [Spec.alignArms]
      exact IsAl.max (Spec.alignTy_isAl t) (Spec.alignArms_isAl r)
end

theorem Spec.alignMember_isAl (m : Member) : IsAl (Spec.alignMember m) := by
  obtain ⟨n, t, k⟩ := m
  have ht := Spec.alignTy_isAl t
  unfold Spec.alignMember
  cases k <;> simp only [Member.kind, Member.ty, Spec.flagSize] <;> first | exact ht | exact IsAl.max IsAl.four ht

theorem Spec.blockAlign_isAl : (ms : List Member) → IsAl (Spec.blockAlign ms)
  | [] => IsAl.one
  | m :: r => by
    simp only [Spec.blockAlign]
    split
    · exact Spec.alignMember_isAl m
    · exact IsAl.max (Spec.alignMember_isAl m) (Spec.blockAlign_isAl r)

theorem Spec.alignMember_dvd_blockAlign (m : Member) (r : List Member) :
    Spec.alignMember m ∣ Spec.blockAlign (m :: r) := by
  simp only [Spec.blockAlign]
  split
  · exact Nat.dvd_refl _
  · exact IsAl.dvd_max_left (Spec.alignMember_isAl m) (Spec.blockAlign_isAl r)

theorem Spec.alignMember_dvd_alignMs (m : Member) : (all : List Member) → m ∈ all →
    Spec.alignMember m ∣ Spec.alignMs all
  | [], h => by cases h
  | .mk n t k :: r, h => by
    have hal := Spec.alignMs_isAl (.mk n t k :: r)
    apply IsAl.dvd_of_le (Spec.alignMember_isAl m) hal
    rcases List.mem_cons.1 h with rfl | hr
    · exact Spec.alignMember_le_alignMs n t k r
    · have ih := Nat.le_of_dvd (Spec.alignMs_pos r) (Spec.alignMember_dvd_alignMs m r hr)
      simp only [Spec.alignMs]; omega

theorem Spec.blockAlign_dvd (A : Nat) (hA : IsAl A) : (ms : List Member) →
    (∀ m ∈ ms, Spec.alignMember m ∣ A) → Spec.blockAlign ms ∣ A
  | [], _ => by simp [Spec.blockAlign]
  | m :: r, h => by
    have h1 := h m (List.mem_cons_self ..)
    have h2 := Spec.blockAlign_dvd A hA r (fun x hx => h x (List.mem_cons_of_mem _ hx))
    simp only [Spec.blockAlign]
    split
    · exact h1
    · apply IsAl.dvd_of_le (IsAl.max (Spec.alignMember_isAl m) (Spec.blockAlign_isAl r)) hA
      have := Nat.le_of_dvd hA.pos h1
      have := Nat.le_of_dvd hA.pos h2
      omega

theorem Spec.alignArm_dvd : (arms : List Arm) → ∀ (idx : Nat) (a : Arm), arms[idx]? = some a →
    Spec.alignTy a.ty ∣ max Spec.flagSize (Spec.alignArms arms)
  | [], idx, a, h => by simp at h
  | .mk n d t :: r, idx, a, h => by
    have hA : IsAl (max Spec.flagSize (Spec.alignArms (.mk n d t :: r))) :=
      IsAl.max IsAl.four (Spec.alignArms_isAl _)
    apply IsAl.dvd_of_le (Spec.alignTy_isAl _) hA
    cases idx with
    | zero =>
      simp at h; subst h
      simp only [Spec.alignArms, Arm.ty]; omega
    | succ i =>
      simp at h
      have ih := Nat.le_of_dvd (by simp only [Spec.flagSize]; omega) (Spec.alignArm_dvd r i a h)
      simp only [Spec.alignArms]; omega

/-- the value of a set optional, or the arm of a union, stands behind the flag padded to `max 4 a`: it starts aligned -/
theorem Spec.alignTy_dvd_add_gap (t : Ty) {pos : Nat} (h : max 4 (Spec.alignTy t) ∣ pos) :
    Spec.alignTy t ∣ pos + max 4 (Spec.alignTy t) :=
  have h1 := IsAl.dvd_max_right IsAl.four (Spec.alignTy_isAl t)
  Nat.dvd_add (Nat.dvd_trans h1 h) h1

theorem Spec.blockAlign_tail_dvd (m : Member) (r : List Member) (h : Spec.endsBlock m = false) :
    Spec.blockAlign r ∣ Spec.blockAlign (m :: r) := by
  rw [Spec.blockAlign_of_not_endsBlock m r h]
  exact IsAl.dvd_max_right (Spec.alignMember_isAl m) (Spec.blockAlign_isAl r)

end Prophy
