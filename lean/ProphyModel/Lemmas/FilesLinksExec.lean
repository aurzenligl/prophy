/-
  Executable copies of the file processor with links.  `sameIncludes` and `eval` are compiled by well-founded recursion (the nested
  `let rec go`), so `decide` cannot unfold them; the copies recurse structurally on the fuel, are proved equal to the model's functions
  and carry the examples of `Properties/C20Links.lean`.  `processFileS_l … processIncludesS_l` is the model's block word for word, but
  for the call of `sameIncludesS_l` in `processKnownS_l`.
-/
import ProphyModel.Lemmas.FilesLinks
namespace Prophy.FilesL
open Prophy

def sameGoS_l (rec : State → Path → Path → Except Err State) (fs : FS) (incs : List String) (p : Path) :
    State → List (String × Option Path) → Except Err State
  | st, [] => .ok st
  | st, (leaf, found) :: rest =>
    if (find fs leaf (searchDirs fs incs p)).bind (ident fs) ≠ found then .error (.ambiguous p leaf)
    else
      match find fs leaf (searchDirs fs incs p), found with
      | some h, some f =>
        match rec st f h with
        | .error e => .error e
        | .ok st' => sameGoS_l rec fs incs p st' rest
      | _, _ => sameGoS_l rec fs incs p st rest

def sameIncludesS_l (fs : FS) (incs : List String) : Nat → State → Path → Path → Except Err State
  | 0, _, _, p => .error (.cyclic p)
  | fuel + 1, st, r, p =>
    if st.verified.contains (r, directoriesOf fs p) then .ok st
    else sameGoS_l (sameIncludesS_l fs incs fuel) fs incs p
      { st with verified := (r, directoriesOf fs p) :: st.verified } ((st.includesOf.lookup r).getD [])

theorem sameGoS_eq (rec : State → Path → Path → Except Err State) (fs : FS) (incs : List String) (n : Nat) (p : Path)
    (hrec : ∀ st f h, rec st f h = sameIncludes fs incs n st f h) :
    ∀ (l : List (String × Option Path)) (st : State),
      sameGoS_l rec fs incs p st l = sameIncludes.go fs incs n p st l := by
  intro l
  induction l with
  | nil => intro st; rw [sameGo_nil]; rfl
  | cons e rest ih =>
    intro st
    obtain ⟨leaf, found⟩ := e
    rw [sameGo_cons]
    simp only [sameGoS_l]
    split
    · rfl
    · cases find fs leaf (searchDirs fs incs p) with
      | none => simp only [ih]
      | some h =>
        cases found with
        | none => simp only [ih]
        | some f =>
          simp only [hrec]
          cases sameIncludes fs incs n st f h with
          | error e => rfl
          | ok st' => simp only [ih]

theorem sameIncludesS_eq (fs : FS) (incs : List String) :
    ∀ n st r p, sameIncludesS_l fs incs n st r p = sameIncludes fs incs n st r p := by
  intro n
  induction n with
  | zero => intro st r p; rw [sameIncludes_zero]; rfl
  | succ n ih =>
    intro st r p
    rw [sameIncludes_succ]
    simp only [sameIncludesS_l]
    rw [sameGoS_eq _ fs incs n p (fun st f h => ih st f h)]

mutual
  def processFileS_l (fs : FS) (incs : List String) : Nat → State → Path → Except Err (Result × State)
    | 0, _, p => .error (.cyclic p)
    | fuel + 1, st, p =>
      match ident fs p with
      | none => .error (.notFound p.leaf)
      | some r =>
        match st.names.lookup p.leaf with
        | some q => if q ≠ r then .error (.sameName p.leaf) else processNamedS_l fs incs fuel st p r
        | none => processNamedS_l fs incs fuel { st with names := (p.leaf, r) :: st.names } p r
  def processNamedS_l (fs : FS) (incs : List String) : Nat → State → Path → Path → Except Err (Result × State)
    | 0, _, p, _ => .error (.cyclic p)
    | fuel + 1, st, p, r =>
      match st.nameOf.lookup r with
      | some l => if l ≠ p.leaf then .error (.twoNames p) else processKnownS_l fs incs fuel st p r
      | none => processKnownS_l fs incs fuel { st with nameOf := (r, p.leaf) :: st.nameOf } p r
  def processKnownS_l (fs : FS) (incs : List String) : Nat → State → Path → Path → Except Err (Result × State)
    | 0, _, p, _ => .error (.cyclic p)
    | fuel + 1, st, p, r =>
      match st.cache.lookup r with
      | some none => .error (.cyclic p)
      | some (some res) =>
        match sameIncludesS_l fs incs (fuel + 1) st r p with
        | .error e => .error e
        | .ok st' => .ok ({ res with parsed := [] }, st')
      | none =>
        match content fs r with
        | none => .error (.notFound p.leaf)
        | some file =>
          let st1 : State := { st with cache := (r, none) :: st.cache,
                                       includesOf := (r, []) :: st.includesOf,
                                       verified := (r, directoriesOf fs p) :: st.verified }
          match processIncludesS_l fs incs fuel st1 p r file.includes with
          | .error e => .error e
          | .ok (vis, parsed, found, shapes, st2) =>
            let h := 1 + maxList (found.map fun f => (st2.heights.lookup f).getD 0)
            if h > depthLimit then .error (.tooDeep p)
            else
              let res : Result := { exports := file.defines, visible := vis ++ file.defines, parsed := r :: parsed,
                                    shape := (0, r) :: shapes }
              .ok (res, { st2 with heights := (r, h) :: st2.heights, cache := (r, some res) :: st2.cache })
  def processIncludesS_l (fs : FS) (incs : List String) : Nat → State → Path → Path → List String →
      Except Err (List String × List Path × List Path × List (Nat × Path) × State)
    | _, st, _, _, [] => .ok ([], [], [], [], st)
    | 0, _, _, _, leaf :: _ => .error (.notFound leaf)
    | fuel + 1, st, p, r, leaf :: rest =>
      let here := find fs leaf (searchDirs fs incs p)
      let st1 := { st with includesOf := (r, (st.includesOf.lookup r).getD [] ++ [(leaf, here.bind (ident fs))]) :: st.includesOf }
      match here with
      | none => .error (.notFound leaf)
      | some g =>
        match processFileS_l fs incs fuel st1 g with
        | .error e => .error e
        | .ok (res, st2) =>
          match processIncludesS_l fs incs fuel st2 p r rest with
          | .error e => .error e
          | .ok (vis, parsed, found, shapes, st3) =>
            .ok (res.exports ++ vis, res.parsed ++ parsed, ((ident fs g).toList ++ found), deeper res.shape ++ shapes, st3)
end

def processMainsS_l (fs : FS) (incs : List String) : List Path → State → Except Err (List (Path × Result))
  | [], _ => .ok []
  | m :: rest, st =>
    match processFileS_l fs incs (fuelOf fs) st m with
    | .error e => .error e
    | .ok (res, st1) =>
      match processMainsS_l fs incs rest st1 with
      | .error e => .error e
      | .ok rs => .ok ((m, res) :: rs)

theorem processS_eq (fs : FS) (incs : List String) :
    ∀ n, (∀ st p, processFileS_l fs incs n st p = processFile fs incs n st p) ∧
         (∀ st p r, processNamedS_l fs incs n st p r = processNamed fs incs n st p r) ∧
         (∀ st p r, processKnownS_l fs incs n st p r = processKnown fs incs n st p r) ∧
         (∀ st p r l, processIncludesS_l fs incs n st p r l = processIncludes fs incs n st p r l) := by
  intro n
  induction n with
  | zero => exact ⟨fun _ _ => rfl, fun _ _ _ => rfl, fun _ _ _ => rfl, fun _ _ _ l => by cases l <;> rfl⟩
  | succ n ih =>
    obtain ⟨hF, hN, hK, hI⟩ := ih
    have hF' : processFileS_l fs incs n = processFile fs incs n := funext fun st => funext fun p => hF st p
    have hN' : processNamedS_l fs incs n = processNamed fs incs n :=
      funext fun st => funext fun p => funext fun r => hN st p r
    have hK' : processKnownS_l fs incs n = processKnown fs incs n :=
      funext fun st => funext fun p => funext fun r => hK st p r
    have hI' : processIncludesS_l fs incs n = processIncludes fs incs n :=
      funext fun st => funext fun p => funext fun r => funext fun l => hI st p r l
    have hS : sameIncludesS_l fs incs (n + 1) = sameIncludes fs incs (n + 1) :=
      funext fun st => funext fun r => funext fun p => sameIncludesS_eq fs incs (n + 1) st r p
    refine ⟨fun st p => ?_, fun st p r => ?_, fun st p r => ?_, fun st p r l => ?_⟩
    · unfold processFileS_l
      rw [hN']; rfl
    · unfold processNamedS_l
      rw [hK']; rfl
    · unfold processKnownS_l
      rw [hI', hS]; rfl
    · cases l with
      | nil => rfl
      | cons leaf rest =>
        unfold processIncludesS_l
        rw [hF', hI']; rfl

theorem processMainsS_eq_l (fs : FS) (incs : List String) :
    ∀ ms st, processMains fs incs ms st = processMainsS_l fs incs ms st
  | [], st => by simp only [processMains, processMainsS_l]
  | m :: ms, st => by
    simp only [processMains, processMainsS_l, (processS_eq fs incs _).1, processMainsS_eq_l fs incs ms]
    rfl

def evalGoS_l (rec : List Path → Path → Except Err (List String × List String × List (Nat × Path)))
    (fs : FS) (incs : List String) (anc : List Path) (p r : Path) :
    List String → Except Err (List String × List (Nat × Path))
  | [] => .ok ([], [])
  | leaf :: rest =>
    match find fs leaf (searchDirs fs incs p) with
    | none => .error (.notFound leaf)
    | some g =>
      match rec (r :: anc) g with
      | .error e => .error e
      | .ok (ex, _, sh) =>
        match evalGoS_l rec fs incs anc p r rest with
        | .error e => .error e
        | .ok (vis, shapes) => .ok (ex ++ vis, deeper sh ++ shapes)

def evalS_l (fs : FS) (incs : List String) : Nat → List Path → Path →
    Except Err (List String × List String × List (Nat × Path))
  | 0, _, p => .error (.cyclic p)
  | fuel + 1, anc, p =>
    match ident fs p with
    | none => .error (.notFound p.leaf)
    | some r =>
      if anc.contains r then .error (.cyclic p)
      else
        match content fs r with
        | none => .error (.notFound p.leaf)
        | some file =>
          match evalGoS_l (evalS_l fs incs fuel) fs incs anc p r file.includes with
          | .error e => .error e
          | .ok (vis, shapes) => .ok (file.defines, vis ++ file.defines, (0, r) :: shapes)

theorem evalGoS_eq (rec : List Path → Path → Except Err (List String × List String × List (Nat × Path)))
    (fs : FS) (incs : List String) (n : Nat) (anc : List Path) (p r : Path)
    (hrec : ∀ a g, rec a g = eval fs incs n a g) :
    ∀ l : List String, evalGoS_l rec fs incs anc p r l = eval.go fs incs n anc p r l := by
  intro l
  induction l with
  | nil => rw [evalGo_nil]; rfl
  | cons leaf rest ih =>
    rw [evalGo_cons]
    simp only [evalGoS_l, hrec, ih]
    rfl

theorem evalS_eq_l (fs : FS) (incs : List String) :
    ∀ n anc p, eval fs incs n anc p = evalS_l fs incs n anc p := by
  intro n
  induction n with
  | zero => intro anc p; rw [eval_zero]; rfl
  | succ n ih =>
    intro anc p
    rw [eval_succ]
    simp only [evalS_l, evalGoS_eq _ fs incs n _ _ _ (fun a g => (ih a g).symm)]
    rfl

end Prophy.FilesL

#print axioms Prophy.FilesL.processMainsS_eq_l
#print axioms Prophy.FilesL.evalS_eq_l
