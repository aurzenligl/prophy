/-
  C14, host languages, trees: when does expression TEXT pasted into the generated Python module / C++ header denote the
  TREE that prophyc's calc built?  The host operator table, the concrete syntax tree `Cst` (the tree with the parentheses
  that were written) and its unique readability, `precSafe` as the exact condition for calc's minimal printing, and the
  tree the hosts build when only `|` chains differ.  All statements are about TOKEN LISTS and TREES.
-/
import ProphyModel.Expr
import ProphyModel.Lemmas.ExprPrint
namespace Prophy
namespace Expr


def hostLvl : BinOp → Nat
  | .bor => 0
  | .shl => 1 | .shr => 1
  | .add => 2 | .sub => 2
  | .mul => 3 | .div => 3

/-- the table of `hostInfo` (what the driver runs; `hostT_info`) as a `Table`, for the theorems of ExprParse -/
def hostT : Table := ⟨hostLvl, fun _ => false⟩

theorem hostT_info : hostT.info = hostInfo := by
  funext t; cases t <;> rfl

theorem hostT_wf : hostT.WF :=
  ⟨by intro op; cases op <;> decide, fun _ _ _ => rfl⟩

theorem parseHost_iff (t : List Tok) (a : Ast) : parseWith hostInfo t = some a ↔ RepT hostT 0 a t := by
  rw [← hostT_info]; exact parseWith_iff_repT hostT_wf t a

/-- the root of `a`, printed at calc context level `l`, is acceptable in host context level `k`:
    it is parenthesised by the printer, or the host level is high enough -/
def okTop (l k : Nat) : Ast → Prop
  | .bin op _ _ => lvl op < l ∨ k ≤ hostLvl op
  | _ => True

theorem okTop_zero (l : Nat) (a : Ast) : okTop l 0 a := by
  cases a with
  | bin op _ _ => exact Or.inr (Nat.zero_le _)
  | _ => trivial

/-- the operand of a unary minus is printed at calc level 4, where every binary node is parenthesised -/
theorem okTop_four (k : Nat) (a : Ast) : okTop 4 k a := by
  cases a with
  | bin op _ _ => exact Or.inl (by have := lvl_le_three op; omega)
  | _ => trivial

theorem hostT_lnx (op : BinOp) : hostT.lnx op = hostLvl op := rfl
theorem hostT_nxt (op : BinOp) : hostT.nxt op = hostLvl op + 1 := rfl
theorem hostT_lv (op : BinOp) : hostT.lv op = hostLvl op := rfl

-- the facts about the two tables are sweeps over the 7 × 7 pairs of operators, by evaluation
theorem okTop_left_iff (op : BinOp) (x : Ast) :
    okTop (lnx op) (hostLvl op) x ↔ childBad op false x = false := by
  cases x with
  | bin op' _ _ =>
    simp only [okTop, childBad]
    cases op <;> cases op' <;> decide
  | _ => exact ⟨fun _ => rfl, fun _ => trivial⟩

theorem okTop_right_iff (op : BinOp) (y : Ast) :
    okTop (nxt op) (hostLvl op + 1) y ↔ childBad op true y = false := by
  cases y with
  | bin op' _ _ =>
    simp only [okTop, childBad]
    cases op <;> cases op' <;> decide
  | _ => exact ⟨fun _ => rfl, fun _ => trivial⟩

/-- an expression as written: `Ast` plus explicit parentheses -/
inductive Cst
  | num (n : Nat)
  | name (s : String)
  | neg (e : Cst)
  | bin (op : BinOp) (x y : Cst)
  | paren (e : Cst)
  deriving DecidableEq, Repr

def Cst.toks : Cst → List Tok
  | .num n => [.num n]
  | .name s => [.ident s]
  | .neg e => .minus :: e.toks
  | .bin op x y => x.toks ++ opTok op :: y.toks
  | .paren e => .lpar :: e.toks ++ [.rpar]

def Cst.ast : Cst → Ast
  | .num n => .num n
  | .name s => .name s
  | .neg e => .neg e.ast
  | .bin op x y => .bin op x.ast y.ast
  | .paren e => e.ast

/-- the grouping shown by the concrete tree is the one table `T` gives to its text: every
    unparenthesised operand has a level the table admits at that place
    (`l`: lowest level admitted at the root; `0` for a whole expression) -/
def Cst.okT (T : Table) : Nat → Cst → Bool
  | _, .num _ => true
  | _, .name _ => true
  | _, .neg e => Cst.okT T 4 e
  | l, .bin op x y => decide (l ≤ T.lv op) && Cst.okT T (T.lnx op) x && Cst.okT T (T.nxt op) y
  | _, .paren e => Cst.okT T 0 e

theorem Cst.repT_of_ok (T : Table) (c : Cst) : ∀ l, c.okT T l = true → RepT T l c.ast c.toks := by
  induction c with
  | num n => intro l _; exact .num l n
  | name s => intro l _; exact .name l s
  | neg e ih => intro l h; exact .neg l _ _ (ih 4 h)
  | bin op x y ihx ihy =>
    intro l h
    simp only [Cst.okT, Bool.and_eq_true, decide_eq_true_eq] at h
    exact .bin l op _ _ _ _ h.1.1 (ihx _ h.1.2) (ihy _ h.2)
  | paren e ih => intro l h; exact .paren l _ _ (ih 0 h)

theorem cst_of_repT {T : Table} {l : Nat} {a : Ast} {t : List Tok} (h : RepT T l a t) :
    ∃ c : Cst, c.toks = t ∧ c.ast = a ∧ c.okT T l = true := by
  induction h with
  | num l n => exact ⟨.num n, rfl, rfl, rfl⟩
  | name l s => exact ⟨.name s, rfl, rfl, rfl⟩
  | neg l e t _ ih =>
    obtain ⟨c, h1, h2, h3⟩ := ih
    exact ⟨.neg c, by simp [Cst.toks, h1], by simp [Cst.ast, h2], h3⟩
  | bin l op x y tx ty hl _ _ ihx ihy =>
    obtain ⟨cx, hx1, hx2, hx3⟩ := ihx
    obtain ⟨cy, hy1, hy2, hy3⟩ := ihy
    refine ⟨.bin op cx cy, by simp [Cst.toks, hx1, hy1], by simp [Cst.ast, hx2, hy2], ?_⟩
    simp [Cst.okT, hl, hx3, hy3]
  | paren l a t _ ih =>
    obtain ⟨c, h1, h2, h3⟩ := ih
    exact ⟨.paren c, by simp [Cst.toks, h1], by simp [Cst.ast, h2], h3⟩

/-! parenthesis depth (`depth`) and token count (`tokCount`), for `Cst.ok_of_repT` only: `tokCount` fixes where the operator of a
  binary node sits, `depth` forbids an operand that opens with the outer `(` -/

/-- depth after reading `t` starting at depth `d`; `none` when a `)` has no partner -/
def depth : List Tok → Nat → Option Nat
  | [], d => some d
  | tk :: r, d =>
    match tk with
    | .lpar => depth r (d + 1)
    | .rpar => if d = 0 then none else depth r (d - 1)
    | _ => depth r d

theorem depth_append (a b : List Tok) : ∀ d, depth (a ++ b) d = (depth a d).bind (depth b) := by
  induction a with
  | nil => intro d; rfl
  | cons tk r ih =>
    intro d
    cases tk <;> simp only [List.cons_append, depth, ih]
    split
    · rfl
    · rfl

theorem depth_shift (t : List Tok) : ∀ d e, depth t d = some e → depth t (d + 1) = some (e + 1) := by
  induction t with
  | nil => intro d e h; simp only [depth] at h ⊢; injection h with h; rw [h]
  | cons tk r ih =>
    intro d e h
    cases tk <;> simp only [depth] at h ⊢ <;> try (exact ih _ _ h)
    split at h
    · cases h
    · rename_i hd
      obtain ⟨d', rfl⟩ : ∃ k, d = k + 1 := ⟨d - 1, by omega⟩
      simp only [Nat.add_sub_cancel] at h ⊢
      simp only [Nat.succ_ne_zero, if_false]
      exact ih _ _ h

theorem depth_opTok (op : BinOp) (r : List Tok) (d : Nat) : depth (opTok op :: r) d = depth r d := by
  cases op <;> rfl

theorem Cst.depth_toks (c : Cst) : ∀ d, depth c.toks d = some d := by
  induction c with
  | num n => intro d; rfl
  | name s => intro d; rfl
  | neg e ih => intro d; simp only [Cst.toks, depth]; exact ih d
  | bin op x y ihx ihy =>
    intro d
    simp only [Cst.toks, depth_append, ihx, Option.bind_some, depth_opTok, ihy]
  | paren e ih =>
    intro d
    simp only [Cst.toks, List.cons_append, depth, depth_append, ih, Option.bind_some]
    simp

/-- tokens other than parentheses -/
def tokW : Tok → Nat
  | .lpar => 0
  | .rpar => 0
  | _ => 1

def tokCount : List Tok → Nat
  | [] => 0
  | tk :: r => tokW tk + tokCount r

theorem tokCount_append (a b : List Tok) : tokCount (a ++ b) = tokCount a + tokCount b := by
  induction a with
  | nil => simp [tokCount]
  | cons tk r ih => simp only [List.cons_append, tokCount, ih]; omega

theorem tokW_opTok (op : BinOp) : tokW (opTok op) = 1 := by cases op <;> rfl

def Ast.size : Ast → Nat
  | .num _ => 1
  | .name _ => 1
  | .neg e => e.size + 1
  | .bin _ x y => x.size + y.size + 1

theorem Cst.tokCount_toks (c : Cst) : tokCount c.toks = c.ast.size := by
  induction c with
  | num n => rfl
  | name s => rfl
  | neg e ih => simp only [Cst.toks, Cst.ast, tokCount, Ast.size, ih, tokW]; omega
  | bin op x y ihx ihy =>
    simp only [Cst.toks, Cst.ast, tokCount_append, tokCount, Ast.size, ihx, ihy, tokW_opTok]; omega
  | paren e ih =>
    simp only [Cst.toks, Cst.ast, List.cons_append, tokCount, tokCount_append, tokW, ih]; omega

theorem Ast.size_pos (a : Ast) : 0 < a.size := by cases a <;> simp [Ast.size]

theorem Cst.toks_ne_nil (c : Cst) : c.toks ≠ [] := by
  intro h
  have := c.tokCount_toks
  rw [h] at this
  have := c.ast.size_pos
  simp [tokCount] at *
  omega

/-- where the operator of a binary node sits is determined by the operand's token count -/
theorem split_unique {o : Tok} (ho : tokW o = 1) : ∀ {X X' Y Y' : List Tok}, tokCount X = tokCount X' →
    X ++ o :: Y = X' ++ o :: Y' → X = X' ∧ Y = Y'
  | [], [], _, _, _, h => by cases h; exact ⟨rfl, rfl⟩
  | [], k :: X', _, _, hc, h => by
    cases h
    simp only [tokCount, ho] at hc
    omega
  | k :: X, [], _, _, hc, h => by
    cases h
    simp only [tokCount, ho] at hc
    omega
  | k :: X, k' :: X', _, _, hc, h => by
    injection h with hk h
    subst hk
    simp only [tokCount] at hc
    obtain ⟨rfl, rfl⟩ := split_unique ho (by omega) h
    exact ⟨rfl, rfl⟩

/-- a balanced operand cannot begin with the `(` whose partner is the last token of the text -/
theorem paren_clash {X Y t' : List Tok} {o : Tok} (ho : o ≠ .rpar)
    (hX : ∀ d, depth X d = some d) (hne : X ≠ []) (ht : ∀ d, depth t' d = some d)
    (h : X ++ o :: Y = .lpar :: t' ++ [.rpar]) : False := by
  cases X with
  | nil => exact hne rfl
  | cons k X' =>
    simp only [List.cons_append] at h
    injection h with hk h
    subst hk
    have h1 : depth X' 1 = some 0 := by
      have := hX 0
      simpa [depth] using this
    rcases List.append_eq_append_iff.mp h with ⟨c, h2, h3⟩ | ⟨c, h2, h3⟩
    · have := ht 0
      rw [h2, depth_append] at this
      cases hs : depth X' 0 with
      | none => rw [hs] at this; cases this
      | some k =>
        have := depth_shift _ _ _ hs
        rw [h1] at this
        injection this with this
        omega
    · cases c with
      | nil =>
        simp only [List.nil_append] at h3
        injection h3 with h4 _
        exact ho h4.symm
      | cons k c' =>
        simp only [List.cons_append] at h3
        injection h3 with _ h4
        cases c' <;> cases h4

theorem opTok_ne_rpar (op : BinOp) : opTok op ≠ .rpar := by cases op <;> simp [opTok]

theorem RepT.depth_eq {T : Table} {l : Nat} {a : Ast} {t : List Tok} (h : RepT T l a t) :
    ∀ d, depth t d = some d := by
  obtain ⟨c, h1, _, _⟩ := cst_of_repT h
  rw [← h1]; exact c.depth_toks

theorem RepT.tokCount_eq {T : Table} {l : Nat} {a : Ast} {t : List Tok} (h : RepT T l a t) :
    tokCount t = a.size := by
  obtain ⟨c, h1, h2, _⟩ := cst_of_repT h
  rw [← h1, ← h2]; exact c.tokCount_toks

theorem RepT.ne_nil {T : Table} {l : Nat} {a : Ast} {t : List Tok} (h : RepT T l a t) : t ≠ [] := by
  obtain ⟨c, h1, _, _⟩ := cst_of_repT h
  rw [← h1]; exact c.toks_ne_nil

theorem RepT.bin_inv {T : Table} {k : Nat} {op : BinOp} {x y : Cst}
    (hr : RepT T k (.bin op x.ast y.ast) (x.toks ++ opTok op :: y.toks)) :
    k ≤ T.lv op ∧ RepT T (T.lnx op) x.ast x.toks ∧ RepT T (T.nxt op) y.ast y.toks := by
  generalize ht : x.toks ++ opTok op :: y.toks = t at hr
  generalize ha : Ast.bin op x.ast y.ast = a at hr
  cases hr with
  | num l n => cases ha
  | name l s => cases ha
  | neg l e t _ => cases ha
  | bin l op' x' y' tx ty hl hx hy =>
    injection ha with h1 h2 h3
    subst h1; subst h2; subst h3
    have hc : tokCount x.toks = tokCount tx := by rw [x.tokCount_toks, hx.tokCount_eq]
    obtain ⟨e1, e2⟩ := split_unique (tokW_opTok op) hc ht
    rw [e1, e2]
    exact ⟨hl, hx, hy⟩
  | paren l a t' h0 =>
    exfalso
    exact paren_clash (opTok_ne_rpar op) x.depth_toks x.toks_ne_nil h0.depth_eq ht

/-- The concrete tree of a text is determined by the text and the abstract tree: if the text
    `c.toks` is a `T`-representation of `c.ast` at all, then it is one with exactly the
    parentheses of `c`. -/
theorem Cst.ok_of_repT (T : Table) (c : Cst) : ∀ k, RepT T k c.ast c.toks → c.okT T k = true := by
  induction c with
  | num n => intro k _; rfl
  | name s => intro k _; rfl
  | neg e ih =>
    intro k hr
    simp only [Cst.ast, Cst.toks] at hr
    generalize ht : Tok.minus :: e.toks = t at hr
    generalize ha : Ast.neg e.ast = a at hr
    cases hr with
    | num l n => cases ha
    | name l s => cases ha
    | neg l e' t' h' =>
      injection ha with ha; subst ha
      injection ht with _ ht; subst ht
      exact ih 4 h'
    | bin l op' x' y' tx ty hl hx hy => cases ha
    | paren l a t' h0 => cases ht
  | bin op x y ihx ihy =>
    intro k hr
    obtain ⟨h1, h2, h3⟩ := RepT.bin_inv hr
    simp only [Cst.okT, Bool.and_eq_true, decide_eq_true_eq]
    exact ⟨⟨h1, ihx _ h2⟩, ihy _ h3⟩
  | paren e ih =>
    intro k hr
    simp only [Cst.ast, Cst.toks] at hr
    generalize ht : Tok.lpar :: e.toks ++ [Tok.rpar] = t at hr
    generalize ha : e.ast = a at hr
    cases hr with
    | num l n => simp at ht
    | name l s => simp at ht
    | neg l e' t' h' => cases ht
    | bin l op' x' y' tx ty hl hx hy =>
      exfalso
      exact paren_clash (opTok_ne_rpar op') hx.depth_eq hx.ne_nil e.depth_toks ht.symm
    | paren l a t' h0 =>
      simp only [List.cons_append, List.cons.injEq, true_and] at ht
      have := List.append_cancel_right ht
      subst this; subst ha
      exact ih 0 h0

theorem Cst.parseWith_iff {T : Table} (hT : T.WF) (c : Cst) :
    parseWith T.info c.toks = some c.ast ↔ c.okT T 0 = true := by
  rw [parseWith_iff_repT hT]
  exact ⟨c.ok_of_repT T 0, c.repT_of_ok T 0⟩

theorem text_same_tree_iff (t : List Tok) (a : Ast) (h : parse t = some a) :
    ∃ c : Cst, c.toks = t ∧ c.ast = a ∧ c.okT calcT 0 = true ∧
      (parseWith hostInfo t = some a ↔ c.okT hostT 0 = true) := by
  obtain ⟨c, h1, h2, h3⟩ := cst_of_repT ((parse_iff_repT t a).mp h)
  refine ⟨c, h1, h2, h3, ?_⟩
  rw [← h1, ← h2, ← hostT_info]
  exact c.parseWith_iff hostT_wf

/-- the concrete tree of `toksP l a` -/
def cstP : Nat → Ast → Cst
  | _, .num n => .num n
  | _, .name s => .name s
  | _, .neg e => .neg (cstP 4 e)
  | l, .bin op x y =>
    if lvl op < l then .paren (.bin op (cstP (lnx op) x) (cstP (nxt op) y))
    else .bin op (cstP (lnx op) x) (cstP (nxt op) y)

theorem cstP_toks (a : Ast) : ∀ l, (cstP l a).toks = toksP l a := by
  induction a with
  | num n => intro l; rfl
  | name s => intro l; rfl
  | neg e ih => intro l; simp only [cstP, Cst.toks, toksP, ih]
  | bin op x y ihx ihy =>
    intro l
    unfold cstP toksP
    split <;> simp only [Cst.toks, ihx, ihy]

theorem cstP_ast (a : Ast) : ∀ l, (cstP l a).ast = a := by
  induction a with
  | num n => intro l; rfl
  | name s => intro l; rfl
  | neg e ih => intro l; simp only [cstP, Cst.ast, ih]
  | bin op x y ihx ihy =>
    intro l
    unfold cstP
    split <;> simp only [Cst.ast, ihx, ihy]

theorem cstP_ok_iff (a : Ast) :
    ∀ l k, (cstP l a).okT hostT k = true ↔ (precSafe a = true ∧ okTop l k a) := by
  induction a with
  | num n => intro l k; simp [cstP, Cst.okT, precSafe, okTop]
  | name s => intro l k; simp [cstP, Cst.okT, precSafe, okTop]
  | neg e ih =>
    intro l k
    simp only [cstP, Cst.okT, precSafe, okTop, and_true]
    rw [ih 4 4]
    exact ⟨fun hp => hp.1, fun hs => ⟨hs, okTop_four 4 e⟩⟩
  | bin op x y ihx ihy =>
    intro l k
    have key : ∀ k', (Cst.bin op (cstP (lnx op) x) (cstP (nxt op) y)).okT hostT k' = true ↔
        (k' ≤ hostLvl op ∧ precSafe (.bin op x y) = true) := by
      intro k'
      simp only [Cst.okT, Bool.and_eq_true, hostT_lnx, hostT_nxt, hostT_lv, ihx,
        ihy, precSafe, Bool.not_eq_true', okTop_left_iff, okTop_right_iff]
      constructor
      · rintro ⟨⟨h1, h2, h3⟩, h4, h5⟩; exact ⟨of_decide_eq_true h1, ⟨⟨h3, h5⟩, h2⟩, h4⟩
      · rintro ⟨h1, ⟨⟨h3, h5⟩, h2⟩, h4⟩; exact ⟨⟨decide_eq_true h1, h2, h3⟩, h4, h5⟩
    unfold cstP
    split
    · rename_i hl
      simp only [Cst.okT]
      have := key 0
      simp only [Cst.okT] at this
      rw [this]
      simp only [okTop, hl, true_or, and_true, Nat.zero_le, true_and]
    · rename_i hl
      rw [key k]
      simp only [okTop, hl, false_or]
      exact And.comm

/-- EXACT: the hosts read calc's minimal printing of `a` as `a` if and only if `precSafe a` -/
theorem host_reads_same_tree_iff (a : Ast) : parseWith hostInfo (toks a) = some a ↔ precSafe a = true := by
  have h1 := (cstP 0 a).parseWith_iff hostT_wf
  rw [cstP_toks, cstP_ast, hostT_info] at h1
  unfold toks
  rw [h1, cstP_ok_iff]
  constructor
  · exact fun h => h.1
  · exact fun h => ⟨h, okTop_zero 0 a⟩

/-- operand `c` of `op` is written WITHOUT parentheses and is a binary operation that calc and the
    hosts rank differently relative to `op`: a shift next to `+ - * /` (either way round), or a `|`
    directly under a `|` (calc groups `|` to the right, the hosts to the left) -/
def Cst.mixBad (op : BinOp) : Cst → Bool
  | .bin op' _ _ =>
    (isArith op && isShift op') || (isShift op && isArith op') || (op == .bor && op' == .bor)
  | _ => false

def Cst.mixFree : Cst → Bool
  | .num _ => true
  | .name _ => true
  | .neg e => e.mixFree
  | .paren e => e.mixFree
  | .bin op x y => !Cst.mixBad op x && !Cst.mixBad op y && x.mixFree && y.mixFree

theorem mixBad_left {op op' : BinOp} {x y : Cst} (h1 : lnx op ≤ lvl op')
    (hb : Cst.mixBad op (.bin op' x y) = false) : hostLvl op ≤ hostLvl op' := by
  simp only [Cst.mixBad] at hb
  revert h1 hb
  cases op <;> cases op' <;> decide

theorem mixBad_right {op op' : BinOp} {x y : Cst} (h1 : nxt op ≤ lvl op')
    (hb : Cst.mixBad op (.bin op' x y) = false) : hostLvl op + 1 ≤ hostLvl op' := by
  simp only [Cst.mixBad] at hb
  revert h1 hb
  cases op <;> cases op' <;> decide

/-- the third hypothesis is `okTop` for a concrete tree: the root, if binary, is acceptable at host level `k` -/
theorem Cst.okHost_of_mixFree (c : Cst) :
    ∀ l k, c.okT calcT l = true → c.mixFree = true →
      (∀ op x y, c = .bin op x y → k ≤ hostLvl op) → c.okT hostT k = true := by
  induction c with
  | num n => intro l k _ _ _; rfl
  | name s => intro l k _ _ _; rfl
  | neg e ih =>
    intro l k hc hm _
    simp only [Cst.okT, Cst.mixFree] at hc hm ⊢
    refine ih 4 4 hc hm ?_
    intro op x y he
    subst he
    simp only [Cst.okT, Bool.and_eq_true, decide_eq_true_eq] at hc
    have h1 : 4 ≤ lvl op := hc.1.1
    have := lvl_le_three op
    omega
  | paren e ih =>
    intro l k hc hm _
    simp only [Cst.okT, Cst.mixFree] at hc hm ⊢
    exact ih 0 0 hc hm (fun _ _ _ _ => Nat.zero_le _)
  | bin op x y ihx ihy =>
    intro l k hc hm ht
    simp only [Cst.okT, Cst.mixFree, Bool.and_eq_true, decide_eq_true_eq, Bool.not_eq_true'] at hc hm ⊢
    obtain ⟨⟨_, hcx⟩, hcy⟩ := hc
    obtain ⟨⟨⟨hbx, hby⟩, hmx⟩, hmy⟩ := hm
    refine ⟨⟨ht op x y rfl, ihx _ _ hcx hmx ?_⟩, ihy _ _ hcy hmy ?_⟩
    · intro op' x' y' he
      subst he
      simp only [Cst.okT, Bool.and_eq_true, decide_eq_true_eq] at hcx
      exact mixBad_left hcx.1.1 hbx
    · intro op' x' y' he
      subst he
      simp only [Cst.okT, Bool.and_eq_true, decide_eq_true_eq] at hcy
      exact mixBad_right hcy.1.1 hby

theorem parse_iff_cst (t : List Tok) (a : Ast) :
    parse t = some a ↔ ∃ c : Cst, c.toks = t ∧ c.ast = a ∧ c.okT calcT 0 = true := by
  rw [parse_iff_repT]
  constructor
  · exact cst_of_repT
  · rintro ⟨c, h1, h2, h3⟩
    rw [← h1, ← h2]; exact c.repT_of_ok calcT 0 h3

/- `a | b | c`: calc builds `a | (b | c)`, the hosts `(a | b) | c`.  `hostTree` re-associates every
   unparenthesised `|` chain to the left (`hostChain acc y` hangs the chain `y` under `acc`). -/
mutual
  def hostTree : Ast → Ast
    | .num n => .num n
    | .name s => .name s
    | .neg e => .neg (hostTree e)
    | .bin op x y =>
      if op = .bor then hostChain (hostTree x) y else .bin op (hostTree x) (hostTree y)
  def hostChain (acc : Ast) : Ast → Ast
    | .num n => .bin .bor acc (.num n)
    | .name s => .bin .bor acc (.name s)
    | .neg e => .bin .bor acc (.neg (hostTree e))
    | .bin op y1 y2 =>
      if op = .bor then hostChain (.bin .bor acc (hostTree y1)) y2
      else .bin .bor acc (.bin op (hostTree y1) (hostTree y2))
end

theorem hostTree_bor (x y : Ast) : hostTree (.bin .bor x y) = hostChain (hostTree x) y := by
  simp only [hostTree, if_true]

theorem hostTree_notbor {op : BinOp} (h : op ≠ .bor) (x y : Ast) :
    hostTree (.bin op x y) = .bin op (hostTree x) (hostTree y) := by
  simp only [hostTree, h, if_false]

theorem hostChain_bor (acc y1 y2 : Ast) :
    hostChain acc (.bin .bor y1 y2) = hostChain (.bin .bor acc (hostTree y1)) y2 := by
  simp only [hostChain, if_true]

theorem hostChain_notbor {op : BinOp} (h : op ≠ .bor) (acc y1 y2 : Ast) :
    hostChain acc (.bin op y1 y2) = .bin .bor acc (hostTree (.bin op y1 y2)) := by
  simp only [hostChain, hostTree, h, if_false]

def shiftBad (op : BinOp) : Ast → Bool
  | .bin op' _ _ => isArith op && isShift op'
  | _ => false

/-- no shift is a direct operand of `+ - * /` (the first clause of `precSafe` alone) -/
def shiftSafe : Ast → Bool
  | .num _ => true
  | .name _ => true
  | .neg e => shiftSafe e
  | .bin op x y => !shiftBad op x && !shiftBad op y && shiftSafe x && shiftSafe y

theorem shiftSafe_of_precSafe (a : Ast) (h : precSafe a = true) : shiftSafe a = true := by
  induction a with
  | num n => rfl
  | name s => rfl
  | neg e ih => exact ih h
  | bin op x y ihx ihy =>
    simp only [precSafe, shiftSafe, Bool.and_eq_true, Bool.not_eq_true'] at h ⊢
    obtain ⟨⟨⟨h1, h2⟩, h3⟩, h4⟩ := h
    have key : ∀ right c, childBad op right c = false → shiftBad op c = false := by
      intro right c hc
      cases c with
      | bin op' _ _ =>
        simp only [childBad, shiftBad] at hc ⊢
        cases hh : (isArith op && isShift op') with
        | false => rfl
        | true => rw [hh] at hc; simp at hc
      | _ => rfl
    exact ⟨⟨⟨key _ x h1, key _ y h2⟩, ihx h3⟩, ihy h4⟩

theorem childBad_of_ne_bor {op : BinOp} (ho : op ≠ .bor) (right : Bool) (c : Ast) :
    childBad op right c = shiftBad op c := by
  have : (op == BinOp.bor) = false := by simpa using ho
  cases c <;> simp [childBad, shiftBad, this]

theorem okTop_left_shift {op : BinOp} (ho : op ≠ .bor) {x : Ast} (h : shiftBad op x = false) :
    okTop (lnx op) (hostLvl op) x :=
  (okTop_left_iff op x).mpr (by rw [childBad_of_ne_bor ho]; exact h)

theorem okTop_right_shift {op : BinOp} (ho : op ≠ .bor) {y : Ast} (h : shiftBad op y = false) :
    okTop (nxt op) (hostLvl op + 1) y :=
  (okTop_right_iff op y).mpr (by rw [childBad_of_ne_bor ho]; exact h)

/-- for the `|` chains: calc's left operand of an inner `|`, printed at `lnx bor = 1`, is read by the hosts as the right
    operand of the previous `|`; that works because every other operator has host level ≥ 1 -/
theorem okTop_one_one (a : Ast) : okTop 1 1 a := by
  cases a with
  | bin op _ _ => simp only [okTop]; cases op <;> simp [lvl, hostLvl]
  | _ => trivial

theorem toksP_bor_zero (x y : Ast) :
    toksP 0 (.bin .bor x y) = toksP 1 x ++ Tok.bar :: toksP 0 y := by
  simp [toksP, lvl, lnx, nxt, rassoc, opTok]

/-- The second half (the chain `a` hung under an accumulator `acc`) is there because `hostChain` is the mutual partner
    of `hostTree`: a right-nested `|` chain of calc is read by the hosts from the left, `acc` being what is read so far. -/
theorem repHost_hostTree (a : Ast) :
    (∀ l k, shiftSafe a = true → okTop l k a → RepT hostT k (hostTree a) (toksP l a)) ∧
    (∀ acc tacc, RepT hostT 0 acc tacc → shiftSafe a = true →
        RepT hostT 0 (hostChain acc a) (tacc ++ Tok.bar :: toksP 0 a)) := by
  induction a with
  | num n =>
    refine ⟨fun l k _ _ => .num k n, fun acc tacc ha _ => ?_⟩
    exact .bin 0 .bor acc (.num n) tacc _ (Nat.zero_le _) ha (.num _ n)
  | name s =>
    refine ⟨fun l k _ _ => .name k s, fun acc tacc ha _ => ?_⟩
    exact .bin 0 .bor acc (.name s) tacc _ (Nat.zero_le _) ha (.name _ s)
  | neg e ih =>
    have hA : ∀ l k, shiftSafe (.neg e) = true → RepT hostT k (hostTree (.neg e)) (toksP l (.neg e)) := by
      intro l k hs
      simp only [hostTree, toksP]
      exact .neg k _ _ (ih.1 4 4 hs (okTop_four 4 e))
    refine ⟨fun l k hs _ => hA l k hs, fun acc tacc ha hs => ?_⟩
    exact .bin 0 .bor acc (hostTree (.neg e)) tacc _ (Nat.zero_le _) ha (hA 0 _ hs)
  | bin op x y ihx ihy =>
    have hA : ∀ l k, shiftSafe (.bin op x y) = true → okTop l k (.bin op x y) →
        RepT hostT k (hostTree (.bin op x y)) (toksP l (.bin op x y)) := by
      intro l k hs ht
      simp only [shiftSafe, Bool.and_eq_true, Bool.not_eq_true'] at hs
      obtain ⟨⟨⟨hbx, hby⟩, hsx⟩, hsy⟩ := hs
      by_cases ho : op = .bor
      · subst ho
        have hx : RepT hostT 0 (hostTree x) (toksP 1 x) := ihx.1 1 0 hsx (okTop_zero _ _)
        have h0 : RepT hostT 0 (hostTree (.bin .bor x y)) (toksP 1 x ++ Tok.bar :: toksP 0 y) := by
          rw [hostTree_bor]; exact ihy.2 _ _ hx hsy
        unfold toksP
        split
        · exact .paren k _ _ h0
        · rename_i hn
          have : k = 0 := by
            cases ht with
            | inl h1 => exact absurd h1 hn
            | inr h2 => simpa [hostLvl] using h2
          subst this
          exact h0
      · rw [hostTree_notbor ho]
        have hx : RepT hostT (hostT.lnx op) (hostTree x) (toksP (lnx op) x) :=
          ihx.1 _ _ hsx (okTop_left_shift ho hbx)
        have hy : RepT hostT (hostT.nxt op) (hostTree y) (toksP (nxt op) y) :=
          ihy.1 _ _ hsy (okTop_right_shift ho hby)
        unfold toksP
        split
        · exact .paren k _ _ (.bin 0 op _ _ _ _ (Nat.zero_le _) hx hy)
        · rename_i hn
          refine .bin k op _ _ _ _ ?_ hx hy
          cases ht with
          | inl h1 => exact absurd h1 hn
          | inr h2 => exact h2
    refine ⟨hA, ?_⟩
    intro acc tacc ha hs
    by_cases ho : op = .bor
    · subst ho
      have hs' := hs
      simp only [shiftSafe, Bool.and_eq_true, Bool.not_eq_true'] at hs'
      obtain ⟨⟨_, hsx⟩, hsy⟩ := hs'
      rw [hostChain_bor, toksP_bor_zero]
      have hx : RepT hostT 1 (hostTree x) (toksP 1 x) := ihx.1 1 1 hsx (okTop_one_one x)
      have hacc : RepT hostT 0 (.bin .bor acc (hostTree x)) (tacc ++ Tok.bar :: toksP 1 x) :=
        .bin 0 .bor acc (hostTree x) tacc _ (Nat.zero_le _) ha hx
      have := ihy.2 _ _ hacc hsy
      simpa using this
    · rw [hostChain_notbor ho]
      refine .bin 0 .bor acc _ tacc _ (Nat.zero_le _) ha (hA 0 _ hs ?_)
      right
      show 1 ≤ hostLvl op
      revert ho
      cases op <;> simp [hostLvl]

theorem host_reads_hostTree (a : Ast) (h : shiftSafe a = true) :
    parseWith hostInfo (toks a) = some (hostTree a) := by
  rw [parseHost_iff]
  exact (repHost_hostTree a).1 0 0 h (okTop_zero _ _)

end Expr
end Prophy

#print axioms Prophy.Expr.host_reads_same_tree_iff
#print axioms Prophy.Expr.Cst.parseWith_iff
#print axioms Prophy.Expr.host_reads_hostTree
