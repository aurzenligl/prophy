/-
  Lemmas for Properties/C14Literal.lean: the model of `_to_literal` (ProphyModel/CppLit.lean).
  `toLiteral = renderOf ∘ valueOf` (`toLiteral_eq`): the text `int()` is applied to, then its rendering.  A lone literal
  text is taken apart by `lone_anatomy` (`pre ++ lit ++ post`), sorted by its sign in `lone_cases`, and the two
  renderings are read back by `render_neg` / `render_pos`.  The `*_noBlankParen` chain serves
  `pyInt0_none_of_not_rendered` only: `int(text, 0)` refuses a blank or parenthesis inside the text.
-/
import ProphyModel.CppLit
import ProphyModel.Lemmas.CharLemmas
namespace Prophy.CppLit

/-- the text `int()` is applied to -/
def valueOf (cs : List Char) : List Char :=
  if negLit (bare cs) && shape cs && balanced cs then bare cs else cs

/-- the rendering of that text -/
def renderOf (value : List Char) : List Char :=
  match pyInt0 value with
  | none => value
  | some number =>
    if number < 0 then
      (if number = -(2 ^ 63 : Int) then '(' :: (intStr (number + 1) ++ " - 1)".toList) else intStr number)
    else strip value ++ (if number > 0 then ['u'] else [])

theorem toLiteral_eq (cs : List Char) : toLiteral cs = renderOf (valueOf cs) := rfl

theorem isBlankParen_cases {c : Char} (h : isBlankParen c = true) :
    c = ' ' ∨ c = '\t' ∨ c = '(' ∨ c = ')' := by
  simp only [isBlankParen, isBlank, Bool.or_eq_true, beq_iff_eq] at h
  rcases h with ((h | h) | h) | h <;> simp [h]

theorem isWord_noBlankParen {c : Char} (h : isWord c = true) : isBlankParen c = false := by
  cases hb : isBlankParen c with
  | false => rfl
  | true =>
    rcases isBlankParen_cases hb with h1 | h1 | h1 | h1 <;> subst h1 <;> revert h <;> decide

theorem isBlank_blankParen {c : Char} (h : isBlank c = true) : isBlankParen c = true := by
  simp [isBlankParen, h]

theorem noBlankParen_noBlank {c : Char} (h : isBlankParen c = false) : isBlank c = false := by
  cases hb : isBlank c with
  | false => rfl
  | true => rw [isBlank_blankParen hb] at h; cases h

theorem isOpen_blankParen {c : Char} (h : isOpen c = true) : isBlankParen c = true := by
  simp only [isOpen, Bool.or_eq_true] at h
  simp only [isBlankParen, Bool.or_eq_true]
  rcases h with h | h
  · exact Or.inl (Or.inl h)
  · exact Or.inl (Or.inr h)

theorem isClose_blankParen {c : Char} (h : isClose c = true) : isBlankParen c = true := by
  simp only [isClose, Bool.or_eq_true] at h
  simp only [isBlankParen, Bool.or_eq_true]
  rcases h with h | h
  · exact Or.inl (Or.inl h)
  · exact Or.inr h

theorem isDec_isHex {c : Char} (h : isDec c = true) : isHex c = true := by
  simp [isHex, h]

theorem isHex_isWord {c : Char} (h : isHex c = true) : isWord c = true := by
  simp only [isHex, isWord, isDec, Bool.or_eq_true, Bool.and_eq_true, decide_eq_true_eq] at *
  left; omega

theorem isDec_isWord {c : Char} (h : isDec c = true) : isWord c = true :=
  isHex_isWord (isDec_isHex h)

theorem isX_isWord {c : Char} (h : isX c = true) : isWord c = true := by
  simp only [isX, Bool.or_eq_true, beq_iff_eq] at h
  rcases h with h | h <;> subst h <;> decide

theorem isHex_pyDigit {c : Char} (h : isHex c = true) :
    pyDigit c = some (hexVal c) ∧ hexVal c < 16 ∧ (c == '_') = false := by
  refine ⟨?_, ?_, ?_⟩
  · simp only [isHex, isDec, Bool.or_eq_true, Bool.and_eq_true, decide_eq_true_eq] at h
    unfold pyDigit hexVal isDec
    rcases h with (h | h) | h
    · simp [h]
    · have h1 : ¬ (48 ≤ c.toNat ∧ c.toNat ≤ 57) := by omega
      have h2 : 97 ≤ c.toNat ∧ c.toNat ≤ 122 := by omega
      simp [h1, h2, h]
    · have h1 : ¬ (48 ≤ c.toNat ∧ c.toNat ≤ 57) := by omega
      have h2 : ¬ (97 ≤ c.toNat ∧ c.toNat ≤ 122) := by omega
      have h3 : ¬ (97 ≤ c.toNat ∧ c.toNat ≤ 102) := by omega
      have h4 : 65 ≤ c.toNat ∧ c.toNat ≤ 90 := by omega
      simp [h1, h2, h3, h4, h]
  · simp only [isHex, isDec, Bool.or_eq_true, Bool.and_eq_true, decide_eq_true_eq] at h
    unfold hexVal isDec
    rcases h with (h | h) | h
    · simp [h]; omega
    · have h1 : ¬ (48 ≤ c.toNat ∧ c.toNat ≤ 57) := by omega
      simp [h1, h]; omega
    · have h1 : ¬ (48 ≤ c.toNat ∧ c.toNat ≤ 57) := by omega
      have h3 : ¬ (97 ≤ c.toNat ∧ c.toNat ≤ 102) := by omega
      simp [h1, h3, h]; omega
  · exact beq_false_of isHex '_' h (by decide)

theorem isDec_hexVal_lt {c : Char} (h : isDec c = true) : hexVal c < 10 := by
  unfold hexVal
  simp only [h, if_true]
  simp only [isDec, Bool.and_eq_true, decide_eq_true_eq] at h
  omega

theorem pyDigitsGo_plain (b : Nat) (l : List Char) :
    ∀ acc, (∀ c ∈ l, pyDigit c = some (hexVal c) ∧ hexVal c < b ∧ (c == '_') = false) →
      pyDigitsGo b acc false l = some (l.foldl (fun a c => a * b + hexVal c) acc) := by
  induction l with
  | nil => intro acc _; simp [pyDigitsGo]
  | cons c r ih =>
    intro acc h
    obtain ⟨h1, h2, h3⟩ := h c (List.mem_cons_self ..)
    simp only [pyDigitsGo, h3, h1, h2, if_true, List.foldl_cons]
    exact ih _ (fun x hx => h x (List.mem_cons_of_mem _ hx))

theorem pyDigits_plain (b : Nat) (l : List Char) (hne : l ≠ [])
    (h : ∀ c ∈ l, pyDigit c = some (hexVal c) ∧ hexVal c < b ∧ (c == '_') = false) :
    pyDigits b l = some (digitsVal b l) := by
  cases l with
  | nil => exact absurd rfl hne
  | cons c r =>
    simp only [pyDigits, (h c (List.mem_cons_self ..)).2.2]
    exact pyDigitsGo_plain b (c :: r) 0 h

theorem pyDigits_hex (l : List Char) (h : hexDigits l = true) :
    pyDigits 16 l = some (digitsVal 16 l) := by
  simp only [hexDigits, Bool.and_eq_true, Bool.not_eq_true', List.isEmpty_eq_false_iff,
    List.all_eq_true] at h
  exact pyDigits_plain 16 l h.1 (fun c hc => isHex_pyDigit (h.2 c hc))

theorem pyDigits_dec (l : List Char) (hne : l ≠ []) (h : ∀ c ∈ l, isDec c = true) :
    pyDigits 10 l = some (digitsVal 10 l) := by
  refine pyDigits_plain 10 l hne (fun c hc => ?_)
  have := isHex_pyDigit (isDec_isHex (h c hc))
  exact ⟨this.1, isDec_hexVal_lt (h c hc), this.2.2⟩

theorem isX_pyBase {x : Char} (h : isX x = true) : pyBase x = some 16 := by
  simp only [isX] at h
  simp [pyBase, h]

/-- the three forms of the literal calc reads: `0`, `0x` + hex digits, decimal digits without a leading zero -/
theorem litVal_cases {lit : List Char} {n : Nat} (h : litVal lit = some n) :
    (lit = ['0'] ∧ n = 0) ∨
    (∃ x hs, lit = '0' :: x :: hs ∧ isX x = true ∧ hexDigits hs = true ∧ n = digitsVal 16 hs) ∨
    (∃ c r, lit = c :: r ∧ (c == '0') = false ∧ (∀ d ∈ c :: r, isDec d = true) ∧ n = digitsVal 10 (c :: r)) := by
  cases lit with
  | nil => simp [litVal] at h
  | cons c r =>
    simp only [litVal] at h
    by_cases hc : (c == '0') = true
    · have hc' : c = '0' := by simpa using hc
      subst hc'
      simp only [hc, if_true] at h
      cases r with
      | nil => exact Or.inl ⟨rfl, by simpa using h.symm⟩
      | cons x hs =>
        simp only at h
        by_cases hx : (isX x && hexDigits hs) = true
        · simp only [hx, if_true, Option.some.injEq] at h
          simp only [Bool.and_eq_true] at hx
          exact Or.inr (Or.inl ⟨x, hs, rfl, hx.1, hx.2, h.symm⟩)
        · simp [hx] at h
    · have hc' : (c == '0') = false := by simpa using hc
      simp only [hc'] at h
      by_cases hd : (c :: r).all isDec = true
      · simp only [hd, if_true, Bool.false_eq_true, if_false, Option.some.injEq] at h
        exact Or.inr (Or.inr ⟨c, r, rfl, hc', List.all_eq_true.mp hd, h.symm⟩)
      · simp [hd] at h

theorem pyMag_of_litVal {lit : List Char} {n : Nat} (h : litVal lit = some n) :
    pyMag lit = some n := by
  rcases litVal_cases h with ⟨rfl, rfl⟩ | ⟨x, hs, rfl, hx, hh, rfl⟩ | ⟨c, r, rfl, hc, hd, rfl⟩
  · rfl
  · cases hs with
    | nil => simp [hexDigits] at hh
    | cons d t =>
      have hd : (d == '_') = false := by
        simp only [hexDigits, Bool.and_eq_true, List.all_eq_true] at hh
        exact (isHex_pyDigit (hh.2 d (List.mem_cons_self ..))).2.2
      simp only [pyMag, beq_self_eq_true, if_true, isX_pyBase hx, pyPrefixed, hd]
      rw [pyDigits_hex _ hh]
      rfl
  · simp only [pyMag, hc]
    rw [pyDigits_dec _ (by simp) hd]
    rfl

theorem litBody_of_litVal {lit : List Char} {n : Nat} (h : litVal lit = some n) :
    litBody lit = some (lit.head? == some '0', n) := by
  rcases litVal_cases h with ⟨rfl, rfl⟩ | ⟨x, hs, rfl, hx, hh, rfl⟩ | ⟨c, r, rfl, hc, hd, rfl⟩
  · rfl
  · simp only [litBody, beq_self_eq_true, if_true, hx, hh, List.head?_cons]
  · have hc' : ¬ c = '0' := by simpa using hc
    simp [litBody, hc', List.all_eq_true.mpr hd]

theorem litVal_chars {lit : List Char} {n : Nat} (h : litVal lit = some n) :
    (∃ c r, lit = c :: r ∧ isDec c = true) ∧ ∀ c ∈ lit, isHex c = true ∨ isX c = true := by
  rcases litVal_cases h with ⟨rfl, rfl⟩ | ⟨x, hs, rfl, hx, hh, rfl⟩ | ⟨c, r, rfl, hc, hd, rfl⟩
  · exact ⟨⟨_, _, rfl, by decide⟩, by decide⟩
  · refine ⟨⟨_, _, rfl, by decide⟩, ?_⟩
    simp only [hexDigits, Bool.and_eq_true, List.all_eq_true] at hh
    intro c hc
    simp only [List.mem_cons] at hc
    rcases hc with rfl | rfl | hc
    · left; decide
    · right; exact hx
    · left; exact hh.2 c hc
  · exact ⟨⟨c, r, rfl, hd c (List.mem_cons_self ..)⟩, fun x hx => Or.inl (isDec_isHex (hd x hx))⟩

theorem negLit_of_litVal {lit : List Char} {n : Nat} (h : litVal lit = some n) :
    negLit ('-' :: lit) = true := by
  rcases litVal_cases h with ⟨rfl, rfl⟩ | ⟨x, hs, rfl, hx, hh, rfl⟩ | ⟨c, r, rfl, hc, hd, rfl⟩
  · decide
  · simp [negLit, hexLit, hx, hh]
  · simp [negLit, decDigits, List.all_eq_true.mpr hd]

theorem litVal_word {lit : List Char} {n : Nat} (h : litVal lit = some n) :
    ∀ c ∈ lit, isWord c = true := by
  intro c hc
  rcases (litVal_chars h).2 c hc with h1 | h1
  · exact isHex_isWord h1
  · exact isX_isWord h1

theorem litVal_no_u {lit : List Char} {n : Nat} (h : litVal lit = some n) :
    ∀ c ∈ lit, c ≠ 'u' ∧ c ≠ 'U' := by
  intro c hc
  rcases (litVal_chars h).2 c hc with h1 | h1
  · constructor <;> (intro e; subst e; revert h1; decide)
  · constructor <;> (intro e; subst e; revert h1; decide)

theorem dropWhile_head_p29 {p : Char → Bool} (l : List Char) {c : Char} {r : List Char}
    (h : l.dropWhile p = c :: r) : p c = false := by
  exact dropWhile_head p l c (by rw [h]; rfl)

theorem dropWhile_id {p : Char → Bool} {c : Char} (r : List Char) (h : p c = false) :
    (c :: r).dropWhile p = c :: r := by
  simp [h]

theorem bare_append (a b : List Char) : bare (a ++ b) = bare a ++ bare b := by
  simp [bare]

theorem bare_self {l : List Char} (h : ∀ c ∈ l, isBlankParen c = false) : bare l = l := by
  rw [bare, List.filter_eq_self]
  intro a ha; simp [h a ha]

theorem bare_nil {l : List Char} (h : ∀ c ∈ l, isBlankParen c = true) : bare l = [] := by
  rw [bare, List.filter_eq_nil_iff]
  intro a ha; simp [h a ha]

theorem bare_lone (pre : List Char) {lit post : List Char} (hlit : ∀ c ∈ lit, isWord c = true)
    (hpost : ∀ c ∈ post, isClose c = true) : bare (pre ++ (lit ++ post)) = bare pre ++ lit := by
  rw [bare_append, bare_append, bare_self (fun c hc => isWord_noBlankParen (hlit c hc)),
    bare_nil (fun c hc => isClose_blankParen (hpost c hc)), List.append_nil]

theorem bare_lstrip (l : List Char) : bare (l.dropWhile isBlank) = bare l := by
  induction l with
  | nil => rfl
  | cons c r ih =>
    simp only [List.dropWhile_cons]
    by_cases hc : isBlank c = true
    · simp only [hc, if_true, ih]
      simp [bare, isBlank_blankParen hc]
    · simp [hc]

theorem bare_rstrip (l : List Char) : bare (rstrip l) = bare l := by
  induction l with
  | nil => rfl
  | cons c r ih =>
    simp only [rstrip]
    by_cases hc : (isBlank c && (rstrip r).isEmpty) = true
    · simp only [hc, if_true]
      simp only [Bool.and_eq_true, List.isEmpty_iff] at hc
      rw [hc.2] at ih
      simp only [bare, List.filter_cons, isBlank_blankParen hc.1] at ih ⊢
      simpa using ih
    · simp only [hc]
      simp only [bare] at ih
      simp only [bare, Bool.false_eq_true, if_false, List.filter_cons, ih]

theorem bare_strip (l : List Char) : bare (strip l) = bare l := by
  rw [strip, bare_rstrip, bare_lstrip]

theorem rstrip_noblank {l : List Char} (h : ∀ c ∈ l, isBlank c = false) : rstrip l = l := by
  induction l with
  | nil => rfl
  | cons c r ih =>
    simp only [rstrip, h c (List.mem_cons_self ..), Bool.false_and]
    simp [ih (fun x hx => h x (List.mem_cons_of_mem _ hx))]

theorem strip_noblank {l : List Char} (h : ∀ c ∈ l, isBlank c = false) : strip l = l := by
  rw [strip]
  cases l with
  | nil => rfl
  | cons c r =>
    rw [dropWhile_id r (h c (List.mem_cons_self ..))]
    exact rstrip_noblank h

theorem hexVal_digitChar : ∀ d, d < 10 → hexVal (digitChar d) = d ∧ isDec (digitChar d) = true ∧
    (0 < d → (digitChar d == '0') = false) := by
  decide

theorem digitsVal_snoc (b : Nat) (l : List Char) (c : Char) :
    digitsVal b (l ++ [c]) = digitsVal b l * b + hexVal c := by
  simp [digitsVal, List.foldl_append]

theorem natDigitsF_spec (f : Nat) : ∀ n, n < 2 ^ (f + 1) →
    ∃ c r, natDigitsF f n = c :: r ∧ (0 < n → (c == '0') = false) ∧
      (∀ x ∈ c :: r, isDec x = true) ∧ digitsVal 10 (c :: r) = n := by
  induction f with
  | zero =>
    intro n hn
    have hn' : n < 10 := by omega
    have hm : n % 10 = n := by omega
    obtain ⟨h1, h2, h3⟩ := hexVal_digitChar n hn'
    refine ⟨digitChar n, [], by simp [natDigitsF, hm], h3, ?_, ?_⟩
    · intro x hx; simp at hx; subst hx; exact h2
    · simp [digitsVal, h1]
  | succ f ih =>
    intro n hn
    by_cases h10 : n < 10
    · obtain ⟨h1, h2, h3⟩ := hexVal_digitChar n h10
      refine ⟨digitChar n, [], by simp [natDigitsF, h10], h3, ?_, ?_⟩
      · intro x hx; simp at hx; subst hx; exact h2
      · simp [digitsVal, h1]
    · have hq : n / 10 < 2 ^ (f + 1) := by omega
      obtain ⟨c, r, e, hz, hd, hv⟩ := ih (n / 10) hq
      obtain ⟨h1, h2, _⟩ := hexVal_digitChar (n % 10) (by omega)
      refine ⟨c, r ++ [digitChar (n % 10)], by simp [natDigitsF, h10, e], ?_, ?_, ?_⟩
      · intro _; exact hz (by omega)
      · intro x hx
        rw [← List.cons_append, List.mem_append] at hx
        rcases hx with hx | hx
        · exact hd x hx
        · simp at hx; subst hx; exact h2
      · rw [← List.cons_append, digitsVal_snoc, hv, h1]; omega

theorem natToDigits_spec (n : Nat) :
    ∃ c r, natToDigits n = c :: r ∧ (0 < n → (c == '0') = false) ∧
      (∀ x ∈ c :: r, isDec x = true) ∧ digitsVal 10 (c :: r) = n :=
  natDigitsF_spec _ n Nat.lt_log2_self

theorem litBody_natToDigits (n : Nat) (hn : 0 < n) :
    litBody (natToDigits n) = some (false, n) ∧ (∀ x ∈ natToDigits n, isDec x = true) := by
  obtain ⟨c, r, e, hz, hd, hv⟩ := natToDigits_spec n
  rw [e]
  refine ⟨?_, hd⟩
  have hall : (c :: r).all isDec = true := by rw [List.all_eq_true]; exact hd
  simp only [litBody, hz hn, hall, hv]
  simp

theorem readLit_plain {l : List Char} (hu : ∀ c ∈ l, c ≠ 'u' ∧ c ≠ 'U') :
    readLit l = match litBody l with
      | none => none
      | some (nd, n) => (litType nd false n).map (fun t => (t, (n : Int))) := by
  have hl : (l.getLast? == some 'u' || l.getLast? == some 'U') = false := by
    cases hg : l.getLast? with
    | none => rfl
    | some c =>
      have := hu c (List.mem_of_getLast? hg)
      simp [this.1, this.2]
  simp only [readLit, hl]
  rfl

theorem readLit_u (l : List Char) :
    readLit (l ++ ['u']) = match litBody l with
      | none => none
      | some (nd, n) => (litType nd true n).map (fun t => (t, (n : Int))) := by
  simp only [readLit, List.getLast?_concat, List.dropLast_concat]
  rfl

theorem isDec_no_u {l : List Char} (h : ∀ c ∈ l, isDec c = true) : ∀ c ∈ l, c ≠ 'u' ∧ c ≠ 'U' := by
  intro c hc
  have := h c hc
  constructor <;> (intro e; subst e; revert this; decide)

theorem word_nblank {c : Char} (h : isWord c = true) : isBlank c = false :=
  noBlankParen_noBlank (isWord_noBlankParen h)

theorem cppRead_minus {c : Char} (r : List Char) (hc : isWord c = true) :
    cppRead ('-' :: c :: r) = (readLit (c :: r)).bind (fun p => cneg p.1 p.2) := by
  have h0 : ('-' == '(') = false := by decide
  have h1 : isBlank '-' = false := by decide
  simp only [cppRead, h0, readSigned, dropWhile_id _ h1, dropWhile_id _ (word_nblank hc)]
  cases readLit (c :: r) with
  | none => rfl
  | some p => cases h : cneg p.1 p.2 <;> simp [h]

theorem cppRead_unsigned {sg : List Char} {c : Char} (r : List Char) (hc : isWord c = true)
    (hsg : sg = [] ∨ sg = ['+']) : cppRead (sg ++ c :: r) = (readLit (c :: r)).map (fun p => p.2) := by
  rcases hsg with rfl | rfl
  · have h0 : (c == '(') = false := beq_false_of isWord '(' hc (by decide)
    have h1 : (c == '-') = false := beq_false_of isWord '-' hc (by decide)
    have h2 : (c == '+') = false := beq_false_of isWord '+' hc (by decide)
    simp only [List.nil_append, cppRead, h0, readSigned, dropWhile_id _ (word_nblank hc), h1, h2]
    simp
  · have h0 : ('+' == '(') = false := by decide
    have h1 : isBlank '+' = false := by decide
    simp only [List.cons_append, List.nil_append, cppRead, h0, readSigned, dropWhile_id _ h1,
      dropWhile_id _ (word_nblank hc)]
    simp

theorem blankParen_pyDigit {c : Char} (hb : isBlankParen c = true) : pyDigit c = none ∧ pyBase c = none := by
  rcases isBlankParen_cases hb with h1 | h1 | h1 | h1 <;> subst h1 <;> decide

theorem pyDigit_noBlankParen {c : Char} {d : Nat} (h : pyDigit c = some d) : isBlankParen c = false := by
  cases hb : isBlankParen c with
  | false => rfl
  | true => rw [(blankParen_pyDigit hb).1] at h; cases h

theorem us_noBlankParen {c : Char} (h : (c == '_') = true) : isBlankParen c = false := by
  rw [beq_iff_eq] at h; subst h; decide

theorem pyDigitsGo_noBlankParen (b : Nat) (l : List Char) :
    ∀ acc us n, pyDigitsGo b acc us l = some n → ∀ c ∈ l, isBlankParen c = false := by
  induction l with
  | nil => intro _ _ _ _ c hc; simp at hc
  | cons a r ih =>
    intro acc us n h c hc
    simp only [pyDigitsGo] at h
    have hr : ∀ acc us n, pyDigitsGo b acc us r = some n → c ∈ r → isBlankParen c = false :=
      fun acc us n h' hc' => ih acc us n h' c hc'
    rw [List.mem_cons] at hc
    by_cases ha : (a == '_') = true
    · simp only [ha, if_true] at h
      rcases hc with hc | hc
      · subst hc; exact us_noBlankParen ha
      · cases us with
        | true => simp at h
        | false => exact hr _ _ _ h hc
    · simp only [ha] at h
      cases hd : pyDigit a with
      | none => simp [hd] at h
      | some d =>
        simp only [hd] at h
        rcases hc with hc | hc
        · subst hc; exact pyDigit_noBlankParen hd
        · by_cases hlt : d < b
          · simp only [hlt, if_true] at h; exact hr _ _ _ (by simpa using h) hc
          · simp [hlt] at h

theorem pyDigits_noBlankParen (b : Nat) (l : List Char) (n : Nat) (h : pyDigits b l = some n) :
    ∀ c ∈ l, isBlankParen c = false := by
  cases l with
  | nil => simp [pyDigits] at h
  | cons a r =>
    simp only [pyDigits] at h
    by_cases ha : (a == '_') = true
    · simp [ha] at h
    · simp only [ha] at h
      exact pyDigitsGo_noBlankParen b _ _ _ _ (by simpa using h)

theorem pyPrefixed_noBlankParen (b : Nat) (l : List Char) (n : Nat) (h : pyPrefixed b l = some n) :
    ∀ c ∈ l, isBlankParen c = false := by
  cases l with
  | nil => simp [pyPrefixed] at h
  | cons a r =>
    simp only [pyPrefixed] at h
    by_cases ha : (a == '_') = true
    · simp only [ha, if_true] at h
      intro c hc
      rw [List.mem_cons] at hc
      rcases hc with hc | hc
      · subst hc; exact us_noBlankParen ha
      · exact pyDigits_noBlankParen b _ _ h c hc
    · simp only [ha] at h
      exact pyDigits_noBlankParen b _ _ (by simpa using h)

theorem pyBase_noBlankParen {x : Char} {b : Nat} (h : pyBase x = some b) : isBlankParen x = false := by
  cases hb : isBlankParen x with
  | false => rfl
  | true => rw [(blankParen_pyDigit hb).2] at h; cases h

theorem pyMag_noBlankParen (l : List Char) (n : Nat) (h : pyMag l = some n) :
    ∀ c ∈ l, isBlankParen c = false := by
  cases l with
  | nil => simp [pyMag] at h
  | cons a r =>
    simp only [pyMag] at h
    by_cases ha : (a == '0') = true
    · have ha' : a = '0' := by simpa using ha
      simp only [ha, if_true] at h
      cases r with
      | nil => intro c hc; simp at hc; subst hc; subst ha'; decide
      | cons x hs =>
        simp only at h
        cases hb : pyBase x with
        | some b =>
          simp only [hb] at h
          intro c hc
          simp only [List.mem_cons] at hc
          rcases hc with hc | hc | hc
          · subst hc; subst ha'; decide
          · subst hc; exact pyBase_noBlankParen hb
          · exact pyPrefixed_noBlankParen b _ _ h c hc
        | none =>
          simp only [hb] at h
          cases hd : pyDigits 10 (a :: x :: hs) with
          | none => simp [hd] at h
          | some m => exact pyDigits_noBlankParen 10 _ _ hd
    · simp only [ha] at h
      exact pyDigits_noBlankParen 10 _ _ (by simpa using h)

theorem pyInt0_noBlankParen (cs : List Char) (k : Int) (h : pyInt0 cs = some k) :
    ∀ c ∈ strip cs, isBlankParen c = false := by
  simp only [pyInt0] at h
  cases hs : strip cs with
  | nil => simp [hs] at h
  | cons a r =>
    simp only [hs] at h
    intro c hc
    rw [List.mem_cons] at hc
    by_cases h1 : (a == '-') = true
    · simp only [h1, if_true] at h
      rcases hc with hc | hc
      · subst hc; rw [beq_iff_eq] at h1; subst h1; decide
      · cases hm : pyMag r with
        | none => simp [hm] at h
        | some m => exact pyMag_noBlankParen _ _ hm c hc
    · simp only [h1] at h
      by_cases h2 : (a == '+') = true
      · simp only [h2, if_true] at h
        rcases hc with hc | hc
        · subst hc; rw [beq_iff_eq] at h2; subst h2; decide
        · cases hm : pyMag r with
          | none => simp [hm] at h
          | some m => exact pyMag_noBlankParen _ _ hm c hc
      · simp only [h2] at h
        cases hm : pyMag (a :: r) with
        | none => simp [hm] at h
        | some m => exact pyMag_noBlankParen _ _ hm c (List.mem_cons.mpr hc)

theorem isPre_sign {c : Char} (h : isPre c = true) (hb : isBlankParen c = false) : c = '-' ∨ c = '+' := by
  simp only [isPre, Bool.or_eq_true, beq_iff_eq] at h
  rcases h with (h | h) | h
  · rw [isOpen_blankParen h] at hb; cases hb
  · exact Or.inl h
  · exact Or.inr h

theorem isPre_open {c : Char} (h : isPre c = true) (hb : isBlankParen c = true) : isOpen c = true := by
  simp only [isPre, Bool.or_eq_true, beq_iff_eq] at h
  rcases h with (h | h) | h
  · exact h
  · subst h; revert hb; decide
  · subst h; revert hb; decide

theorem isDec_not_sign {c : Char} (h : isDec c = true) : (c == '-') = false ∧ (c == '+') = false :=
  ⟨beq_false_of isDec '-' h (by decide), beq_false_of isDec '+' h (by decide)⟩

theorem signedLit_minus (r : List Char) : signedLit ('-' :: r) = (litVal r).map (fun n => -(n : Int)) := rfl

theorem signedLit_plus (r : List Char) : signedLit ('+' :: r) = (litVal r).map (fun n => (n : Int)) := rfl

theorem signedLit_plain (c : Char) (r : List Char) (hm : (c == '-') = false) (hp : (c == '+') = false) :
    signedLit (c :: r) = (litVal (c :: r)).map (fun n => (n : Int)) := by
  simp only [signedLit, hm, hp]
  rfl

/-- `loneValue cs = some v`: the text is `pre ++ lit ++ post`, `pre` of blanks, `(` and at most one sign, `lit` the
    literal of value `n`, `post` of blanks and `)`; `v` is `n` with the sign -/
theorem lone_anatomy {cs : List Char} {v : Int} (h : loneValue cs = some v) :
    ∃ pre lit post n, cs = pre ++ (lit ++ post) ∧ (∀ c ∈ pre, isPre c = true) ∧ litVal lit = some n ∧
      (∀ c ∈ post, isClose c = true) ∧ balanced cs = true ∧
      ((bare pre = ['-'] ∧ v = -(n : Int)) ∨ ((bare pre = [] ∨ bare pre = ['+']) ∧ v = (n : Int))) := by
  simp only [loneValue] at h
  by_cases hc : (balanced cs && loneShape cs) = true
  · simp only [hc, if_true] at h
    simp only [Bool.and_eq_true, loneShape, Bool.not_eq_true', List.isEmpty_eq_false_iff,
      List.all_eq_true] at hc
    obtain ⟨hbal, hne, hpost⟩ := hc
    have e1 : cs = cs.takeWhile isPre ++ ((cs.dropWhile isPre).takeWhile isWord ++
        (cs.dropWhile isPre).dropWhile isWord) := by
      rw [List.takeWhile_append_dropWhile, List.takeWhile_append_dropWhile]
    generalize hpre : cs.takeWhile isPre = pre at e1
    generalize hlit : (cs.dropWhile isPre).takeWhile isWord = lit at e1 hne
    generalize hpo : (cs.dropWhile isPre).dropWhile isWord = post at e1 hpost
    have hpreall : ∀ c ∈ pre, isPre c = true := by rw [← hpre]; exact List.all_eq_true.mp List.all_takeWhile
    have hlitall : ∀ c ∈ lit, isWord c = true := by rw [← hlit]; exact List.all_eq_true.mp List.all_takeWhile
    have hb : bare cs = bare pre ++ lit := by rw [e1]; exact bare_lone pre hlitall hpost
    rw [hb] at h
    have hsg : ∀ c ∈ bare pre, c = '-' ∨ c = '+' := by
      intro c hc
      simp only [bare, List.mem_filter, Bool.not_eq_true'] at hc
      exact isPre_sign (hpreall c hc.1) hc.2
    -- the literal starts with a word character that is no sign
    obtain ⟨l0, lr, hl0⟩ : ∃ l0 lr, lit = l0 :: lr := by
      cases lit with
      | nil => exact absurd rfl hne
      | cons a b => exact ⟨a, b, rfl⟩
    have hw0 : isWord l0 = true := hlitall l0 (by rw [hl0]; exact List.mem_cons_self ..)
    have hl0m : (l0 == '-') = false := beq_false_of isWord '-' hw0 (by decide)
    have hl0p : (l0 == '+') = false := beq_false_of isWord '+' hw0 (by decide)
    cases hsgn : bare pre with
    | nil =>
      rw [hsgn, List.nil_append, hl0, signedLit_plain _ _ hl0m hl0p, ← hl0] at h
      cases hn : litVal lit with
      | none => simp [hn] at h
      | some n =>
        simp [hn] at h
        exact ⟨pre, lit, post, n, e1, hpreall, hn, hpost, hbal, Or.inr ⟨Or.inl hsgn, h.symm⟩⟩
    | cons s t =>
      rw [hsgn] at h hsg
      -- a second sign cannot start a literal
      have key : ∀ n, litVal (t ++ lit) = some n → t = [] := by
        intro n hn
        cases t with
        | nil => rfl
        | cons s2 t2 =>
          exfalso
          obtain ⟨⟨c, r, e, hd⟩, -⟩ := litVal_chars hn
          rw [List.cons_append, List.cons.injEq] at e
          rw [← e.1] at hd
          rcases hsg s2 (by simp) with rfl | rfl <;> exact absurd hd (by decide)
      rcases hsg s (List.mem_cons_self ..) with rfl | rfl
      · rw [List.cons_append, signedLit_minus] at h
        cases hn : litVal (t ++ lit) with
        | none => simp [hn] at h
        | some n =>
          rw [hn] at h
          simp at h
          have := key n hn
          subst this
          exact ⟨pre, lit, post, n, e1, hpreall, hn, hpost, hbal, Or.inl ⟨hsgn, h.symm⟩⟩
      · rw [List.cons_append, signedLit_plus] at h
        cases hn : litVal (t ++ lit) with
        | none => simp [hn] at h
        | some n =>
          rw [hn] at h
          simp at h
          have := key n hn
          subst this
          exact ⟨pre, lit, post, n, e1, hpreall, hn, hpost, hbal, Or.inr ⟨Or.inr hsgn, h.symm⟩⟩
  · simp [hc] at h

theorem shape_pre (pre : List Char) (hpre : ∀ c ∈ pre, isPre c = true) (hb : bare pre = ['-'])
    (tail : List Char) :
    ∃ X, (pre ++ tail).dropWhile isOpen = '-' :: X ∧ X.dropWhile isOpen = tail.dropWhile isOpen := by
  induction pre with
  | nil => simp [bare] at hb
  | cons c t ih =>
    have hc := hpre c (List.mem_cons_self ..)
    have ht : ∀ x ∈ t, isPre x = true := fun x hx => hpre x (List.mem_cons_of_mem _ hx)
    by_cases hbp : isBlankParen c = true
    · have ho := isPre_open hc hbp
      have hb' : bare t = ['-'] := by
        simp only [bare, List.filter_cons, hbp] at hb
        simpa [bare] using hb
      obtain ⟨X, h1, h2⟩ := ih ht hb'
      refine ⟨X, ?_, h2⟩
      simp only [List.cons_append, List.dropWhile_cons, ho, if_true]
      exact h1
    · have hbp' : isBlankParen c = false := by simpa using hbp
      have hb' : c = '-' ∧ bare t = [] := by
        simp only [bare, List.filter_cons, hbp'] at hb
        simpa [bare] using hb
      obtain ⟨e, hbt⟩ := hb'
      subst e
      have hno : isOpen '-' = false := by decide
      refine ⟨t ++ tail, by simp [hno], ?_⟩
      apply List.dropWhile_append_of_pos
      intro x hx
      have : isBlankParen x = true := by
        have := (List.filter_eq_nil_iff.mp hbt) x hx
        simpa using this
      exact isPre_open (ht x hx) this

theorem shape_of_lone_neg {pre lit post : List Char} {n : Nat} (hpre : ∀ c ∈ pre, isPre c = true)
    (hb : bare pre = ['-']) (hl : litVal lit = some n) (hpost : ∀ c ∈ post, isClose c = true) :
    shape (pre ++ (lit ++ post)) = true := by
  obtain ⟨X, h1, h2⟩ := shape_pre pre hpre hb (lit ++ post)
  obtain ⟨⟨c, r, e, hd⟩, _⟩ := litVal_chars hl
  have hw := litVal_word hl
  have hco : isOpen c = false := by
    cases ho : isOpen c with
    | false => rfl
    | true =>
      have := isWord_noBlankParen (isDec_isWord hd)
      rw [isOpen_blankParen ho] at this; cases this
  have h3 : (lit ++ post).dropWhile isOpen = lit ++ post := by
    rw [e, List.cons_append]; exact dropWhile_id _ hco
  -- after the literal comes no word character
  have hpw : post.takeWhile isWord = [] ∧ post.dropWhile isWord = post := by
    cases post with
    | nil => exact ⟨rfl, rfl⟩
    | cons a b =>
      have ha : isWord a = false := by
        cases hwa : isWord a with
        | false => rfl
        | true =>
          have := isWord_noBlankParen hwa
          rw [isClose_blankParen (hpost a (List.mem_cons_self ..))] at this; cases this
      simp [ha]
  simp only [shape, h1, h2, h3, beq_self_eq_true, Bool.true_and]
  rw [List.takeWhile_append_of_pos hw, List.dropWhile_append_of_pos hw, hpw.1, hpw.2]
  simp only [List.append_nil, Bool.and_eq_true, Bool.not_eq_true', List.isEmpty_eq_false_iff,
    List.all_eq_true]
  exact ⟨by rw [e]; simp, hpost⟩

theorem readLit_lit {lit : List Char} {n : Nat} (hl : litVal lit = some n) :
    readLit lit = (litType (lit.head? == some '0') false n).map (fun t => (t, (n : Int))) := by
  rw [readLit_plain (litVal_no_u hl), litBody_of_litVal hl]

theorem readLit_lit_u {lit : List Char} {n : Nat} (hl : litVal lit = some n) :
    readLit (lit ++ ['u']) = (litType (lit.head? == some '0') true n).map (fun t => (t, (n : Int))) := by
  rw [readLit_u, litBody_of_litVal hl]

theorem litType_zero (b : Bool) : litType b false 0 = some .int := by
  cases b <;> decide

theorem neg_lit_noblank {lit : List Char} {n : Nat} (hl : litVal lit = some n) :
    ∀ c ∈ '-' :: lit, isBlank c = false := by
  intro c hc
  rcases List.mem_cons.mp hc with rfl | hc
  · decide
  · exact word_nblank (litVal_word hl c hc)

theorem pyInt0_neg_lit {lit : List Char} {n : Nat} (hl : litVal lit = some n) :
    pyInt0 ('-' :: lit) = some (-(n : Int)) := by
  have hnb := neg_lit_noblank hl
  simp only [pyInt0, strip_noblank hnb, beq_self_eq_true, if_true, pyMag_of_litVal hl]
  rfl

theorem pyInt0_pos_lit {cs lit sg : List Char} {n : Nat} (hl : litVal lit = some n)
    (hs : strip cs = sg ++ lit) (hsg : sg = [] ∨ sg = ['+']) :
    pyInt0 cs = some (n : Int) := by
  obtain ⟨⟨c, r, e, hd⟩, _⟩ := litVal_chars hl
  obtain ⟨hm, hp⟩ := isDec_not_sign hd
  have hpm : ('+' == '-') = false := by decide
  rcases hsg with h | h
  · subst h
    rw [List.nil_append, e] at hs
    simp only [pyInt0, hs, hm, hp]
    rw [← e, pyMag_of_litVal hl]; rfl
  · subst h
    simp only [pyInt0, hs, List.cons_append, List.nil_append, hpm, beq_self_eq_true, if_true]
    rw [pyMag_of_litVal hl]; rfl

theorem render_neg {lit : List Char} {n : Nat} (hl : litVal lit = some n) (hn : n ≤ 2 ^ 63) :
    cppRead (renderOf ('-' :: lit)) = some (-(n : Int)) := by
  have hnb := neg_lit_noblank hl
  have hpy := pyInt0_neg_lit hl
  obtain ⟨⟨c, r, e, hd⟩, _⟩ := litVal_chars hl
  have hcw : isWord c = true := isDec_isWord hd
  simp only [renderOf, hpy]
  by_cases h0 : n = 0
  · -- `-0` is not negative: the text itself is kept (the only use of `hnb`), and reads as 0
    subst h0
    have e0 : (-((0 : Nat) : Int)) = 0 := by simp
    rw [e0]
    simp only [Int.lt_irrefl, if_false, gt_iff_lt, List.append_nil, strip_noblank hnb]
    rw [e, cppRead_minus _ hcw, ← e, readLit_lit hl, litType_zero]
    decide
  · by_cases h63 : n = 2 ^ 63
    · -- -2^63 is rendered `(-9223372036854775807 - 1)`: a closed text, read by evaluation
      subst h63
      rw [if_pos (by decide), if_pos (by decide)]
      decide
    · -- the decimal number with its sign; its type is `int` or `long` by `n`
      have hlt : n < 2 ^ 63 := by omega
      have hneg : (-(n : Int)) < 0 := by omega
      have hne : ¬ (-(n : Int)) = -(2 ^ 63 : Int) := by
        have : (2 ^ 63 : Int) = ((2 ^ 63 : Nat) : Int) := by norm_cast
        omega
      rw [if_pos hneg, if_neg hne]
      have hs : intStr (-(n : Int)) = '-' :: natToDigits n := by
        unfold intStr
        rw [if_pos hneg, Int.natAbs_neg, Int.natAbs_natCast]
      rw [hs]
      obtain ⟨hb, hdd⟩ := litBody_natToDigits n (by omega)
      obtain ⟨c2, r2, e2, _, hd2, _⟩ := natToDigits_spec n
      have hc2 : isWord c2 = true := isDec_isWord (hd2 c2 (List.mem_cons_self ..))
      rw [e2, cppRead_minus _ hc2, ← e2, readLit_plain (isDec_no_u hdd), hb]
      by_cases h31 : n < 2 ^ 31
      · have : litType false false n = some .int := by simp [litType, h31]
        simp only [this, Option.map_some, Option.bind_some, cneg, CTy.holds]
        have hh : (-(2 ^ 31 : Int) ≤ -(n : Int) && -(n : Int) < (2 ^ 31 : Int)) = true := by
          simp only [Bool.and_eq_true, decide_eq_true_eq]
          have : (2 ^ 31 : Int) = ((2 ^ 31 : Nat) : Int) := by norm_cast
          omega
        simp only [hh, if_true]
      · have : litType false false n = some .long := by simp [litType, h31, hlt]
        simp only [this, Option.map_some, Option.bind_some, cneg, CTy.holds]
        have hh : (-(2 ^ 63 : Int) ≤ -(n : Int) && -(n : Int) < (2 ^ 63 : Int)) = true := by
          simp only [Bool.and_eq_true, decide_eq_true_eq]
          have : (2 ^ 63 : Int) = ((2 ^ 63 : Nat) : Int) := by norm_cast
          omega
        simp only [hh, if_true]

theorem litType_u (b : Bool) {n : Nat} (hn : n < 2 ^ 64) : ∃ t, litType b true n = some t := by
  by_cases h : n < 2 ^ 32
  · exact ⟨.uint, by simp [litType, h]⟩
  · exact ⟨.ulong, by simp [litType, h, hn]⟩

theorem render_pos {cs lit sg : List Char} {n : Nat} (hl : litVal lit = some n) (hn : n < 2 ^ 64)
    (hs : strip cs = sg ++ lit) (hsg : sg = [] ∨ sg = ['+']) :
    cppRead (renderOf cs) = some (n : Int) := by
  obtain ⟨⟨c, r, e, hd⟩, _⟩ := litVal_chars hl
  have hcw : isWord c = true := isDec_isWord hd
  have hnn : ¬ ((n : Int) < 0) := by omega
  simp only [renderOf, pyInt0_pos_lit hl hs hsg]
  rw [if_neg hnn, hs]
  by_cases h0 : n = 0
  · subst h0
    have : ¬ (((0 : Nat) : Int) > 0) := by simp
    rw [if_neg this, List.append_nil, e, cppRead_unsigned r hcw hsg, ← e, readLit_lit hl, litType_zero]
    rfl
  · have : ((n : Int) > 0) := by omega
    obtain ⟨t, ht⟩ := litType_u (lit.head? == some '0') hn
    rw [if_pos this, List.append_assoc, e, List.cons_append, cppRead_unsigned _ hcw hsg, ← List.cons_append, ← e,
      readLit_lit_u hl, ht]
    rfl

theorem valueOf_neg {pre lit post : List Char} {n : Nat} (hpre : ∀ c ∈ pre, isPre c = true)
    (hb : bare pre = ['-']) (hl : litVal lit = some n) (hpost : ∀ c ∈ post, isClose c = true)
    (hbal : balanced (pre ++ (lit ++ post)) = true) :
    bare (pre ++ (lit ++ post)) = '-' :: lit ∧ valueOf (pre ++ (lit ++ post)) = '-' :: lit := by
  have hbare : bare (pre ++ (lit ++ post)) = '-' :: lit := by rw [bare_lone pre (litVal_word hl) hpost, hb]; rfl
  refine ⟨hbare, ?_⟩
  simp only [valueOf, hbare, negLit_of_litVal hl, shape_of_lone_neg hpre hb hl hpost, hbal,
    Bool.and_self, if_true]

theorem valueOf_pos {pre lit post sg : List Char} {n : Nat}
    (hb : bare pre = sg) (hsg : sg = [] ∨ sg = ['+']) (hl : litVal lit = some n)
    (hpost : ∀ c ∈ post, isClose c = true) :
    bare (pre ++ (lit ++ post)) = sg ++ lit ∧ valueOf (pre ++ (lit ++ post)) = pre ++ (lit ++ post) ∧
      (bare (pre ++ (lit ++ post))).head? ≠ some '-' := by
  have hbare : bare (pre ++ (lit ++ post)) = sg ++ lit := by rw [bare_lone pre (litVal_word hl) hpost, hb]
  obtain ⟨⟨c, r, e, hd⟩, _⟩ := litVal_chars hl
  obtain ⟨hm, _⟩ := isDec_not_sign hd
  have hpm : ('+' == '-') = false := by decide
  have hneg : negLit (sg ++ lit) = false := by
    rcases hsg with h | h
    · subst h; rw [List.nil_append, e]; simp [negLit, hm]
    · subst h; simp [negLit, hpm]
  refine ⟨hbare, ?_, ?_⟩
  · simp [valueOf, hbare, hneg]
  · rw [hbare]
    rcases hsg with h | h
    · subst h; rw [List.nil_append, e]
      intro h; simp at h; subst h; revert hd; decide
    · subst h; simp

theorem pyInt0_none_of_not_rendered {cs : List Char} (hr : rendered cs = false) : pyInt0 cs = none := by
  simp only [rendered, Bool.or_eq_false_iff] at hr
  cases hpy : pyInt0 cs with
  | none => rfl
  | some k =>
    have hall := pyInt0_noBlankParen _ _ hpy
    have : (strip cs).all (fun c => !isBlankParen c) = true := by
      rw [List.all_eq_true]; intro c hc; simp [hall c hc]
    rw [this] at hr
    exact Bool.noConfusion hr.2

theorem strip_of_rendered {cs : List Char} (hsimple : rendered cs = true) (hhead : (bare cs).head? ≠ some '-') :
    strip cs = bare cs := by
  simp only [rendered, Bool.or_eq_true, beq_iff_eq, List.all_eq_true, Bool.not_eq_true'] at hsimple
  rcases hsimple with h | h
  · exact absurd h hhead
  · rw [← bare_self h, bare_strip]

/-- a lone literal is `lit` with a minus sign, which `_to_literal` always renders from the bare text `-lit`, or `lit` with
    at most a plus sign, handed on as written and rendered when the text has no blank or parenthesis -/
theorem lone_cases {cs : List Char} {v : Int} (hv : loneValue cs = some v) :
    ∃ lit n, litVal lit = some n ∧
      ((v = -(n : Int) ∧ valueOf cs = '-' :: lit ∧ rendered cs = true) ∨
       (v = (n : Int) ∧ valueOf cs = cs ∧
         ∃ sg, (sg = [] ∨ sg = ['+']) ∧ (rendered cs = true → strip cs = sg ++ lit))) := by
  obtain ⟨pre, lit, post, n, rfl, hpre, hl, hpost, hbal, ⟨hb, hvn⟩ | ⟨hb, hvn⟩⟩ := lone_anatomy hv
  · obtain ⟨hbare, hval⟩ := valueOf_neg hpre hb hl hpost hbal
    exact ⟨lit, n, hl, .inl ⟨hvn, hval, by simp [rendered, hbare]⟩⟩
  · obtain ⟨hbare, hval, hhead⟩ := valueOf_pos (sg := bare pre) rfl hb hl hpost
    exact ⟨lit, n, hl, .inr ⟨hvn, hval, bare pre, hb, fun hr => by rw [strip_of_rendered hr hhead, hbare]⟩⟩

end Prophy.CppLit
