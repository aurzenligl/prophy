/-
  The file processor with links over a file system WITHOUT links (`ofFiles fs`): it refines `ProphyModel/Files.lean`,
  `sameIncludes` never fails, `TwoNamesError` never fires.
-/
import ProphyModel.Files
import ProphyModel.Lemmas.FilesOrder
import ProphyModel.Lemmas.FilesLinks
namespace Prophy.FilesL
open Prophy

def toPath_l (f : Files.FileId) : Path := ⟨f.dir, f.leaf⟩
def toId_l (p : Path) : Files.FileId := ⟨p.dir, p.leaf⟩

@[simp] theorem toId_toPath_l (f : Files.FileId) : toId_l (toPath_l f) = f := rfl
@[simp] theorem toPath_toId_l (p : Path) : toPath_l (toId_l p) = p := rfl

theorem toId_inj {p q : Path} (h : toId_l p = toId_l q) : p = q := by
  have := congrArg toPath_l h
  simpa using this

/-- a file system without links: every file is an entry that targets itself -/
def ofFiles (fs : List Files.File) : FS :=
  { entries := fs.map fun f => ⟨toPath_l f.id, toPath_l f.id, toPath_l f.id⟩,
    files := fs.map fun f => ⟨toPath_l f.id, f.includes, f.defines⟩ }

def toRes_l (r : Result) : Files.Result := ⟨r.exports, r.visible, r.parsed.map toId_l⟩

def toCache_l (c : Cache_l) : Files.Cache := c.map fun e => (toId_l e.1, e.2.map toRes_l)

theorem beq_toPath (f : Files.FileId) (p : Path) : (toPath_l f == p) = (f == toId_l p) := by
  by_cases h : f = toId_l p
  · subst h; simp
  · have : toPath_l f ≠ p := fun h' => h (by rw [← h']; rfl)
    rw [beq_eq_false_iff_ne.mpr this, beq_eq_false_iff_ne.mpr h]

theorem find?_map_ofFiles {β : Type} (mk : Files.File → β) (key : β → Path) (hk : ∀ f, key (mk f) = toPath_l f.id)
    (fs : List Files.File) (p : Path) :
    (fs.map mk).find? (fun e => key e == p) = (Files.lookupFile fs (toId_l p)).map mk := by
  rw [List.find?_map, Files.lookupFile]
  congr 2
  funext f
  simp only [Function.comp, hk, beq_toPath]

theorem entry_ofFiles (fs : List Files.File) (p : Path) :
    (ofFiles fs).entries.find? (fun e => e.path == p) =
      (Files.lookupFile fs (toId_l p)).map fun f => ⟨toPath_l f.id, toPath_l f.id, toPath_l f.id⟩ :=
  find?_map_ofFiles _ Entry.path (fun _ => rfl) fs p

theorem real_ofFiles (fs : List Files.File) (p : Path) :
    real (ofFiles fs) p = (Files.lookupFile fs (toId_l p)).map fun f => toPath_l f.id := by
  rw [real, entry_ofFiles, Option.map_map]
  rfl

theorem ident_eq_real_ofFiles (fs : List Files.File) (p : Path) : ident (ofFiles fs) p = real (ofFiles fs) p := by
  rw [real_ofFiles, ident, entry_ofFiles, Option.map_map]
  rfl

theorem real_ofFiles_eq {fs : List Files.File} {p r : Path} (h : real (ofFiles fs) p = some r) : r = p := by
  rw [real_ofFiles] at h
  obtain ⟨f, hf, rfl⟩ := Option.map_eq_some_iff.mp h
  rw [Files.lookupFile_some hf]
  rfl

theorem ident_ofFiles_eq {fs : List Files.File} {p r : Path} (h : ident (ofFiles fs) p = some r) : r = p :=
  real_ofFiles_eq (ident_eq_real_ofFiles fs p ▸ h)

theorem content_ofFiles (fs : List Files.File) (p : Path) :
    content (ofFiles fs) p = (Files.lookupFile fs (toId_l p)).map fun f => ⟨toPath_l f.id, f.includes, f.defines⟩ :=
  find?_map_ofFiles _ File.id (fun _ => rfl) fs p

theorem directoriesOf_ofFiles (fs : List Files.File) (p : Path) : directoriesOf (ofFiles fs) p = [p.dir] := by
  unfold directoriesOf
  cases h : real (ofFiles fs) p with
  | none => rfl
  | some r =>
    have := real_ofFiles_eq h
    subst this
    show (if r.dir = r.dir then [r.dir] else [r.dir, r.dir]) = [r.dir]
    rw [if_pos rfl]

theorem searchDirs_ofFiles (fs : List Files.File) (incs : List String) (p : Path) :
    searchDirs (ofFiles fs) incs p = p.dir :: incs := by
  simp [searchDirs, directoriesOf_ofFiles]

theorem find_ofFiles (fs : List Files.File) (leaf : String) :
    ∀ dirs, find (ofFiles fs) leaf dirs = (Files.findLeaf fs leaf dirs).map toPath_l
  | [] => rfl
  | d :: r => by
    simp only [find, Files.findLeaf, real_ofFiles]
    have : toId_l ⟨d, leaf⟩ = (⟨d, leaf⟩ : Files.FileId) := rfl
    rw [this]
    cases Files.lookupFile fs ⟨d, leaf⟩ with
    | none => simp [find_ofFiles fs leaf r]
    | some f => simp [toPath_l]

theorem lookup_toCache (c : Cache_l) (p : Path) :
    (toCache_l c).lookup (toId_l p) = (c.lookup p).map (Option.map toRes_l) := by
  induction c with
  | nil => rfl
  | cons e c ih =>
    obtain ⟨q, o⟩ := e
    show List.lookup (toId_l p) ((toId_l q, o.map toRes_l) :: toCache_l c) = _
    rw [lookup_cons, lookup_cons]
    by_cases h : p = q
    · subst h; simp
    · have : toId_l p ≠ toId_l q := fun h' => h (toId_inj h')
      rw [if_neg h, if_neg this]
      exact ih

/-- a successful call over a file system without links is a successful call of the model without links with the same fuel
    (which that model does not use up: `processFile` spends three units per file here, one there) -/
theorem run_refines (fs : List Files.File) (incs : List String) {n : Nat} {st st' : State} {p : Path} {res : Result}
    (h : processFile (ofFiles fs) incs n st p = .ok (res, st')) :
    Files.processFile fs n (p.dir :: incs) (toCache_l st.cache) (toId_l p) = .ok (toRes_l res, toCache_l st'.cache) :=
  (run_induct (ofFiles fs) incs
    (PF := fun n c _ _ p res st' => Files.processFile fs n (p.dir :: incs) (toCache_l c) (toId_l p) =
      .ok (toRes_l res, toCache_l st'.cache))
    (PI := fun n c _ _ p _ l vis parsed _ _ st' => Files.processIncludes fs n (p.dir :: incs) (toCache_l c) l =
      .ok (vis, parsed.map toId_l, toCache_l st'.cache))
    (hit := by
      intro k st p r res0 st' hr hl hs
      cases ident_ofFiles_eq hr
      rw [Files.processFile_succ, lookup_toCache, hl, (sameIncludes_ok hs).cache]
      rfl)
    (miss := by
      intro k c io v p r file' vis parsed found shapes st2 st' hr hl hc ih e1 _ _
      cases ident_ofFiles_eq hr
      rw [content_ofFiles] at hc
      cases hf : Files.lookupFile fs (toId_l p) with
      | none => rw [hf] at hc; cases hc
      | some file =>
        rw [hf] at hc
        cases hc
        apply Files.processFile_mono fs (by omega : k + 1 ≤ k + 3)
        have ih : Files.processIncludes fs k (p.dir :: incs) ((toId_l p, none) :: toCache_l c) file.includes =
            .ok (vis, parsed.map toId_l, toCache_l st2.cache) := ih
        rw [Files.processFile_succ, lookup_toCache, hl]
        simp only [Option.map_none, hf, ih]
        rw [e1]
        rfl)
    (nil := Files.processIncludes_nil ..)
    (cons := by
      intro k c io v p r leaf rest g res st2 vis parsed found shapes st3 hg ihF ihI
      rw [searchDirs_ofFiles, find_ofFiles] at hg
      cases hg' : Files.findLeaf fs leaf (p.dir :: incs) with
      | none => rw [hg'] at hg; cases hg
      | some g' =>
        rw [hg'] at hg
        cases hg
        have ihF : Files.processFile fs k (g'.dir :: incs) (toCache_l c) g' =
            .ok (toRes_l res, toCache_l st2.cache) := ihF
        rw [Files.processIncludes_succ]
        simp only [hg', Files.swapDir_cons, ihF, ihI, List.map_append]
        rfl) n).1 st p res st' h

/-- from any state, WITH THE SAME FUEL `5 * fs.length + 5` (`C20Links.lean`: the fuel `4 * fs.length + 4` that `Files.processMains`
    fixes is not always enough) -/
theorem processMains_refines_l (fs : List Files.File) (incs : List String) (ms : List Path) (st : State)
    (rs : List (Path × Result)) (h : processMains (ofFiles fs) incs ms st = .ok rs) :
    filesMainsN_l fs (5 * fs.length + 5) incs (ms.map toId_l) (toCache_l st.cache) =
      .ok (rs.map fun mr => (toId_l mr.1, toRes_l mr.2)) :=
  processMains_induct (ofFiles fs) incs
    (P := fun ms st rs => filesMainsN_l fs (5 * fs.length + 5) incs (ms.map toId_l) (toCache_l st.cache) =
      .ok (rs.map fun mr => (toId_l mr.1, toRes_l mr.2)))
    (fun _ => rfl)
    (fun {m ms st res st1 rs} hp _ ih => by
      have h1 := run_refines fs incs hp
      have hfuel : fuelOf (ofFiles fs) = 5 * fs.length + 5 := by
        rw [fuelOf, ofFiles, List.length_map]
      rw [hfuel] at h1
      rw [List.map_cons, Files.filesMainsN_cons]
      have : (toId_l m).dir = m.dir := rfl
      rw [this, h1]
      simp only [ih, List.map_cons]) ms st rs h

theorem processMains_refines_agree_l (fs : List Files.File) (incs : List String) (ms : List Path) (st : State)
    (rs : List (Path × Result)) (rs' : List (Files.FileId × Files.Result))
    (h : processMains (ofFiles fs) incs ms st = .ok rs)
    (h' : Files.processMains fs incs (ms.map toId_l) (toCache_l st.cache) = .ok rs') :
    rs' = rs.map fun mr => (toId_l mr.1, toRes_l mr.2) := by
  have h1 := processMains_refines_l fs incs ms st rs h
  rw [← filesMainsN_eq_l] at h'
  have h2 := Files.filesMainsN_mono fs incs (by omega : 4 * fs.length + 4 ≤ 5 * fs.length + 5) _ _ _ h'
  rw [h1] at h2
  injection h2 with h2
  exact h2.symm

/-! `VerInv_l` holds of the empty state and after every successful call (`VerInv_init`, `run_verInv`), so no call of `sameIncludes`
  ever fails (`sameIncludes_ofFiles_l`). -/

/-- every finished file has been verified for its own directory - without links the only directories it can have -/
def VerInv_l (st : State) : Prop :=
  ∀ r res, st.cache.lookup r = some (some res) → (r, [r.dir]) ∈ st.verified

theorem sameIncludes_ofFiles_l (fs : List Files.File) (incs : List String) (n : Nat) (st : State) (r p : Path)
    (res : Result) (hI : VerInv_l st) (hr : real (ofFiles fs) p = some r) (hl : st.cache.lookup r = some (some res)) :
    sameIncludes (ofFiles fs) incs (n + 1) st r p = .ok st := by
  have := real_ofFiles_eq hr
  subst this
  rw [sameIncludes_succ, directoriesOf_ofFiles, if_pos (List.contains_iff_mem.mpr (hI r res hl))]

theorem run_verInv (fs : List Files.File) (incs : List String) (n : Nat) (st : State) (p : Path) (res : Result)
    (st' : State) (h : processFile (ofFiles fs) incs n st p = .ok (res, st')) (hV : VerInv_l st) :
    VerInv_l st' ∧ (∀ k ∈ st.verified, k ∈ st'.verified) ∧
      (∀ x, st.cache.lookup x ≠ none → st'.cache.lookup x = st.cache.lookup x) :=
  (run_induct (ofFiles fs) incs
    (PF := fun _ c _ v _ _ st' => (∀ r res, c.lookup r = some (some res) → (r, [r.dir]) ∈ v) →
      VerInv_l st' ∧ (∀ k ∈ v, k ∈ st'.verified) ∧ (∀ x, c.lookup x ≠ none → st'.cache.lookup x = c.lookup x))
    (PI := fun _ c _ v _ _ _ _ _ _ _ st' => (∀ r res, c.lookup r = some (some res) → (r, [r.dir]) ∈ v) →
      VerInv_l st' ∧ (∀ k ∈ v, k ∈ st'.verified) ∧ (∀ x, c.lookup x ≠ none → st'.cache.lookup x = c.lookup x))
    (hit := by
      intro k st p r res0 st' hr hl hs hV
      cases ident_ofFiles_eq hr
      rw [sameIncludes_ofFiles_l fs incs k st p p res0 hV (ident_eq_real_ofFiles fs p ▸ hr) hl] at hs
      cases hs
      exact ⟨hV, fun _ h => h, fun _ _ => rfl⟩)
    (miss := by
      intro k c io v p r file vis parsed found shapes st2 st' hr hl _ ih e1 _ e3 hV
      cases ident_ofFiles_eq hr
      obtain ⟨b1, b2, b3⟩ := ih (fun x rx hx =>
        List.mem_cons_of_mem _ (hV x rx (fin_cons_none (show fin_l ((p, none) :: c) x rx from hx)).2))
      refine ⟨?_, ?_, ?_⟩
      · intro x rx hx
        rw [e1, lookup_cons] at hx
        rw [e3]
        by_cases hxp : x = p
        · have := b2 (p, directoriesOf (ofFiles fs) p) (List.mem_cons_self ..)
          rw [directoriesOf_ofFiles] at this
          exact hxp ▸ this
        · rw [if_neg hxp] at hx
          exact b1 x rx hx
      · intro k hk
        rw [e3]
        exact b2 k (List.mem_cons_of_mem _ hk)
      · intro x hx
        have hxp : x ≠ p := fun e => hx (e ▸ hl)
        rw [e1, lookup_cons, if_neg hxp, b3 x (by rw [lookup_cons, if_neg hxp]; exact hx), lookup_cons, if_neg hxp])
    (nil := fun hV => ⟨hV, fun _ h => h, fun _ _ => rfl⟩)
    (cons := by
      intro k c io v p r leaf rest g res st2 vis parsed found shapes st3 _ ihF ihI hV
      obtain ⟨a1, a2, a3⟩ := ihF hV
      obtain ⟨b1, b2, b3⟩ := ihI a1
      refine ⟨b1, fun k hk => b2 k (a2 k hk), fun x hx => ?_⟩
      rw [b3 x (by rw [a3 x hx]; exact hx), a3 x hx]) n).1 st p res st' h hV

theorem VerInv_init : VerInv_l {} :=
  fun _ _ h => nomatch h

/-- every real path is registered under its own leaf - without links the only name it can be used under -/
def NameInv_l (st : State) : Prop := ∀ r l, st.nameOf.lookup r = some l → l = r.leaf

theorem NameInv_init : NameInv_l {} := by
  intro r l h
  simp at h

/-- without links a path is its own real path, so the registered name is the leaf used now -/
theorem processNamed_ofFiles (fs : List Files.File) (incs : List String) (n : Nat) (st : State) (p r : Path)
    (hI : NameInv_l st) (hr : real (ofFiles fs) p = some r) :
    ∃ st0, NameInv_l st0 ∧ st0.cache = st.cache ∧ st0.includesOf = st.includesOf ∧ st0.verified = st.verified ∧
      st0.names = st.names ∧
      processNamed (ofFiles fs) incs (n + 1) st p r = processKnown (ofFiles fs) incs n st0 p r := by
  have := real_ofFiles_eq hr
  subst this
  rw [processNamed_succ]
  cases hn : st.nameOf.lookup r with
  | some l =>
    have := hI r l hn
    subst this
    exact ⟨st, hI, rfl, rfl, rfl, rfl, by simp⟩
  | none =>
    refine ⟨{ st with nameOf := (r, r.leaf) :: st.nameOf }, ?_, rfl, rfl, rfl, rfl, rfl⟩
    intro x l hx
    have hx : List.lookup x ((r, r.leaf) :: st.nameOf) = some l := hx
    rw [lookup_cons] at hx
    by_cases hxr : x = r
    · rw [if_pos hxr] at hx
      injection hx with hx
      rw [← hx, hxr]
    · rw [if_neg hxr] at hx
      exact hI x l hx

theorem NameInv_of_nameOf_eq {st st' : State} (h : st'.nameOf = st.nameOf) (hI : NameInv_l st) : NameInv_l st' :=
  fun x l hx => hI x l (h ▸ hx)

theorem run_noTwoNames (fs : List Files.File) (incs : List String) :
    ∀ n, (∀ st p, NameInv_l st → NoTwo (fun y => NameInv_l y.2) (processFile (ofFiles fs) incs n st p)) ∧
         (∀ st p r, NameInv_l st → real (ofFiles fs) p = some r →
            NoTwo (fun y => NameInv_l y.2) (processNamed (ofFiles fs) incs n st p r)) ∧
         (∀ st p r, NameInv_l st → NoTwo (fun y => NameInv_l y.2) (processKnown (ofFiles fs) incs n st p r)) ∧
         (∀ st p r l, NameInv_l st →
            NoTwo (fun y => NameInv_l y.2.2.2.2) (processIncludes (ofFiles fs) incs n st p r l)) := by
  intro n
  induction n with
  | zero =>
    refine ⟨fun _ _ _ => ?_, fun _ _ _ _ _ => ?_, fun _ _ _ _ => ?_, fun st p r l hI => ?_⟩
    · exact fun q h => nomatch h
    · exact fun q h => nomatch h
    · exact fun q h => nomatch h
    · cases l with
      | nil => rw [processIncludes_nil]; exact hI
      | cons a l => exact fun q h => nomatch h
  | succ n ih =>
    obtain ⟨hF, hN, hK, hI⟩ := ih
    refine ⟨fun st p hV => ?_, fun st p r hV hr => ?_, fun st p r hV => ?_, fun st p r l hV => ?_⟩
    · rw [processFile_succ]
      cases hr : ident (ofFiles fs) p with
      | none => exact fun q h => nomatch h
      | some r =>
        have hr' : real (ofFiles fs) p = some r := ident_eq_real_ofFiles fs p ▸ hr
        cases hn : st.names.lookup p.leaf with
        | none => exact hN { st with names := (p.leaf, r) :: st.names } p r hV hr'
        | some q0 =>
          simp only
          split
          · exact fun q h => nomatch h
          · exact hN st p r hV hr'
    · obtain ⟨st0, h0, _, _, _, _, heq⟩ := processNamed_ofFiles fs incs n st p r hV hr
      rw [heq]
      exact hK st0 p r h0
    · rw [processKnown_succ]
      cases hl : st.cache.lookup r with
      | some o =>
        cases o with
        | none => exact fun q h => nomatch h
        | some res0 =>
          -- a cache hit: `sameIncludes` changes `verified` only
          exact (sameIncludes_onlyVerified (ofFiles fs) incs (n + 1) st r p).bind
            fun st' h1 => NameInv_of_nameOf_eq h1.nameOf hV
      | none =>
        cases hc : content (ofFiles fs) r with
        | none => exact fun q h => nomatch h
        | some file =>
          simp only
          refine NoTwo.bind (hI _ _ _ _ ?_) fun ⟨vis, parsed, found, shapes, st2⟩ h1 => ?_
          · exact hV
          simp only
          split
          · exact fun q h => nomatch h
          · exact h1
    · cases l with
      | nil => rw [processIncludes_nil]; exact hV
      | cons leaf rest =>
        rw [processIncludes_succ]
        cases hg : find (ofFiles fs) leaf (searchDirs (ofFiles fs) incs p) with
        | none => exact fun q h => nomatch h
        | some g =>
          refine NoTwo.bind (hF _ g ?_) fun ⟨res, st2⟩ h1 => NoTwo.bind (hI st2 p r rest h1) fun _ h2 => ?_
          · exact hV
          · exact h2

theorem processMains_noTwoNames_l (fs : List Files.File) (incs : List String) :
    ∀ (ms : List Path) (st : State), NameInv_l st → ∀ q, processMains (ofFiles fs) incs ms st ≠ .error (.twoNames q) := by
  intro ms st
  fun_induction processMains (ofFiles fs) incs ms st with
  | case1 st => exact fun _ q h => nomatch h                          -- no input left
  | case2 m ms st e hp =>                                             -- the input fails
    intro hV q h
    have h1 := (run_noTwoNames fs incs (fuelOf (ofFiles fs))).1 st m hV
    rw [hp] at h1
    exact h1 q (Except.error.inj h)
  | case3 m ms st res st1 hp e hm ih =>                               -- a later input fails
    intro hV q h
    have h1 := (run_noTwoNames fs incs (fuelOf (ofFiles fs))).1 st m hV
    rw [hp] at h1
    exact ih h1 q (hm.trans h)
  | case4 m ms st res st1 hp rs1 hm ih => exact fun _ q h => nomatch h

end Prophy.FilesL

#print axioms Prophy.FilesL.processMains_refines_l
#print axioms Prophy.FilesL.sameIncludes_ofFiles_l
#print axioms Prophy.FilesL.processMains_refines_agree_l
#print axioms Prophy.FilesL.processMains_noTwoNames_l
