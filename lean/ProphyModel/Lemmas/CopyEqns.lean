/- `copyField` and `shapeField` read off the value: most of their clauses do not look at the type. -/
import ProphyModel.Copy
namespace Prophy.Copy

theorem copyField_sizer (k : MKind) (t : Ty) : copyField k t .sizer = (.sizer, false) := by
  cases t <;> rfl

theorem copyField_absent (k : MKind) (t : Ty) : copyField k t .absent = (.absent, false) := by
  cases t <;> rfl

theorem copyField_bytes (k : MKind) (t : Ty) (b : Bytes) : copyField k t (.bytes b) = (.bytes b, false) := by
  cases t <;> rfl

theorem copyField_int (k : MKind) (t : Ty) (i : Int) : copyField k t (.int i) = (.int i, false) := by
  cases t <;> rfl

theorem copyField_present (k : MKind) (t : Ty) (x : Val) :
    copyField k t (.present x) = (.present (copyField .plain t x).1, (copyField .plain t x).2) := by
  cases t <;> rfl

theorem copyField_arr (k : MKind) (t : Ty) (xs : List Val) :
    copyField k t (.arr xs) = (.arr (copyElems t xs).1, (copyElems t xs).2) := by
  cases t <;> rfl

theorem copyField_struct (k : MKind) (n : String) (ms : List Member) (fs : List Val) :
    copyField k (.struct n ms) (.struct fs) = (.struct (copyMs ms fs).1, (copyMs ms fs).2) := rfl

theorem copyField_union (k : MKind) (n : String) (arms : List Arm) (idx : Nat) (v : Val) :
    copyField k (.union n arms) (.union idx v) =
      match arms[idx]? with
      | some (.mk _ _ t) => (.union idx (copyField .plain t v).1, (copyField .plain t v).2)
      | none => (.union idx v, true) := rfl

theorem copyMs_cons (n : String) (t : Ty) (k : MKind) (r : List Member) (v : Val) (vs : List Val) :
    copyMs (.mk n t k :: r) (v :: vs) =
      ((copyField k t v).1 :: (copyMs r vs).1, ((copyField k t v).2 || (copyMs r vs).2)) := rfl

theorem copyMs_nil_left (vs : List Val) : copyMs [] vs = ([], false) := by
  cases vs <;> rfl

theorem copyMs_nil_right (ms : List Member) : copyMs ms [] = ([], false) := by
  cases ms with
  | nil => rfl
  | cons m r => cases m; rfl

theorem copyElems_cons (t : Ty) (x : Val) (xs : List Val) :
    copyElems t (x :: xs) =
      ((copyField .plain t x).1 :: (copyElems t xs).1, ((copyField .plain t x).2 || (copyElems t xs).2)) := rfl

theorem shapeField_present (t : Ty) (x : Val) : shapeField t (.present x) = shapeField t x := by
  cases t <;> rfl

theorem shapeField_arr (t : Ty) (xs : List Val) : shapeField t (.arr xs) = shapeElems t xs := by
  cases t <;> rfl

theorem shapeField_struct (t : Ty) (fs : List Val) (h : shapeField t (.struct fs) = true) :
    ∃ n ms, t = .struct n ms ∧ shapeMs ms fs = true := by
  cases t with
  | struct n ms => exact ⟨n, ms, rfl, h⟩
  | _ => cases h

theorem shapeField_union (t : Ty) (idx : Nat) (v : Val) (h : shapeField t (.union idx v) = true) :
    ∃ n arms an ad at_, t = .union n arms ∧ arms[idx]? = some (.mk an ad at_) ∧ shapeField at_ v = true := by
  cases t with
  | union n arms =>
    have h' : (match arms[idx]? with
      | some (.mk _ _ t) => shapeField t v
      | none => false) = true := h
    cases harm : arms[idx]? with
    | none => rw [harm] at h'; cases h'
    | some a =>
      obtain ⟨an, ad, at_⟩ := a
      rw [harm] at h'
      exact ⟨n, arms, an, ad, at_, rfl, harm, h'⟩
  | _ => cases h

theorem shapeMs_cons (n : String) (t : Ty) (k : MKind) (r : List Member) (v : Val) (vs : List Val) :
    shapeMs (.mk n t k :: r) (v :: vs) = (shapeField t v && shapeMs r vs) := rfl

theorem shapeElems_cons (t : Ty) (x : Val) (xs : List Val) :
    shapeElems t (x :: xs) = (shapeField t x && shapeElems t xs) := rfl

end Prophy.Copy
