import ProphyModel.Spec
namespace Prophy.Spec

@[simp] theorem Chunk.render_length (e : Endian) (c : Chunk) : (c.render e).length = c.len := by
  cases c <;> simp [Chunk.render, Chunk.len]

@[simp] theorem render_length (e : Endian) (cs : List Chunk) : (render e cs).length = clen cs := by
  induction cs with
  | nil => rfl
  | cons c r ih => simp [render, clen, ih]

@[simp] theorem render_append (e : Endian) (a b : List Chunk) :
    render e (a ++ b) = render e a ++ render e b := by
  induction a with
  | nil => rfl
  | cons c r ih => simp [render, ih]

theorem clen_singleton (c : Chunk) : clen [c] = c.len := rfl
theorem Chunk.len_scalar (k n : Nat) : (Chunk.scalar k n).len = k := rfl
theorem Chunk.len_pad (n : Nat) : (Chunk.pad n).len = n := rfl

@[simp] theorem clen_append (a b : List Chunk) : clen (a ++ b) = clen a + clen b := by
  induction a with
  | nil => simp [clen]
  | cons c r ih => simp [clen, ih]; omega

end Prophy.Spec

namespace Prophy

theorem Spec.clen_cons (c : Spec.Chunk) (r : List Spec.Chunk) : Spec.clen (c :: r) = c.len + Spec.clen r := rfl
theorem Spec.clen_nil : Spec.clen [] = 0 := rfl

end Prophy
