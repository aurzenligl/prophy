/- C09, the generated raw `prophy::swap`: the hypotheses on the schema, the fuel measure, the equations of the model,
   and the swap of scalars, arrays, unions and of one member of a struct -/
import ProphyModel.Raw
import ProphyModel.Lemmas.RawLayout
import ProphyModel.Lemmas.RawBytes
import ProphyModel.Lemmas.EncLen
import ProphyModel.Lemmas.Counters
namespace Prophy
namespace Raw
open Accept PL Cpp

/-- offset (from the struct start) at which the own bytes of member `n t k`, reached at `off`, end -/
def memberEnd (all : List Member) (allv : List Val) (n : String) (t : Ty) (k : MKind) (r : List Member) (v : Val)
    (off : Nat) (ad : Bool) : Nat :=
  off + padTo off (if ad then Spec.blockAlign (.mk n t k :: r) else Spec.alignMember (.mk n t k)) +
    Spec.clen (Spec.fieldChunks all allv n t k v)

theorem memberEnd_eq (all : List Member) (allv : List Val) (n : String) (t : Ty) (k : MKind) (r : List Member)
    (v : Val) (off : Nat) (ad : Bool) :
    memberEnd all allv n t k r v off ad =
      off + padTo off (if ad then Spec.blockAlign (.mk n t k :: r) else Spec.alignMember (.mk n t k)) +
        Spec.clen (Spec.fieldChunks all allv n t k v) := rfl

/-- the unit of the walk over a struct's encoding: the padding in front of member `n t k` (reached at `off`) and the
    member's own bytes in byte order `e` -/
def memberBytes (e : Endian) (all : List Member) (allv : List Val) (n : String) (t : Ty) (k : MKind) (r : List Member)
    (v : Val) (off : Nat) (ad : Bool) : Bytes :=
  zeros (padTo off (if ad then Spec.blockAlign (.mk n t k :: r) else Spec.alignMember (.mk n t k))) ++
    Spec.render e (Spec.fieldChunks all allv n t k v)

theorem memberBytes_length (e : Endian) (all : List Member) (allv : List Val) (n : String) (t : Ty) (k : MKind)
    (r : List Member) (v : Val) (off : Nat) (ad : Bool) :
    off + (memberBytes e all allv n t k r v off ad).length = memberEnd all allv n t k r v off ad := by
  simp only [memberBytes, memberEnd, List.length_append, zeros_length, Spec.render_length, Nat.add_assoc]

theorem render_chunksMs_cons (e : Endian) (all : List Member) (allv : List Val) (n : String) (t : Ty) (k : MKind)
    (r : List Member) (v : Val) (vs : List Val) (off : Nat) (ad : Bool) :
    Spec.render e (Spec.chunksMs all allv (.mk n t k :: r) (v :: vs) off ad) =
      memberBytes e all allv n t k r v off ad ++
        Spec.render e
          (Spec.chunksMs all allv r vs (memberEnd all allv n t k r v off ad) (Spec.endsBlock (.mk n t k))) := by
  rw [Spec.chunksMs_cons, ← memberEnd_eq]
  simp only [memberBytes, Spec.render, Spec.render_append, Spec.Chunk.render, List.append_assoc]

/-! ## the hypotheses on the schema that the theorem needs beyond acceptance

  `namesOk`     the fields generated for a struct (members, `has_x` flags, `_paddingN` padders) have pairwise
                distinct names.  A C++ compiler rejects the generated header otherwise; in the model the swap
                addresses a member through the FIRST field of that name (`fieldOffset`), so a member called
                `has_x` next to an optional `x`, or a member called `_padding0`, is swapped at a wrong offset.
  `monoOk`      known defect D23: a part that is neither the main block nor the last part returns its end
                aligned to its OWN alignment, and only then the next part aligns to its alignment.  This is
                harmless when the part's alignment does not exceed the next part's, or when the data of the
                part's last (dynamic) member always ends on the part's alignment.
  `shiftOk`     the counter holds exactly the element count (`shift = 0`, always so in prophyc output): the
                swap reads the counter and swaps that many elements.
-/

/-- alignment of a part's last member, where its data end (`pairOk`) -/
def lastAlign : List MG → Nat
  | [] => 1
  | [g] => Spec.alignMember g.m
  | _ :: r => lastAlign r

theorem partAlign_cons (g : MG) (p : List MG) : partAlign (g :: p) = g.align := rfl

theorem lastAlign_single (g : MG) : lastAlign [g] = Spec.alignMember g.m := rfl

def pairOk (p q : List MG) : Bool := decide (partAlign p ≤ partAlign q) || (lastAlign p == partAlign p)

def monoParts : List (List MG) → Bool
  | p :: q :: r => pairOk p q && monoParts (q :: r)
  | _ => true

def namesOk (ms : List Member) : Bool := WF.uniq (((groupsOf ms).flatMap (·.fields)).map (·.name))
def monoOk (ms : List Member) : Bool := monoParts ((partition (fun (g : MG) => g.isDyn) (groupsOf ms)).drop 1)
def shiftOk (ms : List Member) : Bool := ms.all (fun m => m.kind.shift == 0)

mutual
  def partsOk : Ty → Bool
    | .struct _ ms => namesOk ms && monoOk ms && shiftOk ms && partsOkMs ms
    | .union _ arms => partsOkArms arms
    | _ => true
  def partsOkMs : List Member → Bool
    | [] => true
    | .mk _ t _ :: r => partsOk t && partsOkMs r
  def partsOkArms : List Arm → Bool
    | [] => true
    | .mk _ _ t :: r => partsOk t && partsOkArms r
end

/-! ## fuel: the depth of the call tree of the model's `swapTy` on a value (the model recurses on a fuel
    counter; `Raw.swap` starts it at `4 * length + 256`: `swapN` and `swapMembers` burn one unit per element and per
    member, so the length of the value enters) -/
mutual
  def needTy : Ty → Val → Nat
    | .struct _ ms, .struct vs => 2 + needMs ms vs
    | .union _ arms, .union idx v =>
      match arms[idx]? with
      | some (.mk _ _ t) => 1 + needTy t v
      | none => 1
    | _, _ => 1
  def needMs : List Member → List Val → Nat
    | .mk _ t _ :: r, v :: vs =>
      1 + max (match v with
               | .present x => needTy t x
               | .arr xs => needElems t xs
               | .bytes b => b.length + 1
               | .absent => 0
               | .sizer => 1
               | v => needTy t v) (needMs r vs)
    | _, _ => 0
  def needElems : Ty → List Val → Nat
    | _, [] => 1
    | t, x :: xs => 1 + max (needTy t x) (needElems t xs)
end

def needField (t : Ty) (v : Val) : Nat :=
  match v with
  | .present x => needTy t x
  | .arr xs => needElems t xs
  | .bytes b => b.length + 1
  | .absent => 0
  | .sizer => 1
  | v => needTy t v

theorem needMs_cons (n : String) (t : Ty) (k : MKind) (r : List Member) (v : Val) (vs : List Val) :
    needMs (.mk n t k :: r) (v :: vs) = 1 + max (needField t v) (needMs r vs) := by
  cases v <;> rfl

theorem needMs_cons_le {n : String} {t : Ty} {k : MKind} {r : List Member} {v : Val} {vs : List Val} {fuel : Nat}
    (h : needMs (.mk n t k :: r) (v :: vs) ≤ fuel) : ∃ f, fuel = f + 1 ∧ needField t v ≤ f ∧ needMs r vs ≤ f := by
  rw [needMs_cons] at h
  exact ⟨fuel - 1, by omega, by omega, by omega⟩

theorem swapTy_prim (fuel : Nat) (p : Prim) (buf : Bytes) (pos : Nat) :
    swapTy (fuel + 1) (.prim p) buf pos = (reverseAt buf pos p.size).map fun b => (b, pos + p.size) := by
  simp only [swapTy]

theorem swapTy_byte (fuel : Nat) (buf : Bytes) (pos : Nat) :
    swapTy (fuel + 1) .byte buf pos = some (buf, pos + 1) := by
  simp only [swapTy]

theorem swapTy_enum (fuel : Nat) (nm : String) (es : List (String × Nat)) (buf : Bytes) (pos : Nat) :
    swapTy (fuel + 1) (.enum nm es) buf pos = (reverseAt buf pos 4).map fun b => (b, pos + 4) := by
  simp only [swapTy]

theorem swapTy_struct (fuel : Nat) (nm : String) (ms : List Member) (buf : Bytes) (pos : Nat) :
    swapTy (fuel + 1) (.struct nm ms) buf pos =
      swapParts fuel (PL.nodeTy (.struct nm ms)).align (sizeofTy (.struct nm ms)) ((PL.nodeTy (.struct nm ms)).kind)
        (partition (fun (g : MG) => g.isDyn) (groupsOf ms)) buf pos pos [] true := by
  simp only [swapTy]

/-- what `swapTy` does on a union after the discriminator has been swapped and read -/
def unionArm (fuel : Nat) (t : Ty) (arms : List Arm) (b1 : Bytes) (pos d : Nat) : Option (Bytes × Nat) :=
  let a := (PL.nodeTy t).align
  let armPos := pos + 4 + (if a = 8 then 4 else 0)
  match arms.find? (fun arm => arm.disc = d) with
  | some arm =>
    match swapTy fuel arm.ty b1 armPos with
    | some (b2, _) => some (b2, pos + sizeofTy t)
    | none => none
  | none => some (b1, pos + sizeofTy t)

theorem swapTy_union (fuel : Nat) (nm : String) (arms : List Arm) (buf : Bytes) (pos : Nat) :
    swapTy (fuel + 1) (.union nm arms) buf pos =
      match reverseAt buf pos 4 with
      | none => none
      | some b1 =>
        match leRead b1 pos 4 with
        | none => none
        | some d => unionArm fuel (.union nm arms) arms b1 pos d := by
  simp only [swapTy]; rfl

theorem swapN_zero (fuel : Nat) (d : Bool) (t : Ty) (buf : Bytes) (pos : Nat) :
    swapN (fuel + 1) d t 0 buf pos = some (buf, pos) := by
  simp only [swapN]

theorem swapN_succ (fuel : Nat) (d : Bool) (t : Ty) (n : Nat) (buf : Bytes) (pos : Nat) :
    swapN (fuel + 1) d t (n + 1) buf pos =
      match swapTy fuel t buf pos with
      | none => none
      | some (b1, e) => swapN fuel d t n b1 (if d then e else pos + sizeofTy t) := by
  simp only [swapN]; rfl

def memberStep (fuel : Nat) (g : MG) (fields : List Field) (buf : Bytes) (ppos : Nat)
    (sizers : List (String × Nat × Nat)) (isLast : Bool) : Option (Bytes × Nat) :=
  let addr := ppos + fieldOffset fields g.m.name
  let unlimitedLast := isLast && (g.kind == 2 || (match g.m.kind with | .greedy => true | _ => false))
  if unlimitedLast then some (buf, addr) else
  match g.m.kind with
  | .plain => swapTy fuel g.m.ty buf addr
  | .optional =>
    let faddr := ppos + fieldOffset fields ("has_" ++ g.m.name)
    match reverseAt buf faddr 4 with
    | none => none
    | some b1 =>
      match leRead b1 faddr 4 with
      | none => none
      | some flag => if flag ≠ 0 then (swapTy fuel g.m.ty b1 addr).map fun (b2, _) => (b2, addr) else some (b1, addr)
  | .fixed c => swapN fuel (g.kind == 1) g.m.ty c buf addr
  | .dyn s _ | .limited s _ =>
    match sizers.lookup s with
    | some (saddr, ssz) =>
      match leRead buf saddr ssz with
      | some n => swapN fuel (g.kind == 1) g.m.ty n buf addr
      | none => none
    | none => none
  | .greedy => some (buf, addr)

def sizersAfter (g : MG) (addr : Nat) (sizers : List (String × Nat × Nat)) : List (String × Nat × Nat) :=
  match g.m.ty, g.m.kind with
  | .prim p, .plain => (g.m.name, addr, p.size) :: sizers
  | _, _ => sizers

def isDynKind (k : MKind) : Bool := match k with | .dyn _ _ => true | _ => false

theorem swapMembers_cons (fuel : Nat) (g : MG) (r : List MG) (fields : List Field) (buf : Bytes) (ppos : Nat)
    (sizers : List (String × Nat × Nat)) :
    swapMembers (fuel + 1) (g :: r) fields buf ppos sizers =
      match memberStep fuel g fields buf ppos sizers r.isEmpty with
      | none => none
      | some (buf1, e) =>
        if r.isEmpty then
          some (buf1, e, sizersAfter g (ppos + fieldOffset fields g.m.name) sizers,
            g.kind == 1 || isDynKind g.m.kind, g.kind == 2 || isGreedy g.m.kind,
            ppos + fieldOffset fields g.m.name)
        else swapMembers fuel r fields buf1 ppos (sizersAfter g (ppos + fieldOffset fields g.m.name) sizers) := by
  simp only [swapMembers]
  rfl

/-- the rest of `swapParts` after the members of a part have been swapped (`skind`, `start` are passed on, never read) -/
def finishPart (fuel salign ssize : Nat) (skind : PL.Kind) (rest : List (List MG)) (isMain : Bool)
    (palign ppos : Nat) (fields : List Field) (start : Nat) :
    Option (Bytes × Nat × List (String × Nat × Nat) × Bool × Bool × Nat) → Option (Bytes × Nat)
  | none => none
  | some (buf1, lastEnd, sizers1, lastDynamic, lastUnlimited, lastAddr) =>
    match rest with
    | [] =>
      if lastUnlimited then
        let e1 := lastAddr + padTo lastAddr (if isMain then salign else palign)
        some (buf1, e1 + padTo e1 salign)
      else if lastDynamic then
        let e1 := lastEnd + padTo lastEnd (if isMain then salign else palign)
        some (buf1, e1 + padTo e1 salign)
      else
        let e1 := ppos + (if isMain then ssize else alignUp (totalSize fields) palign)
        some (buf1, e1 + padTo e1 salign)
    | _ =>
      let e1 := if isMain then lastEnd else lastEnd + padTo lastEnd palign
      swapParts fuel salign ssize skind rest buf1 e1 start sizers1 false

theorem finishPart_more (fuel salign ssize : Nat) (skind : PL.Kind) (q : List MG) (rest : List (List MG))
    (isMain : Bool) (palign ppos : Nat) (fields : List Field) (start : Nat) (buf1 : Bytes) (lastEnd : Nat)
    (sizers1 : List (String × Nat × Nat)) (ld lu : Bool) (la : Nat) :
    finishPart fuel salign ssize skind (q :: rest) isMain palign ppos fields start
        (some (buf1, lastEnd, sizers1, ld, lu, la)) =
      swapParts fuel salign ssize skind (q :: rest) buf1 (if isMain then lastEnd else lastEnd + padTo lastEnd palign)
        start sizers1 false := rfl

def palignOf (part : List MG) (isMain : Bool) : Nat :=
  match part with
  | g :: _ => if isMain then 1 else g.align
  | [] => 1

theorem palignOf_false (p : List MG) : palignOf p false = partAlign p := by cases p <;> rfl

theorem palignOf_main (p : List MG) : palignOf p true = 1 := by cases p <;> rfl

theorem swapParts_cons (fuel salign ssize : Nat) (skind : PL.Kind) (part : List MG) (rest : List (List MG))
    (buf : Bytes) (pos start : Nat) (sizers : List (String × Nat × Nat)) (isMain : Bool) :
    swapParts (fuel + 1) salign ssize skind (part :: rest) buf pos start sizers isMain =
      finishPart fuel salign ssize skind rest isMain (palignOf part isMain) (pos + padTo pos (palignOf part isMain))
        (part.flatMap (·.fields)) start
        (swapMembers fuel part (part.flatMap (·.fields)) buf (pos + padTo pos (palignOf part isMain)) sizers) := by
  rw [swapParts.eq_def]
  rfl

theorem render_cons_p13 (e : Endian) (c : Spec.Chunk) (r : List Spec.Chunk) :
    Spec.render e (c :: r) = c.render e ++ Spec.render e r := render_cons e c r

theorem render_nil_p13 (e : Endian) : Spec.render e [] = [] := render_nil e

theorem leRead_scalar (k n : Nat) (pre post : Bytes) (pos : Nat) (h : pre.length = pos) (hn : n < 256 ^ k) :
    leRead (pre ++ (scalarBytes .little k n ++ post)) pos k = some n := by
  subst h
  have hk : (scalarBytes .little k n).length = k := scalarBytes_length _ _ _
  unfold leRead
  rw [if_pos (by simp [hk])]
  simp [scalarBytes, leVal_leBytes, Nat.mod_eq_of_lt hn]

theorem leRead_append (pre rest : Bytes) (a k : Nat) (h : a + k ≤ pre.length) :
    leRead (pre ++ rest) a k = leRead pre a k := by
  unfold leRead
  rw [if_pos h, if_pos (by simp; omega)]
  congr 1
  rw [List.drop_append_of_le_length (by omega), List.take_append_of_le_length (by simp; omega)]

theorem scalarBytes_one_big (n : Nat) : scalarBytes .big 1 n = scalarBytes .little 1 n := by
  simp [scalarBytes, leBytes]

theorem swapN_bytes : (n fuel : Nat) → (buf : Bytes) → (pos : Nat) → n + 1 ≤ fuel →
    swapN fuel false .byte n buf pos = some (buf, pos + n)
  | 0, fuel, buf, pos, h => by
    obtain ⟨f, rfl⟩ : ∃ f, fuel = f + 1 := ⟨fuel - 1, by omega⟩
    rw [swapN_zero]; rfl
  | n + 1, fuel, buf, pos, h => by
    obtain ⟨f, rfl⟩ : ∃ f, fuel = f + 1 := ⟨fuel - 1, by omega⟩
    obtain ⟨f', rfl⟩ : ∃ f', f = f' + 1 := ⟨f - 1, by omega⟩
    rw [swapN_succ, swapTy_byte]
    simp only [Bool.false_eq_true, if_false]
    rw [swapN_bytes n (f' + 1) buf _ (by omega)]
    simp only [sizeofTy]
    congr 2; omega

open WF

/-! ## induction on a message value

  The statements proved by induction on the value speak of a value of a type (`hasField [] .plain t v`); the value
  of an optional member and the elements of an array member are not members themselves, so the induction
  hypothesis for a struct carries them along. -/

structure Deep (P : Val → Prop) (v : Val) : Prop where
  self : P v
  inner : ∀ x, v = .present x → P x
  elems : ∀ xs, v = .arr xs → ∀ x ∈ xs, P x

theorem Deep.leaf {P : Val → Prop} {v : Val} (h : P v) (h1 : ∀ x, v ≠ .present x) (h2 : ∀ xs, v ≠ .arr xs) :
    Deep P v :=
  ⟨h, fun x e => absurd e (h1 x), fun xs e => absurd e (h2 xs)⟩

mutual
  theorem Val.deep_ind {P : Val → Prop} (hint : ∀ i, P (.int i)) (hsizer : P .sizer)
      (hvac : ∀ v, (∀ t, hasField [] .plain t v = false) → P v)
      (hstruct : ∀ vs, (∀ v ∈ vs, Deep P v) → P (.struct vs)) (hunion : ∀ i x, P x → P (.union i x)) :
      (v : Val) → Deep P v
    | .int i => .leaf (hint i) (fun _ => Val.noConfusion) (fun _ => Val.noConfusion)
    | .sizer => .leaf hsizer (fun _ => Val.noConfusion) (fun _ => Val.noConfusion)
    | .absent => .leaf (hvac _ (fun t => by cases t <;> rfl)) (fun _ => Val.noConfusion) (fun _ => Val.noConfusion)
    | .bytes b => .leaf (hvac _ (fun t => by cases t <;> rfl)) (fun _ => Val.noConfusion) (fun _ => Val.noConfusion)
    | .struct vs =>
      .leaf (hstruct vs (Val.deep_ind_all hint hsizer hvac hstruct hunion vs)) (fun _ => Val.noConfusion)
        (fun _ => Val.noConfusion)
    | .union i x =>
      .leaf (hunion i x (Val.deep_ind hint hsizer hvac hstruct hunion x).self) (fun _ => Val.noConfusion)
        (fun _ => Val.noConfusion)
    | .present x =>
      ⟨hvac _ (fun t => by cases t <;> rfl),
        fun _ e => Val.present.inj e ▸ (Val.deep_ind hint hsizer hvac hstruct hunion x).self,
        fun _ e => Val.noConfusion e⟩
    | .arr xs =>
      ⟨hvac _ (fun t => by cases t <;> rfl), fun _ e => Val.noConfusion e,
        fun _ e y hy => (Val.deep_ind_all hint hsizer hvac hstruct hunion xs y (Val.arr.inj e ▸ hy)).self⟩
  theorem Val.deep_ind_all {P : Val → Prop} (hint : ∀ i, P (.int i)) (hsizer : P .sizer)
      (hvac : ∀ v, (∀ t, hasField [] .plain t v = false) → P v)
      (hstruct : ∀ vs, (∀ v ∈ vs, Deep P v) → P (.struct vs)) (hunion : ∀ i x, P x → P (.union i x)) :
      (vs : List Val) → ∀ v ∈ vs, Deep P v
    | [], _, h => by cases h
    | x :: xs, v, h =>
      (List.mem_cons.1 h).elim (fun e => e ▸ Val.deep_ind hint hsizer hvac hstruct hunion x)
        (fun h' => Val.deep_ind_all hint hsizer hvac hstruct hunion xs v h')
end

def TyOK (v : Val) : Prop := ∀ (t : Ty) (pre post : Bytes) (fuel pos : Nat),
  front t = true → pyRt t = true → partsOk t = true → v.isCounter = false → hasField [] .plain t v = true →
  agreeTy t v = true → Spec.unlTy t = false → pre.length = pos → Spec.alignTy t ∣ pos → needTy t v ≤ fuel →
  swapTy fuel t (pre ++ Spec.render .big (Spec.chunksTy t v) ++ post) pos =
    some (pre ++ Spec.render .little (Spec.chunksTy t v) ++ post, pos + Spec.clen (Spec.chunksTy t v))

theorem tyOK_int (i : Int) : TyOK (.int i) := by
  intro t pre post fuel pos hf hp hd hc hh ha hu hpre hal hfuel
  cases t with
  | prim p =>
    obtain ⟨f, rfl⟩ : ∃ f, fuel = f + 1 := ⟨fuel - 1, by simp [needTy] at hfuel; omega⟩
    simp only [Spec.chunksTy, render_cons, render_nil, Spec.Chunk.render, List.append_nil, Spec.clen, Spec.Chunk.len,
      List.append_assoc]
    rw [swapTy_prim, reverseAt_scalar _ _ _ _ _ hpre]
    rfl
  | byte =>
    obtain ⟨f, rfl⟩ : ∃ f, fuel = f + 1 := ⟨fuel - 1, by simp [needTy] at hfuel; omega⟩
    simp only [Spec.chunksTy, render_cons, render_nil, Spec.Chunk.render, List.append_nil, Spec.clen, Spec.Chunk.len]
    rw [swapTy_byte, scalarBytes_one_big]
  | enum nm es =>
    obtain ⟨f, rfl⟩ : ∃ f, fuel = f + 1 := ⟨fuel - 1, by simp [needTy] at hfuel; omega⟩
    simp only [Spec.chunksTy, render_cons, render_nil, Spec.Chunk.render, List.append_nil, Spec.clen, Spec.Chunk.len,
      List.append_assoc]
    rw [swapTy_enum, reverseAt_scalar _ _ _ _ _ hpre]
    rfl
  | struct nm ms => simp [hasField] at hh
  | union nm arms => simp [hasField] at hh

theorem swapN_elems (t : Ty) (dyn : Bool) (hf : front t = true) (hp : pyRt t = true) (hd : partsOk t = true)
    (hu : Spec.unlTy t = false) (hfix : dyn = false → Spec.fixedTy t = true) :
    (xs : List Val) → (∀ x ∈ xs, TyOK x) → ∀ (pre post : Bytes) (fuel pos : Nat),
    hasElems t xs = true → agreeElems t xs = true → pre.length = pos → Spec.alignTy t ∣ pos →
    needElems t xs ≤ fuel →
    swapN fuel dyn t xs.length (pre ++ Spec.render .big (Spec.chunksElems t xs) ++ post) pos =
      some (pre ++ Spec.render .little (Spec.chunksElems t xs) ++ post, pos + Spec.clen (Spec.chunksElems t xs))
  | [], _, pre, post, fuel, pos, _, _, _, _, hfuel => by
    obtain ⟨f, rfl⟩ : ∃ f, fuel = f + 1 := ⟨fuel - 1, by simp [needElems] at hfuel; omega⟩
    simp only [Spec.chunksElems, render_nil, List.append_nil, List.length_nil, Spec.clen, Nat.add_zero]
    rw [swapN_zero]
  | x :: xs, hok, pre, post, fuel, pos, hh, ha, hpre, hal, hfuel => by
    obtain ⟨hc, hx, hr⟩ := (hasElems_cons t x xs).1 hh
    obtain ⟨hax, har⟩ := Bool.and_eq_true_iff.1 (WF.agreeElems_cons t x xs ▸ ha)
    simp only [needElems] at hfuel
    obtain ⟨f, rfl⟩ : ∃ f, fuel = f + 1 := ⟨fuel - 1, by omega⟩
    have hxok := hok x (List.mem_cons_self ..) t pre (Spec.render .big (Spec.chunksElems t xs) ++ post) f pos
      hf hp hd hc hx hax hu hpre hal (by omega)
    simp only [Spec.chunksElems, Spec.render_append, List.length_cons, Spec.clen_append]
    rw [swapN_succ]
    rw [show pre ++ (Spec.render .big (Spec.chunksTy t x) ++ Spec.render .big (Spec.chunksElems t xs)) ++ post =
      pre ++ Spec.render .big (Spec.chunksTy t x) ++ (Spec.render .big (Spec.chunksElems t xs) ++ post) by
        simp [List.append_assoc]]
    rw [hxok]
    dsimp only
    have hnext : (if dyn = true then pos + Spec.clen (Spec.chunksTy t x) else pos + sizeofTy t) =
        pos + Spec.clen (Spec.chunksTy t x) := by
      cases dyn with
      | true => rfl
      | false =>
        have hfx := hfix rfl
        simp only [Bool.false_eq_true, if_false]
        rw [sizeof_ok_p13 t hf (Spec.dynTy_of_fixed t hfx), Spec.clen_fixed t x hfx hc hx]
    rw [hnext]
    have ih := swapN_elems t dyn hf hp hd hu hfix xs (fun y hy => hok y (List.mem_cons_of_mem _ hy))
      (pre ++ Spec.render .little (Spec.chunksTy t x)) post f (pos + Spec.clen (Spec.chunksTy t x))
      hr har (by simp [hpre]) (Nat.dvd_add hal (align_dvd_chunksTy_ok t (Cpp.ok_of_front t hf) x hc hx)) (by omega)
    rw [show pre ++ Spec.render .little (Spec.chunksTy t x) ++ (Spec.render .big (Spec.chunksElems t xs) ++ post) =
      pre ++ Spec.render .little (Spec.chunksTy t x) ++ Spec.render .big (Spec.chunksElems t xs) ++ post by
        simp [List.append_assoc]]
    rw [ih]
    simp [List.append_assoc, Nat.add_assoc]

theorem find_disc : (arms : List Arm) → ∀ (idx : Nat) (a : Arm), arms[idx]? = some a →
    (∀ (j : Nat) (b : Arm), j < idx → arms[j]? = some b → b.disc ≠ a.disc) →
    arms.find? (fun arm => decide (arm.disc = a.disc)) = some a
  | [], idx, a, h, _ => by simp at h
  | hd :: r, idx, a, h, hu => by
    cases idx with
    | zero =>
      simp at h; subst h
      simp [List.find?]
    | succ i =>
      simp at h
      have hne : hd.disc ≠ a.disc := hu 0 hd (by omega) (by simp)
      simp only [List.find?, hne, decide_false]
      exact find_disc r i a h (fun j b hj hb => hu (j + 1) b (by omega) (by simpa using hb))

theorem partsOkArms_get (arms : List Arm) (hw : partsOkArms arms = true) (idx : Nat) (a : Arm)
    (h : arms[idx]? = some a) : partsOk a.ty = true :=
  get_of_cons (P := fun a => partsOk a.ty = true)
    (fun ⟨_, _, _⟩ _ h => by simpa [partsOkArms, Arm.ty] using h) hw h

theorem frontArms_get_kind (arms : List Arm) (hw : frontArms arms = true) (idx : Nat) (a : Arm)
    (h : arms[idx]? = some a) : (nodeTy a.ty).kind = 0 :=
  get_of_cons (P := fun a => (nodeTy a.ty).kind = 0)
    (fun ⟨n, d, t⟩ r h =>
      have h' := (Accept.frontArms_cons_iff n d t r).1 h
      ⟨h'.2.1, h'.2.2.2⟩) hw h

/-- the buffer is `pre | discriminator | gap up to the union's alignment | arm | rest of the union | post` -/
theorem tyOK_union (idx : Nat) (x : Val) (hx : TyOK x) : TyOK (.union idx x) := by
  intro t pre post fuel pos hf hp hd hc hh ha hu hpre hal hfuel
  obtain ⟨-, nm, arms, an, d, t', rfl, harm, hxc, hxh⟩ := hasField_union [] .plain t idx x hh
  obtain ⟨hft', hpt', -, hd32, hdisc, halt, hclen, -⟩ := Accept.union_canon .big nm arms idx an d t' x hf hp harm hxc hxh
  have hfa : frontArms arms = true := by
    have hf' := hf
    simp only [front, Bool.and_eq_true] at hf'
    exact hf'.2
  have hk0 := frontArms_get_kind arms hfa idx _ harm
  have hdt' := partsOkArms_get arms (by simpa [partsOk] using hd) idx _ harm
  simp only [Arm.ty] at hk0 hdt'
  have hut' := PL.unl_of_kind t' hft' (by rw [hk0]; decide)
  have hat' : agreeTy t' x = true := by simpa [agreeTy, harm] using ha
  have hdlt : d < 256 ^ 4 := hd32
  simp only [needTy, harm] at hfuel
  obtain ⟨f, rfl⟩ : ∃ f, fuel = f + 1 := ⟨fuel - 1, by omega⟩
  have hfind : arms.find? (fun arm => decide (arm.disc = d)) = some (.mk an d t') := find_disc arms idx _ harm hdisc
  have hsize := sizeof_ok_p13 (.union nm arms) hf (by simp [Spec.dynTy])
  have hA : IsAl (max Spec.flagSize (Spec.alignArms arms)) := IsAl.max IsAl.four (Spec.alignArms_isAl arms)
  have hA4 : 4 ≤ max Spec.flagSize (Spec.alignArms arms) := by simp only [Spec.flagSize]; omega
  have hna : (nodeTy (.union nm arms)).align = max Spec.flagSize (Spec.alignArms arms) := nodeTy_align' _
  have harmpos : pos + 4 + (if max Spec.flagSize (Spec.alignArms arms) = 8 then 4 else 0) =
      pos + max Spec.flagSize (Spec.alignArms arms) := by
    rcases hA with h | h | h | h <;> rw [h] at hA4 ⊢ <;> simp at hA4 ⊢
  have hxok := hx t' (pre ++ scalarBytes .little 4 d ++
      zeros (max Spec.flagSize (Spec.alignArms arms) - Spec.flagSize))
    (zeros (Spec.sizeTy (.union "" arms) - max Spec.flagSize (Spec.alignArms arms) - Spec.clen (Spec.chunksTy t' x))
      ++ post) f (pos + max Spec.flagSize (Spec.alignArms arms))
    hft' hpt' hdt' hxc hxh hat' hut' (by rw [List.append_assoc]; exact length_flag_gap _ _ _ _ _ hpre hA4)
    (Nat.dvd_add (Nat.dvd_trans halt (show max 4 (Spec.alignArms arms) ∣ pos from hal)) halt) (by omega)
  rw [hclen, swapTy_union]
  simp only [Spec.chunksTy, harm, render_cons, render_nil, Spec.render_append, Spec.Chunk.render, List.append_nil,
    List.append_assoc] at hxok ⊢
  rw [show Spec.flagSize = 4 from rfl] at hna harmpos hxok ⊢
  rw [reverseAt_scalar _ _ _ _ _ hpre]
  dsimp only
  rw [leRead_scalar _ _ _ _ _ hpre hdlt]
  dsimp only
  unfold unionArm
  simp only [hna, hfind, Arm.ty]
  rw [harmpos, hxok]
  simp only [hsize]

theorem reverseAt_zeros (n : Nat) (pre post : Bytes) (pos : Nat) (h : pre.length = pos) (hn : 4 ≤ n) :
    reverseAt (pre ++ (zeros n ++ post)) pos 4 = some (pre ++ (zeros n ++ post)) := by
  have hz : zeros n = zeros 4 ++ zeros (n - 4) := by
    rw [← zeros_add]; congr 1; omega
  rw [hz, ← scalarBytes_zero .big 4, List.append_assoc, reverseAt_scalar _ _ _ _ _ h, scalarBytes_zero,
    scalarBytes_zero]

theorem leRead_zeros (n : Nat) (pre post : Bytes) (pos : Nat) (h : pre.length = pos) (hn : 4 ≤ n) :
    leRead (pre ++ (zeros n ++ post)) pos 4 = some 0 := by
  have hz : zeros n = zeros 4 ++ zeros (n - 4) := by
    rw [← zeros_add]; congr 1; omega
  rw [hz, ← scalarBytes_zero .little 4, List.append_assoc, leRead_scalar _ _ _ _ _ h (by decide)]

theorem fixed_of_kind_lt2 (t : Ty) (hf : front t = true) (hk2 : (nodeTy t).kind ≠ 2) :
    ((nodeTy t).kind == 1) = false → Spec.fixedTy t = true := by
  intro h
  have hle := specKind_le t
  rw [← nodeTy_kind_ok t (Cpp.ok_of_front t hf)] at hle
  have h1 : (nodeTy t).kind ≠ 1 := by simpa using h
  have hx : ∀ x : Nat, x ≤ 2 → x ≠ 2 → x ≠ 1 → x = 0 := by intro x; omega
  exact fixed_of_kind_ok t (Cpp.ok_of_front t hf) (hx _ hle hk2 h1)

/-- an array member's data, without the filling of a limited array -/
def dataChunks (t : Ty) : Val → List Spec.Chunk
  | .arr xs => Spec.chunksElems t xs
  | .bytes b => [.raw b]
  | _ => []

theorem arrData_ok (t : Ty) (v : Val) (hf : front t = true) (hp : pyRt t = true) (hd : partsOk t = true)
    (hk2 : (nodeTy t).kind ≠ 2)
    (hv : (∃ xs, v = .arr xs ∧ hasElems t xs = true) ∨ (t = .byte ∧ ∃ b, v = .bytes b))
    (hag : agreeTy t v = true) (hdeep : Deep TyOK v) (pre post : Bytes) (fuel pos : Nat)
    (hpre : pre.length = pos) (hal : Spec.alignTy t ∣ pos) (hfuel : needField t v ≤ fuel) :
    swapN fuel ((nodeTy t).kind == 1) t v.len (pre ++ (Spec.render .big (dataChunks t v) ++ post)) pos =
      some (pre ++ (Spec.render .little (dataChunks t v) ++ post), pos + Spec.clen (dataChunks t v)) := by
  rcases hv with ⟨xs, rfl, hel⟩ | ⟨rfl, b, rfl⟩
  · have hut := PL.unl_of_kind t hf hk2
    have := swapN_elems t ((nodeTy t).kind == 1) hf hp hd hut (fixed_of_kind_lt2 t hf hk2) xs (hdeep.elems xs rfl)
      pre post fuel pos hel (by simpa [agreeTy] using hag) hpre hal (by simpa [needField] using hfuel)
    simpa only [List.append_assoc, dataChunks, Val.len] using this
  · have hk : ((nodeTy Ty.byte).kind == 1) = false := by decide
    rw [hk]
    simp only [dataChunks, render_cons, render_nil, Spec.Chunk.render, List.append_nil, Val.len, Spec.clen,
      Spec.Chunk.len, Nat.add_zero]
    exact swapN_bytes _ _ _ _ (by simpa [needField] using hfuel)

/-- `memberStep` on one member, kind by kind as the generator emits it: an optional swaps and reads its flag first, a
    bound array reads its counter (swapped earlier, found through `sizers`), arrays go through `swapN`.
    `ppos`: address of the part, `o`: offset of the member's group in it; `isLast` is free: `hk2`, `hng` close the
    "unlimited last member" branch; `hsz` is for the counter case, `hcnt` is `SInv` for this member's counter -/
theorem memberStep_ok (all : List Member) (allv : List Val) (n : String) (t : Ty) (k : MKind) (v : Val)
    (g : MG) (fields : List Field) (ppos o : Nat) (sizers : List (String × Nat × Nat)) (isLast : Bool)
    (pre post : Bytes) (fuel : Nat)
    (hgm : g.m = .mk n t k) (hgk : g.kind = (nodeTy t).kind)
    (hoff : fieldOffset fields n = o + flagLen t k)
    (hflag : k = .optional → fieldOffset fields ("has_" ++ n) = o)
    (hpre : pre.length = ppos + o)
    (hf : front t = true) (hp : pyRt t = true) (hd : partsOk t = true)
    (hk2 : (nodeTy t).kind ≠ 2) (hng : k ≠ .greedy)
    (hh : hasField all k t v = true) (hsz : v = .sizer → ∃ p, t = .prim p)
    (hag : agreeTy t v = true) (hdeep : Deep TyOK v)
    (hal : Spec.alignMember (.mk n t k) ∣ ppos + o)
    (hcnt : ∀ s, k.sizer? = some s → ∃ saddr ssz, sizers.lookup s = some (saddr, ssz) ∧ saddr + ssz ≤ pre.length ∧
      leRead pre saddr ssz = some v.len)
    (hfuel : needField t v ≤ fuel) :
    ∃ e, memberStep fuel g fields (pre ++ (Spec.render .big (Spec.fieldChunks all allv n t k v) ++ post))
          ppos sizers isLast =
        some (pre ++ (Spec.render .little (Spec.fieldChunks all allv n t k v) ++ post), e) ∧
      (Spec.endsBlock (.mk n t k) = true → e = ppos + o + Spec.clen (Spec.fieldChunks all allv n t k v)) := by
  have hk2b : ((nodeTy t).kind == 2) = false := by simpa using hk2
  have hut := PL.unl_of_kind t hf hk2
  have halt : k ≠ .optional → Spec.alignTy t ∣ ppos + o := fun hk => by
    rw [← Spec.alignMember_of_ne_optional n t k hk]; exact hal
  unfold memberStep
  rw [hgm]
  simp only [Member.kind, Member.name, Member.ty, hgk, hk2b, hoff, Bool.false_or]
  cases k with
  | plain =>
    simp only [Bool.and_false, Bool.false_eq_true, if_false, flagLen, Nat.add_zero]
    cases hv : v.isCounter with
    | true =>
      have := (Val.isCounter_eq_true_iff v).1 hv
      subst this
      obtain ⟨p, rfl⟩ := hsz rfl
      obtain ⟨f, rfl⟩ : ∃ f, fuel = f + 1 := ⟨fuel - 1, by simp [needField] at hfuel; omega⟩
      simp only [Spec.fieldChunks, render_cons, render_nil, Spec.Chunk.render, List.append_nil, Spec.sizeTy,
        Spec.clen, Spec.Chunk.len]
      rw [swapTy_prim, reverseAt_scalar _ _ _ _ _ hpre]
      exact ⟨_, rfl, fun _ => rfl⟩
    | false =>
      rw [Spec.fieldChunks_plain all allv n t v hv]
      have hh' : hasField [] .plain t v = true := by rw [hasField_plain_indep [] all]; exact hh
      have hnf : needField t v = needTy t v := by
        rcases hasField_plain_shape all t v hh with rfl | ⟨i, rfl⟩ | ⟨vs, rfl⟩ | ⟨i, x, rfl⟩
        · cases hv
        · rfl
        · rfl
        · rfl
      have := hdeep.self t pre post fuel (ppos + o) hf hp hd hv hh' hag hut hpre
        (halt MKind.noConfusion) (by omega)
      simp only [List.append_assoc] at this
      exact ⟨_, this, fun _ => rfl⟩
  | optional =>
    simp only [Bool.and_false, Bool.false_eq_true, if_false, flagLen, hflag rfl]
    have hA4 : 4 ≤ max Spec.flagSize (Spec.alignTy t) := by simp only [Spec.flagSize]; omega
    rcases hasField_optional_shape all t v hh with rfl | ⟨x, rfl, hxc, hxh⟩
    · simp only [Spec.fieldChunks, render_cons, render_nil, Spec.Chunk.render, List.append_nil]
      rw [reverseAt_zeros _ _ _ _ hpre (by omega)]
      dsimp only
      rw [leRead_zeros _ _ _ _ hpre (by omega)]
      simp only [ne_eq, not_true_eq_false, if_false]
      exact ⟨_, rfl, fun h => by simp [Spec.endsBlock, Member.kind] at h⟩
    · have hx' : hasField [] .plain t x = true := by rw [hasField_plain_indep [] all]; exact hxh
      have hax : agreeTy t x = true := by simpa [agreeTy] using hag
      have hxok := hdeep.inner x rfl t (pre ++ (scalarBytes .little Spec.flagSize 1 ++
          zeros (max Spec.flagSize (Spec.alignTy t) - Spec.flagSize))) post fuel
        (ppos + (o + max Spec.flagSize (Spec.alignTy t))) hf hp hd hxc hx' hax hut
        ((length_flag_gap _ _ _ _ _ hpre hA4).trans (Nat.add_assoc ..))
        (by
          rw [← Nat.add_assoc]
          exact Spec.alignTy_dvd_add_gap t hal)
        (by simpa [needField] using hfuel)
      simp only [Spec.fieldChunks, render_cons, render_nil, Spec.render_append, Spec.Chunk.render, List.append_nil,
        List.append_assoc] at hxok ⊢
      rw [show Spec.flagSize = 4 from rfl] at hxok ⊢
      rw [reverseAt_scalar _ _ _ _ _ hpre]
      dsimp only
      rw [leRead_scalar _ _ _ _ _ hpre (by decide)]
      simp only [ne_eq, Nat.succ_ne_self, not_false_eq_true, if_true]
      rw [hxok]
      simp only [Option.map_some]
      exact ⟨_, rfl, fun h => by simp [Spec.endsBlock, Member.kind] at h⟩
  | fixed c =>
    simp only [Bool.and_false, Bool.false_eq_true, if_false, flagLen, Nat.add_zero]
    have hv := hasField_array_shape all _ t v MKind.noConfusion MKind.noConfusion hh
    have hlen := hasField_fixed_len all c t v hh
    have hdc : Spec.fieldChunks all allv n t (.fixed c) v = dataChunks t v := by
      rcases hv with ⟨xs, rfl, _⟩ | ⟨_, b, rfl⟩ <;> rfl
    rw [hdc, ← hlen]
    rw [arrData_ok t v hf hp hd hk2 hv hag hdeep pre post fuel (ppos + o) hpre
      (halt MKind.noConfusion) hfuel]
    exact ⟨_, rfl, fun h => by simp [Spec.endsBlock, Member.kind] at h⟩
  | dyn s sh =>
    simp only [Bool.and_false, Bool.false_eq_true, if_false, flagLen, Nat.add_zero]
    have hv := hasField_array_shape all _ t v MKind.noConfusion MKind.noConfusion hh
    have hdc : Spec.fieldChunks all allv n t (.dyn s sh) v = dataChunks t v := by
      rcases hv with ⟨xs, rfl, _⟩ | ⟨_, b, rfl⟩ <;> rfl
    obtain ⟨saddr, ssz, hlk, hle, hrd⟩ := hcnt s rfl
    rw [hdc, hlk]
    dsimp only
    rw [leRead_append _ _ _ _ hle, hrd]
    dsimp only
    rw [arrData_ok t v hf hp hd hk2 hv hag hdeep pre post fuel (ppos + o) hpre
      (halt MKind.noConfusion) hfuel]
    exact ⟨_, rfl, fun _ => rfl⟩
  | limited s c =>
    simp only [Bool.and_false, Bool.false_eq_true, if_false, flagLen, Nat.add_zero]
    have hv := hasField_array_shape all _ t v MKind.noConfusion MKind.noConfusion hh
    obtain ⟨z, hdc⟩ : ∃ z, Spec.fieldChunks all allv n t (.limited s c) v = dataChunks t v ++ [.pad z] := by
      rcases hv with ⟨xs, rfl, _⟩ | ⟨_, b, rfl⟩ <;> exact ⟨_, rfl⟩
    obtain ⟨saddr, ssz, hlk, hle, hrd⟩ := hcnt s rfl
    rw [hdc, hlk]
    simp only [Spec.render_append, render_cons, render_nil, Spec.Chunk.render, List.append_nil, List.append_assoc]
    rw [leRead_append _ _ _ _ hle, hrd]
    dsimp only
    rw [arrData_ok t v hf hp hd hk2 hv hag hdeep pre (zeros z ++ post) fuel (ppos + o) hpre
      (halt MKind.noConfusion) hfuel]
    exact ⟨_, rfl, fun h => by simp [Spec.endsBlock, Member.kind] at h⟩
  | greedy => exact absurd rfl hng

theorem offsets_lookup (A : List Field) (f : Field) (B : List Field) (off : Nat)
    (h : ∀ a ∈ A, a.name ≠ f.name) : (offsets (A ++ f :: B) off).lookup f.name = some (off + totalSize A) := by
  induction A generalizing off with
  | nil => simp [offsets, totalSize]
  | cons a A ih =>
    have hne : (f.name == a.name) = false := by
      have := h a (List.mem_cons_self ..)
      simpa using fun h' => this h'.symm
    simp only [List.cons_append, offsets, List.lookup, hne, totalSize]
    rw [ih _ (fun x hx => h x (List.mem_cons_of_mem _ hx))]
    congr 1; omega

theorem fieldOffset_uniq (A : List Field) (f : Field) (B : List Field)
    (h : WF.uniq ((A ++ f :: B).map (·.name)) = true) : fieldOffset (A ++ f :: B) f.name = totalSize A := by
  unfold fieldOffset
  rw [offsets_lookup A f B 0 (names_ne_of_uniq (·.name) A f B h)]
  simp

/-- the counters of the members `before`, already swapped, lie inside `pre` and `sizers` finds them -/
def SInv (all : List Member) (allv : List Val) (before : List Member) (sizers : List (String × Nat × Nat))
    (pre : Bytes) : Prop :=
  ∀ s p, Member.mk s (.prim p) .plain ∈ before → isSizer s all = true →
    ∃ a, sizers.lookup s = some (a, p.size) ∧ a + p.size ≤ pre.length ∧
      leRead pre a p.size = some (Spec.counter s all allv + sizerShift s all)

theorem SInv.mono {all : List Member} {allv : List Val} {before : List Member}
    {sizers : List (String × Nat × Nat)} {pre : Bytes} (h : SInv all allv before sizers pre) (more : Bytes) :
    SInv all allv before sizers (pre ++ more) := by
  intro s p hm hs
  obtain ⟨a, h1, h2, h3⟩ := h s p hm hs
  exact ⟨a, h1, by simp; omega, by rw [leRead_append _ _ _ _ h2]; exact h3⟩

theorem counter_lt (all : List Member) (allv : List Val) (hu : WF.uniq (all.map (·.name)) = true)
    (hw : wfMs all all = true) (hh : hasMs all all allv = true) (n : String) (p : Prim) (k : MKind)
    (hm : Member.mk n (.prim p) k ∈ all) (hs : isSizer n all = true) :
    Spec.counter n all allv + sizerShift n all < 256 ^ p.size := by
  obtain ⟨p', heq, _, hin⟩ := counter_inRange all allv hu hw hh n (.prim p) k hm hs
  cases heq
  exact inRange_nat_lt p _ hin

theorem sizerShift_zero_of_shiftOk (s : String) : (all : List Member) → shiftOk all = true → sizerShift s all = 0
  | [], _ => rfl
  | m :: r, h => by
    simp only [shiftOk, List.all_cons, Bool.and_eq_true, beq_iff_eq] at h
    simp only [sizerShift]
    split
    · exact h.1
    · exact sizerShift_zero_of_shiftOk s r (by simpa [shiftOk] using h.2)

theorem frontMs_sizer (all : List Member) (n : String) (t : Ty) (k : MKind) (r before : List Member)
    (h : frontMs all (.mk n t k :: r) before = true) (s : String) (hs : k.sizer? = some s) :
    ∃ p, Member.mk s (.prim p) .plain ∈ before := by
  obtain ⟨_, _, _, _, _, h6, _⟩ := (Accept.frontMs_cons_iff all n t k r before).1 h
  obtain ⟨nm, st, sk, hfind, hip, ho, ha⟩ := h6 s hs
  obtain ⟨p, rfl, _⟩ := (Accept.isIntPrim_iff st).1 hip
  have hk := Accept.plain_of_flags sk ho ha
  subst hk
  have hn : nm = s := by simpa [Member.name] using List.find?_some hfind
  subst hn
  exact ⟨p, List.mem_of_find?_eq_some hfind⟩

theorem SInv.step (all : List Member) (allv : List Val) (before : List Member) (sizers : List (String × Nat × Nat))
    (pre1 : Bytes) (n : String) (t : Ty) (k : MKind) (r : List Member) (g : MG) (v : Val)
    (hgm : g.m = .mk n t k) (hall : all = before ++ .mk n t k :: r)
    (huq : WF.uniq (all.map (·.name)) = true) (hw : wfMs all all = true) (hhall : hasMs all all allv = true)
    (hcn : v.isCounter = isSizer n all)
    (h : SInv all allv before sizers pre1) :
    SInv all allv (before ++ [Member.mk n t k]) (sizersAfter g (pre1.length + flagLen t k) sizers)
      (pre1 ++ Spec.render .little (Spec.fieldChunks all allv n t k v)) := by
  intro s p hm hs
  rcases List.mem_append.1 hm with hb | hb
  · obtain ⟨a, h1, h2, h3⟩ := (h.mono (Spec.render .little (Spec.fieldChunks all allv n t k v))) s p hb hs
    refine ⟨a, ?_, h2, h3⟩
    have hne : s ≠ n := by
      have := names_ne_of_uniq (·.name) before (.mk n t k) r (by rw [← hall]; exact huq) _ hb
      simpa [Member.name] using this
    unfold sizersAfter
    rw [hgm]
    simp only [Member.ty, Member.kind, Member.name]
    split
    · simp only [List.lookup]
      have : (s == n) = false := by simpa using hne
      rw [this]; exact h1
    · exact h1
  · have heq : Member.mk s (.prim p) .plain = .mk n t k := by simpa using hb
    injection heq with h1 h2 h3
    subst h1; subst h2; subst h3
    have hv := (Val.isCounter_eq_true_iff v).1 (hcn.trans hs)
    subst hv
    have hmem : Member.mk s (.prim p) .plain ∈ all := by rw [hall]; simp
    have hlt := counter_lt all allv huq hw hhall s p .plain hmem hs
    refine ⟨pre1.length, ?_, ?_, ?_⟩
    · unfold sizersAfter
      rw [hgm]
      simp [Member.ty, Member.kind, Member.name, flagLen]
    · simp [Spec.fieldChunks, render_cons, render_nil, Spec.Chunk.render, Spec.sizeTy]
    · simp only [Spec.fieldChunks, render_cons, render_nil, Spec.Chunk.render, Spec.sizeTy]
      have := leRead_scalar p.size (Spec.counter s all allv + sizerShift s all) pre1 [] pre1.length rfl hlt
      simpa using this

end Raw
end Prophy
