/-
  The model-level validation (`Accept.model`, prophyc/model.py evaluate_model) and the prophy parser
  (`Accept.front`) accept the same schemas, up to what only the grammar of the language adds
  (`Accept.grammar`: containers are not empty, `byte` occurs only as an array element).
-/
import ProphyModel.Accept
namespace Prophy
open Prophy Accept

namespace Accept

theorem any_of_find (p : Member → Bool) (before rest : List Member) (x : Member)
    (h : before.find? p = some x) : (before ++ rest).any p = true := by
  have hx := List.find?_some h
  have hm := List.mem_of_find?_eq_some h
  rw [List.any_eq_true]
  exact ⟨x, List.mem_append_left _ hm, hx⟩

end Accept

mutual
  theorem Accept.front_eq_model_and_grammar (t : Ty) : Accept.front t = (Accept.model t && Accept.grammar t) :=
    match t with
    | .prim _ => by simp [front, model, grammar]
    | .byte => by simp [front, model, grammar]
    | .enum _ es => by simp only [front, model, grammar]
    | .struct _ ms => by
      have ih := Accept.frontMs_eq_model_and_grammar ms ms [] (by simp)
      simp only [front, model, grammar, ih]
      ac_rfl
    | .union _ arms => by
      have ih := Accept.frontArms_eq_model_and_grammar arms
      simp only [front, model, grammar, ih]
      ac_rfl
  theorem Accept.frontMs_eq_model_and_grammar (all ms before : List Member) (hall : all = before ++ ms) :
      Accept.frontMs all ms before = (Accept.modelMs all ms before && Accept.grammarMs ms) :=
    match ms, hall with
    | [], _ => by simp [frontMs, modelMs, grammarMs]
    | .mk n t k :: r, hall => by
      have iht := Accept.front_eq_model_and_grammar t
      have ihr := Accept.frontMs_eq_model_and_grammar all r (before ++ [Member.mk n t k]) (by simp [hall])
      subst hall
      simp only [frontMs, modelMs, grammarMs, iht, ihr]
      rcases hk : k.sizer? with _ | s <;> simp only []
      · ac_rfl
      · rcases hf : before.find? (fun x => x.name == s) with _ | x
        · simp [hf]
        · have := any_of_find (fun x => x.name == s) before (.mk n t k :: r) x hf
          simp only [this, hf, Bool.true_and]
          ac_rfl
  theorem Accept.frontArms_eq_model_and_grammar (arms : List Arm) :
      Accept.frontArms arms = (Accept.modelArms arms && Accept.grammarArms arms) :=
    match arms with
    | [] => by simp [frontArms, modelArms, grammarArms]
    | .mk _ _ t :: r => by
      have iht := Accept.front_eq_model_and_grammar t
      have ihr := Accept.frontArms_eq_model_and_grammar r
      simp only [frontArms, modelArms, grammarArms, iht, ihr]
      ac_rfl
end

theorem Accept.model_of_front (t : Ty) (h : Accept.front t = true) : Accept.model t = true := by
  rw [Accept.front_eq_model_and_grammar, Bool.and_eq_true] at h
  exact h.1

theorem Accept.grammar_of_front (t : Ty) (h : Accept.front t = true) : Accept.grammar t = true := by
  rw [Accept.front_eq_model_and_grammar, Bool.and_eq_true] at h
  exact h.2

/-- the validation is as strict as the parser, so rule breakers are refused for every front-end -/
theorem Accept.front_of_model (t : Ty) (hm : Accept.model t = true) (hg : Accept.grammar t = true) : Accept.front t = true := by
  rw [Accept.front_eq_model_and_grammar, hm, hg]
  rfl

end Prophy

#print axioms Prophy.Accept.model_of_front
#print axioms Prophy.Accept.front_of_model
#print axioms Prophy.Accept.front_eq_model_and_grammar
