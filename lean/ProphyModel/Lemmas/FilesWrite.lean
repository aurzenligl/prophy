/-
  Lemmas about `FilesW` (model of `prophyc.generators.base.write_files`):
  extensional descriptions of `openAll`, `openAllUndo`, `writeAll`, `cleanup`, and of `writeFiles`.
-/
import ProphyModel.FilesW

namespace Prophy.FilesW

abbrev idents (ts : List Target) : List Ident := ts.filterMap (·.node)

theorem mem_idents {ts : List Target} {i : Ident} : i ∈ idents ts ↔ ∃ t ∈ ts, t.node = some i := by
  simp [idents, List.mem_filterMap]

theorem idents_cons_none {t : Target} {ts : List Target} (h : t.node = none) :
    idents (t :: ts) = idents ts := by
  simp [idents, h]

theorem idents_cons_some {t : Target} {ts : List Target} {i : Ident} (h : t.node = some i) :
    idents (t :: ts) = i :: idents ts := by
  simp [idents, h]

theorem set_same (fs : FS) (i : Ident) (v : Option Bytes) : fs.set i v i = v := by
  simp [FS.set]

theorem set_other (fs : FS) (i j : Ident) (v : Option Bytes) (h : j ≠ i) : fs.set i v j = fs j := by
  simp [FS.set, h]

theorem openAll_cons_none {t : Target} (h : t.node = none) (fs : FS) (created seen : List Ident)
    (ts : List Target) : openAll fs created seen (t :: ts) = none := by
  simp only [openAll, h]

theorem openAll_cons_some {t : Target} {i : Ident} (h : t.node = some i) (fs : FS)
    (created seen : List Ident) (ts : List Target) :
    openAll fs created seen (t :: ts) =
      if seen.contains i then none
      else openAll (if (fs i).isSome then fs else fs.set i (some []))
             (if (fs i).isSome then created else i :: created) (i :: seen) ts := by
  simp only [openAll, h]

theorem openAllUndo_cons_none {t : Target} (h : t.node = none) (fs : FS) (created seen : List Ident)
    (ts : List Target) :
    openAllUndo fs created seen (t :: ts) = created.foldl (fun f i => f.set i none) fs := by
  simp only [openAllUndo, h]

theorem openAllUndo_cons_some {t : Target} {i : Ident} (h : t.node = some i) (fs : FS)
    (created seen : List Ident) (ts : List Target) :
    openAllUndo fs created seen (t :: ts) =
      if seen.contains i then
        (if (fs i).isSome then created else i :: created).foldl (fun f i => f.set i none)
          (if (fs i).isSome then fs else fs.set i (some []))
      else openAllUndo (if (fs i).isSome then fs else fs.set i (some []))
             (if (fs i).isSome then created else i :: created) (i :: seen) ts := by
  simp only [openAllUndo, h]

theorem writeAll_cons_none {t : Target} (h : t.node = none) (full : Ident → Bool) (fs : FS)
    (ts : List Target) : writeAll full fs (t :: ts) = none := by
  simp only [writeAll, h]

theorem writeAll_cons_some {t : Target} {i : Ident} (h : t.node = some i) (full : Ident → Bool) (fs : FS)
    (ts : List Target) :
    writeAll full fs (t :: ts) = if full i then none else writeAll full (fs.set i (some t.data)) ts := by
  simp only [writeAll, h]

theorem cleanup_cons_none {t : Target} (h : t.node = none) (created : List Ident) (fs : FS)
    (ts : List Target) : cleanup created fs (t :: ts) = cleanup created fs ts := by
  simp only [cleanup, h]

theorem cleanup_cons_some {t : Target} {i : Ident} (h : t.node = some i) (created : List Ident) (fs : FS)
    (ts : List Target) :
    cleanup created fs (t :: ts) =
      cleanup created (fs.set i (if created.contains i then none else some [])) ts := by
  simp only [cleanup, h]

theorem openAll_isSome_iff (ts : List Target) : ∀ (fs : FS) (created seen : List Ident),
    (openAll fs created seen ts).isSome = true ↔
      (∀ t ∈ ts, t.node.isSome = true) ∧ (idents ts).Nodup ∧ ∀ i ∈ idents ts, i ∉ seen := by
  intro fs created seen
  fun_induction openAll fs created seen ts with
  | case1 => simp [idents]                                          -- no target left
  | case2 fs created seen t ts hn => simp [hn]                      -- a target that does not open
  | case3 fs created seen t ts i hn hs =>                           -- a target seen before
    have hs : i ∈ seen := by simpa using hs
    rw [idents_cons_some hn]
    simp [hs]
  | case4 fs created seen t ts i hn existed fs' created' hs ih =>   -- a new target: opened, then the rest
    have hs : i ∉ seen := by simpa using hs
    rw [ih, idents_cons_some hn]
    simp only [List.mem_cons, List.nodup_cons, forall_eq_or_imp, hn, Option.isSome_some, true_and]
    constructor
    · rintro ⟨h1, h2, h3⟩
      refine ⟨h1, ⟨?_, h2⟩, hs, ?_⟩
      · intro hi; exact (h3 i hi) (Or.inl rfl)
      · intro j hj hjs; exact (h3 j hj) (Or.inr hjs)
    · rintro ⟨h1, ⟨h2, h3⟩, _, h5⟩
      refine ⟨h1, h3, ?_⟩
      intro j hj hjs
      rcases hjs with rfl | hjs
      · exact h2 hj
      · exact h5 j hj hjs

theorem openAll_spec (ts : List Target) : ∀ (fs : FS) (created seen : List Ident) (fs' : FS)
    (created' : List Ident), openAll fs created seen ts = some (fs', created') →
    ∀ j, fs' j = (if j ∈ idents ts ∧ fs j = none then some [] else fs j) ∧
         (j ∈ created' ↔ j ∈ created ∨ (j ∈ idents ts ∧ fs j = none)) := by
  intro fs created seen fs' created'
  fun_induction openAll fs created seen ts with
  | case1 => intro h j; cases h; simp [idents]        -- no target left
  | case2 => intro h; cases h                          -- a target that does not open
  | case3 => intro h; cases h                          -- a target seen before
  | case4 fs created seen t ts i hn existed fs1 created1 hc ih =>   -- a new target: opened, then the rest
    intro h j
    have := ih h j
    rw [idents_cons_some hn]
    by_cases he : (fs i).isSome = true
    · simp only [fs1, created1, existed, he, if_true] at this
      obtain ⟨a, b⟩ := this
      have hne : fs i ≠ none := by
        intro h0; rw [h0] at he; cases he
      by_cases hji : j = i
      · subst hji
        simp [a, b, hne]
      · simp [a, b, hji]
    · simp only [fs1, created1, existed, he] at this
      obtain ⟨a, b⟩ := this
      have h0 : fs i = none := Option.not_isSome_iff_eq_none.mp he
      by_cases hji : j = i
      · subst hji
        simp [a, b, h0, set_same]
      · simp [a, b, hji, set_other _ _ _ _ hji]

theorem foldl_unset (created : List Ident) : ∀ (fs : FS) (j : Ident),
    created.foldl (fun f i => f.set i none) fs j = if j ∈ created then none else fs j := by
  induction created with
  | nil => intro fs j; simp
  | cons c cs ih =>
    intro fs j
    rw [List.foldl_cons, ih]
    by_cases h1 : j ∈ cs
    · simp [h1]
    · by_cases h2 : j = c
      · subst h2; simp [set_same]
      · simp [h1, h2, set_other _ _ _ _ h2]

/-- `fs` is `fs0` after the creations `created` -/
def UndoInv (fs0 fs : FS) (created : List Ident) : Prop :=
  ∀ j, (j ∈ created → fs0 j = none) ∧ (j ∉ created → fs j = fs0 j)

theorem undoInv_fold {fs0 fs : FS} {created : List Ident} (h : UndoInv fs0 fs created) (j : Ident) :
    created.foldl (fun f i => f.set i none) fs j = fs0 j := by
  rw [foldl_unset]
  by_cases hj : j ∈ created
  · rw [if_pos hj, (h j).1 hj]
  · rw [if_neg hj, (h j).2 hj]

theorem undoInv_step {fs0 fs : FS} {created : List Ident} (h : UndoInv fs0 fs created) (i : Ident) :
    UndoInv fs0 (if (fs i).isSome then fs else fs.set i (some []))
      (if (fs i).isSome then created else i :: created) := by
  by_cases he : (fs i).isSome = true
  · simp only [he, if_true]; exact h
  · rw [if_neg he, if_neg he]
    have h0 : fs i = none := Option.not_isSome_iff_eq_none.mp he
    intro j
    constructor
    · intro hj
      rcases List.mem_cons.1 hj with rfl | hj
      · by_cases hjc : j ∈ created
        · exact (h j).1 hjc
        · rw [← (h j).2 hjc]; exact h0
      · exact (h j).1 hj
    · intro hj
      have hji : j ≠ i := fun e => hj (by rw [e]; exact List.mem_cons_self)
      have hjc : j ∉ created := fun e => hj (List.mem_cons_of_mem _ e)
      rw [set_other _ _ _ _ hji]
      exact (h j).2 hjc

theorem openAllUndo_restores (ts : List Target) : ∀ (fs0 fs : FS) (created seen : List Ident),
    UndoInv fs0 fs created → ∀ j, openAllUndo fs created seen ts j = fs0 j := by
  intro fs0 fs created seen
  fun_induction openAllUndo fs created seen ts with
  | case1 => exact undoInv_fold                                                -- no target left
  | case2 => exact undoInv_fold                                                -- a target that does not open
  | case3 fs created seen t ts i hn => exact fun h => undoInv_fold (undoInv_step h i)   -- a target seen before
  | case4 fs created seen t ts i hn existed fs' created' hc ih => exact fun h => ih (undoInv_step h i)

theorem writeAll_isSome_iff (full : Ident → Bool) (ts : List Target) : ∀ (fs : FS),
    (writeAll full fs ts).isSome = true ↔
      (∀ t ∈ ts, t.node.isSome = true) ∧ (∀ t ∈ ts, ∀ i, t.node = some i → full i = false) := by
  intro fs
  fun_induction writeAll full fs ts with
  | case1 => simp                                        -- no target left
  | case2 fs t ts hn => simp [hn]                        -- a target without a node
  | case3 fs t ts i hn hf => simp [hn, hf]               -- the device is full
  | case4 fs t ts i hn hf ih => rw [ih]; simp [hn, hf]   -- written, then the rest

theorem writeAll_spec (full : Ident → Bool) (ts : List Target) : ∀ (fs fs2 : FS),
    writeAll full fs ts = some fs2 → (idents ts).Nodup →
    (∀ t ∈ ts, ∀ i, t.node = some i → fs2 i = some t.data) ∧
    (∀ i, i ∉ idents ts → fs2 i = fs i) := by
  intro fs fs2
  fun_induction writeAll full fs ts with
  | case1 => intro h _; cases h; simp                    -- no target left
  | case2 => intro h; cases h                            -- a target without a node
  | case3 => intro h; cases h                            -- the device is full
  | case4 fs t ts i hn hf ih =>                          -- written, then the rest
    intro h hnd
    rw [idents_cons_some hn] at hnd ⊢
    obtain ⟨hi, hnd'⟩ := List.nodup_cons.1 hnd
    obtain ⟨a, b⟩ := ih h hnd'
    constructor
    · intro t' ht' i' hi'
      rcases List.mem_cons.1 ht' with rfl | ht'
      · rw [hn] at hi'
        cases hi'
        rw [b i hi, set_same]
      · exact a t' ht' i' hi'
    · intro j hj
      have hji : j ≠ i := fun e => hj (by rw [e]; exact List.mem_cons_self)
      have hjt : j ∉ idents ts := fun e => hj (List.mem_cons_of_mem _ e)
      rw [b j hjt, set_other _ _ _ _ hji]

theorem cleanup_spec (created : List Ident) (ts : List Target) : ∀ (fs : FS) (j : Ident),
    cleanup created fs ts j =
      if j ∈ idents ts then (if j ∈ created then none else some []) else fs j := by
  intro fs j
  fun_induction cleanup created fs ts with
  | case1 => simp [idents]                                   -- no target left
  | case2 fs t ts hn ih => rw [idents_cons_none hn, ih]      -- a target without a node
  | case3 fs t ts i hn ih =>                                 -- a target with the node `i`
    rw [idents_cons_some hn, ih]
    by_cases h1 : j ∈ idents ts
    · simp [h1]
    · by_cases h2 : j = i
      · subst h2; simp [h1, set_same]
      · simp [h1, h2, set_other _ _ _ _ h2]

/-- the conditions of success: every target opens, no two are one file (`OpenOK`); no write fails (`WriteOK`) -/
def OpenOK (ts : List Target) : Prop := (∀ t ∈ ts, t.node.isSome = true) ∧ (idents ts).Nodup

def WriteOK (full : Ident → Bool) (ts : List Target) : Prop :=
  ∀ t ∈ ts, ∀ i, t.node = some i → full i = false

theorem openAll_none_iff (fs : FS) (ts : List Target) : openAll fs [] [] ts = none ↔ ¬ OpenOK ts := by
  rw [← Option.not_isSome_iff_eq_none, openAll_isSome_iff]
  exact not_congr ⟨fun ⟨a, b, _⟩ => ⟨a, b⟩, fun ⟨a, b⟩ => ⟨a, b, fun _ _ h => nomatch h⟩⟩

theorem writeAll_none_iff (full : Ident → Bool) (fs : FS) (ts : List Target)
    (hopen : ∀ t ∈ ts, t.node.isSome = true) : writeAll full fs ts = none ↔ ¬ WriteOK full ts := by
  rw [← Option.not_isSome_iff_eq_none, writeAll_isSome_iff]
  exact not_congr ⟨fun h => h.2, fun h => ⟨hopen, h⟩⟩

/-- What a run leaves, said without the order of the targets: whether it succeeds, and every file, from the set of
    identities of the targets, the text of each, and the file system of the start. -/
structure Describes (full : Ident → Bool) (fs : FS) (ts : List Target) (o : Outcome) : Prop where
  ok_iff : o.ok = true ↔ OpenOK ts ∧ WriteOK full ts
  open_fail : ¬ OpenOK ts → ∀ i, o.fs i = fs i
  other : ∀ i, i ∉ idents ts → o.fs i = fs i
  success : OpenOK ts → WriteOK full ts → ∀ t ∈ ts, ∀ i, t.node = some i → o.fs i = some t.data
  write_fail : OpenOK ts → ¬ WriteOK full ts → ∀ i ∈ idents ts, o.fs i = if fs i = none then none else some []

theorem writeFiles_describes (full : Ident → Bool) (fs : FS) (ts : List Target) :
    Describes full fs ts (writeFiles full fs ts) := by
  unfold writeFiles
  cases h1 : openAll fs [] [] ts with
  | none =>
    -- phase 1 fails: everything as before
    have ho := (openAll_none_iff fs ts).1 h1
    have hfs := openAllUndo_restores ts fs fs [] [] (fun j => ⟨fun h => (nomatch h), fun _ => rfl⟩)
    exact ⟨by simp [ho], fun _ => hfs, fun i _ => hfs i, fun h => absurd h ho, fun h => absurd h ho⟩
  | some p =>
    obtain ⟨fs1, created⟩ := p
    dsimp only
    have ho : OpenOK ts := Classical.not_not.1 fun hn => by
      rw [(openAll_none_iff fs ts).2 hn] at h1
      cases h1
    have hopen := fun i => openAll_spec ts fs [] [] fs1 created h1 i
    cases h2 : writeAll full fs1 ts with
    | none =>
      -- phase 2 fails: the targets that existed are empty, the others are gone, nothing else changed
      have hw := (writeAll_none_iff full fs1 ts ho.1).1 h2
      have hfs : ∀ i, cleanup created fs1 ts i =
          if i ∈ idents ts then (if fs i = none then none else some []) else fs i := by
        intro i
        rw [cleanup_spec]
        obtain ⟨a, b⟩ := hopen i
        by_cases hi : i ∈ idents ts
        · by_cases h0 : fs i = none
          · have : i ∈ created := b.2 (Or.inr ⟨hi, h0⟩)
            simp [hi, h0, this]
          · have : i ∉ created := fun hc => (b.1 hc).elim (fun hc => nomatch hc) (fun hc => h0 hc.2)
            simp [hi, h0, this]
        · simp [hi, a]
      exact ⟨by simp [hw], fun h => absurd ho h, fun i hi => by simp only [hfs, if_neg hi],
        fun _ h => absurd h hw, fun _ _ i hi => by simp only [hfs, if_pos hi]⟩
    | some fs2 =>
      -- success: every target holds its text, nothing else changed
      have hw : WriteOK full ts := Classical.not_not.1 fun hn => by
        rw [(writeAll_none_iff full fs1 ts ho.1).2 hn] at h2
        cases h2
      obtain ⟨a, b⟩ := writeAll_spec full ts fs1 fs2 h2 ho.2
      refine ⟨by simp [ho, hw], fun h => absurd ho h, fun i hi => ?_, fun _ _ => a, fun _ h => absurd hw h⟩
      show fs2 i = fs i
      rw [b i hi, (hopen i).1]
      simp [hi]

theorem Describes.unique {full : Ident → Bool} {fs : FS} {ts : List Target} {o o' : Outcome}
    (h : Describes full fs ts o) (h' : Describes full fs ts o') : o.ok = o'.ok ∧ ∀ i, o.fs i = o'.fs i := by
  refine ⟨Bool.eq_iff_iff.mpr (h.ok_iff.trans h'.ok_iff.symm), fun i => ?_⟩
  by_cases ho : OpenOK ts
  · by_cases hi : i ∈ idents ts
    · by_cases hw : WriteOK full ts
      · obtain ⟨t, ht, hti⟩ := mem_idents.1 hi
        rw [h.success ho hw t ht i hti, h'.success ho hw t ht i hti]
      · rw [h.write_fail ho hw i hi, h'.write_fail ho hw i hi]
    · rw [h.other i hi, h'.other i hi]
  · rw [h.open_fail ho i, h'.open_fail ho i]

theorem OpenOK_perm {ts₁ ts₂ : List Target} (h : ts₁.Perm ts₂) : OpenOK ts₁ ↔ OpenOK ts₂ := by
  unfold OpenOK
  rw [(h.filterMap _).nodup_iff]
  exact and_congr_left fun _ => ⟨fun a t ht => a t (h.mem_iff.2 ht), fun a t ht => a t (h.mem_iff.1 ht)⟩

theorem WriteOK_perm (full : Ident → Bool) {ts₁ ts₂ : List Target} (h : ts₁.Perm ts₂) :
    WriteOK full ts₁ ↔ WriteOK full ts₂ :=
  ⟨fun a t ht => a t (h.mem_iff.2 ht), fun a t ht => a t (h.mem_iff.1 ht)⟩

theorem Describes.perm {full : Ident → Bool} {fs : FS} {ts₁ ts₂ : List Target} {o : Outcome} (hp : ts₁.Perm ts₂)
    (h : Describes full fs ts₁ o) : Describes full fs ts₂ o := by
  have hO := OpenOK_perm hp
  have hW := WriteOK_perm full hp
  have hI : ∀ i, i ∈ idents ts₂ ↔ i ∈ idents ts₁ := fun i => (hp.filterMap _).mem_iff.symm
  exact ⟨by rw [← hO, ← hW]; exact h.ok_iff, fun ho => h.open_fail (fun e => ho (hO.1 e)),
    fun i hi => h.other i (fun e => hi ((hI i).2 e)),
    fun ho hw t ht => h.success (hO.2 ho) (hW.2 hw) t (hp.mem_iff.2 ht),
    fun ho hw i hi => h.write_fail (hO.2 ho) (fun e => hw (hW.1 e)) i ((hI i).1 hi)⟩

/-- what a run leaves is described again by the same description, started from what it left -/
theorem Describes.again {full : Ident → Bool} {fs : FS} {ts : List Target} {o : Outcome}
    (h : Describes full fs ts o) : Describes full o.fs ts o := by
  refine ⟨h.ok_iff, fun _ _ => rfl, fun _ _ => rfl, h.success, fun ho hw i hi => ?_⟩
  rw [h.write_fail ho hw i hi]
  by_cases h0 : fs i = none
  · rw [if_pos h0, if_pos rfl]
  · rw [if_neg h0, if_neg (fun e => nomatch e)]

end Prophy.FilesW
