/- `Py.encode = Spec.enc` on well-formed schemas and well-typed, coherent values (C01) -/
import ProphyModel.Lemmas.WFLemmas
import ProphyModel.Lemmas.PyStatics
import ProphyModel.Lemmas.Layout
import ProphyModel.Lemmas.Chunks
import ProphyModel.Lemmas.Scalars
import ProphyModel.Lemmas.TypingLemmas
namespace Prophy
open Prophy WF

theorem Py.pack_ok (e : Endian) (p : Prim) (i : Int) (h : inRange p i = true) :
    Py.pack e p i = .ok (scalarBytes e p.size (toUnsigned p.size i)) := by
  unfold Py.pack
  have : Py.primRange p = Prophy.primRange p := rfl
  simp only [inRange, Bool.and_eq_true, decide_eq_true_eq] at h
  simp [this, h]

/-- the bytes of one member's own encoding: the body of the loop of struct.encode, i.e. the `match` of `Py.encMs`
    (Py.lean) again, tied to it by `encMs_cons` (unfolding, `rfl`) -/
def Py.fieldBytes (e : Endian) (all : List Member) (allv : List Val) (n : String) (t : Ty) (k : MKind)
    (v : Val) (f : Py.St) : Py.M Bytes :=
  match k, v with
  | .plain, v =>
    if isSizer n all then do
      let c ← Py.evaluateSize n all allv
      Py.pack e (Py.sizerPrim t) (c + sizerShift n all)
    else Py.encTy e t v
  | .optional, .absent => pure (zeros f.size)
  | .optional, .present x => do
    let flag ← Py.pack e .u32 1
    let b ← Py.encTy e t x
    pure (Py.ljust flag f.align ++ b)
  | .fixed _, .arr xs => Py.encElems e t xs
  | .fixed c, .bytes b => pure (Py.ljust b c)
  | .dyn _ _, .arr xs => Py.encElems e t xs
  | .dyn _ _, .bytes b => pure b
  | .limited _ _, .arr xs => do
    let b ← Py.encElems e t xs
    pure (Py.ljust b f.size)
  | .limited _ c, .bytes b => pure (Py.ljust b c)
  | .greedy, .arr xs => Py.encElems e t xs
  | .greedy, .bytes b => pure b
  | _, _ => .error .type

theorem Py.encMs_cons (e : Endian) (all : List Member) (allv : List Val) (n : String) (t : Ty) (k : MKind)
    (r : List Member) (v : Val) (vs : List Val) (f : Py.St) (fs : List Py.St) (p : Option Nat)
    (ps : List (Option Nat)) (off : Nat) :
    Py.encMs e all allv (.mk n t k :: r) (v :: vs) (f :: fs) (p :: ps) off =
      (do
        let body ← Py.fieldBytes e all allv n t k v f
        let off1 := off + padTo off f.align + body.length
        let pad2 := match p with
          | some a => padTo off1 a
          | none => 0
        let rest ← Py.encMs e all allv r vs fs ps (off1 + pad2)
        pure (zeros (padTo off f.align) ++ body ++ zeros pad2 ++ rest)) := by
  conv => lhs; unfold Py.encMs
  rfl

theorem eraseDups_const (l : List Nat) (c : Nat) (hne : l ≠ []) (h : ∀ x ∈ l, x = c) : l.eraseDups = [c] := by
  cases l with
  | nil => exact absurd rfl hne
  | cons a r =>
    have ha : a = c := h a (List.mem_cons_self ..)
    subst ha
    rw [List.eraseDups_cons]
    have : (r.filter fun b => !b == a) = [] := by
      apply List.filter_eq_nil_iff.2
      intro x hx
      have := h x (List.mem_cons_of_mem _ hx)
      simp [this]
    rw [this]; rfl

/-- `SizerEnc` of every member: `evaluate_size` returns `Spec.counter`, and packing it with the shift succeeds -/
structure SizerFacts (e : Endian) (all : List Member) (allv : List Val) : Prop where
  enc : ∀ n t k, Member.mk n t k ∈ all → isSizer n all = true →
    ∃ p, t = .prim p ∧
      Py.evaluateSize n all allv = .ok (Spec.counter n all allv) ∧
      Py.pack e p ((Spec.counter n all allv : Int) + (sizerShift n all : Int)) =
        .ok (scalarBytes e p.size (Spec.counter n all allv + sizerShift n all))

theorem sizerFacts (e : Endian) (all : List Member) (allv : List Val)
    (hu : uniq (all.map (·.name)) = true) (hw : wfMs all all = true)
    (hh : hasMs all all allv = true) (ha : agreeMs all allv = true) : SizerFacts e all allv := by
  refine ⟨fun n t k hm hs => ?_⟩
  obtain ⟨p, rfl, hmem, hin⟩ := counter_inRange all allv hu hw hh n t k hm hs
  obtain ⟨m', hm', hs'⟩ := (isSizer_iff n all).1 hs
  have hall : ∀ x ∈ boundLens n all allv, x = Spec.counter n all allv := by
    have := (List.all_eq_true.1 ha) m' hm'
    rw [hs'] at this
    intro x hx
    have := (List.all_eq_true.1 this) x hx
    simpa using this
  have hev : Py.evaluateSize n all allv = .ok (Spec.counter n all allv) := by
    unfold Py.evaluateSize
    rw [eraseDups_const _ _ (List.ne_nil_of_mem hmem) hall]
  refine ⟨p, rfl, hev, ?_⟩
  rw [show ((Spec.counter n all allv : Int) + (sizerShift n all : Int)) = ((Spec.counter n all allv + sizerShift n all : Nat) : Int)
    by omega, Py.pack_ok e p _ hin, toUnsigned_nat p.size _ (inRange_nat_lt p _ hin)]

theorem Py.fieldBytes_plain (e : Endian) (all : List Member) (allv : List Val) (n : String) (t : Ty) (v : Val)
    (f : Py.St) (h : isSizer n all = false) : Py.fieldBytes e all allv n t .plain v f = Py.encTy e t v := by
  simp [Py.fieldBytes, h]

theorem Py.ljust_eq (b : Bytes) (n : Nat) : Py.ljust b n = b ++ zeros (n - b.length) := rfl

/-- the alignment the runtime has already applied when the loop reaches a member -/
def aheadAl (ad : Bool) (ms : List Member) : Nat := if ad then Spec.blockAlign ms else 1

/-- The runtime pads in two steps (after a dynamic field to the alignment of the block that follows, then to the
    member's own alignment), the document in one; both reach the same offset. -/
theorem aheadAl_pad (ad : Bool) (m : Member) (r : List Member) (off : Nat) :
    Spec.alignMember m ∣ (if ad = true then Spec.blockAlign (m :: r) else Spec.alignMember m) ∧
    0 < (if ad = true then Spec.blockAlign (m :: r) else Spec.alignMember m) ∧
    alignUp off (aheadAl ad (m :: r)) + padTo (alignUp off (aheadAl ad (m :: r))) (Spec.alignMember m) =
      off + padTo off (if ad = true then Spec.blockAlign (m :: r) else Spec.alignMember m) ∧
    padTo off (aheadAl ad (m :: r)) + padTo (alignUp off (aheadAl ad (m :: r))) (Spec.alignMember m) =
      padTo off (if ad = true then Spec.blockAlign (m :: r) else Spec.alignMember m) := by
  cases ad
  · simp [aheadAl, alignUp_one, padTo_one, Spec.alignMember_pos]
  · have hd := Spec.alignMember_dvd_blockAlign m r
    have hp := (Spec.blockAlign_isAl (m :: r)).pos
    have h0 := padTo_alignUp_of_dvd off _ _ hp hd
    unfold alignUp at h0
    simp [aheadAl, alignUp, h0, hd, hp]

/-- `SizerFacts.enc` for one member -/
abbrev SizerEnc (e : Endian) (all : List Member) (allv : List Val) (n : String) (t : Ty) : Prop :=
  isSizer n all = true → ∃ p, t = .prim p ∧
    Py.evaluateSize n all allv = .ok (Spec.counter n all allv) ∧
    Py.pack e p ((Spec.counter n all allv : Int) + (sizerShift n all : Int)) =
      .ok (scalarBytes e p.size (Spec.counter n all allv + sizerShift n all))



theorem Py.unionSt_size (nm : String) (arms : List Arm) (hfx : Spec.fixedArms arms = true) :
    (Py.unionSt (Py.stArms arms)).size = Spec.sizeTy (.union nm arms) :=
  Py.stTy_size_fixed (.union nm arms) hfx

theorem Py.unionSt_align (arms : List Arm) : (Py.unionSt (Py.stArms arms)).align = max 4 (Spec.alignArms arms) := by
  simp [Py.unionSt, Py.stArms_align, Py.flagSize]

theorem Py.encTy_struct (e : Endian) (nm : String) (ms : List Member) (vs : List Val) :
    Py.encTy e (.struct nm ms) (.struct vs) =
      (Py.encMs e ms vs ms vs (Py.stMs ms) (Py.partials (Py.stMs ms)) 0 >>= fun body =>
        pure (body ++ zeros (padTo body.length (Py.structSt (Py.stMs ms)).align))) := rfl

theorem Py.encTy_union (e : Endian) (nm : String) (arms : List Arm) (idx : Nat) (v : Val) (an : String) (d : Nat) (t : Ty)
    (ha : arms[idx]? = some (.mk an d t)) :
    Py.encTy e (.union nm arms) (.union idx v) =
      (Py.pack e .u32 d >>= fun disc => Py.encTy e t v >>= fun body =>
        pure (Py.ljust (Py.ljust disc (Py.unionSt (Py.stArms arms)).align ++ body) (Py.unionSt (Py.stArms arms)).size)) := by
  have e' : Py.encTy e (.union nm arms) (.union idx v) =
      match arms[idx]? with
      | some (.mk _ d t) =>
        (Py.pack e .u32 d >>= fun disc => Py.encTy e t v >>= fun body =>
          pure (Py.ljust (Py.ljust disc (Py.unionSt (Py.stArms arms)).align ++ body) (Py.unionSt (Py.stArms arms)).size))
      | none => .error .attribute := rfl
  rw [e', ha]

theorem Py.encTy_present (e : Endian) (t : Ty) (x : Val) : Py.encTy e t (.present x) = .error .type := by
  cases t <;> rfl

theorem Py.encTy_arr (e : Endian) (t : Ty) (xs : List Val) : Py.encTy e t (.arr xs) = .error .type := by
  cases t <;> rfl

theorem Py.encElems_nil (e : Endian) (t : Ty) : Py.encElems e t [] = pure [] := by cases t <;> rfl
theorem Py.encElems_cons (e : Endian) (t : Ty) (x : Val) (xs : List Val) :
    Py.encElems e t (x :: xs) = (Py.encTy e t x >>= fun b => Py.encElems e t xs >>= fun r => pure (b ++ r)) := by
  cases t <;> rfl

theorem Py.encMs_nil (e : Endian) (all : List Member) (allv vs : List Val) (fs : List Py.St) (ps : List (Option Nat)) (off : Nat) :
    Py.encMs e all allv [] vs fs ps off = pure [] := by cases vs <;> rfl

theorem Py.pack_nat (e : Endian) (n : Nat) (h : n < 2 ^ 32) : Py.pack e .u32 (n : Int) = .ok (scalarBytes e 4 n) := by
  rw [Py.pack_ok e .u32 n (inRange_u32 n h)]
  show Except.ok (scalarBytes e 4 (toUnsigned 4 (n : Int))) = _
  rw [toUnsigned_nat 4 n (by simpa using h)]

/-- the motives of `enc_ok`: a member value … -/
def EncField (e : Endian) (all : List Member) (k : MKind) (t : Ty) (v : Val) : Prop :=
  ∀ (allv : List Val) (n : String),
    wfTy t = true → (needsFixed k = true → Spec.fixedTy t = true) → agreeTy t v = true →
    v.isCounter = isSizer n all → SizerEnc e all allv n t →
    Py.fieldBytes e all allv n t k v (Py.fieldSt (Py.stTy t) k) =
      .ok (Spec.render e (Spec.fieldChunks all allv n t k v))

/-- … the loop of `struct.encode`, entered where the runtime stands (`aheadAl`) … -/
def EncMs (e : Endian) (all ms : List Member) (vs : List Val) : Prop :=
  ∀ (allv : List Val),
    SizerFacts e all allv → (∀ m ∈ ms, m ∈ all) → wfMs all ms = true →
    agreeFields ms vs = true → ∀ (off : Nat) (ad : Bool),
    ∃ B, Py.encMs e all allv ms vs (Py.stMs ms) (Py.partials (Py.stMs ms)) (alignUp off (aheadAl ad ms)) = .ok B ∧
      zeros (padTo off (aheadAl ad ms)) ++ B = Spec.render e (Spec.chunksMs all allv ms vs off ad)

def EncElems (e : Endian) (t : Ty) (xs : List Val) : Prop :=
  wfTy t = true → agreeElems t xs = true → Py.encElems e t xs = .ok (Spec.render e (Spec.chunksElems t xs))

/-- a value that is no counter, encoded as the plain member of no struct: `Py.encTy` itself -/
theorem EncField.value {e : Endian} {t : Ty} {x : Val} (ih : EncField e [] .plain t x) (hcx : x.isCounter = false)
    (hwt : wfTy t = true) (hag : agreeTy t x = true) : Py.encTy e t x = .ok (Spec.render e (Spec.chunksTy t x)) := by
  have h1 := ih [] "" hwt (fun h => nomatch h) hag (by rw [hcx]; rfl) (fun h => nomatch h)
  rwa [Py.fieldBytes_plain e [] [] "" t x _ rfl, Spec.fieldChunks_plain [] [] "" t x hcx] at h1

theorem sub_flag_gap {S M c : Nat} (h : 4 ≤ M) : S - (4 + (M - 4 + c)) = S - M - c := by
  rw [← Nat.add_assoc, Nat.add_sub_cancel' h, Nat.sub_add_eq]

theorem enc_ok (e : Endian) :
    (∀ v all k t, hasField all k t v = true → EncField e all k t v) ∧
    (∀ vs all ms, hasMs all ms vs = true → EncMs e all ms vs) ∧
    (∀ xs t, hasElems t xs = true → EncElems e t xs) := by
  have scalar : ∀ {all : List Member} {t : Ty} {p : Prim} {i : Int} (allv : List Val) (n : String),
      Py.encTy e t (.int i) = Py.pack e p i → Spec.chunksTy t (.int i) = [.scalar p.size (toUnsigned p.size i)] →
      inRange p i = true → Val.isCounter (.int i) = isSizer n all →
      Py.fieldBytes e all allv n t .plain (.int i) (Py.fieldSt (Py.stTy t) .plain) =
        .ok (Spec.render e (Spec.fieldChunks all allv n t .plain (.int i))) := by
    intro all t p i allv n he hch hr hc
    rw [Py.fieldBytes_plain e all allv n _ _ _ hc.symm, Spec.fieldChunks_plain all allv n _ _ rfl, he, hch,
      Py.pack_ok e p i hr, render_scalar]
  apply wt_induct (F := EncField e) (M := EncMs e) (E := EncElems e)
  constructor
  case sizer =>
    intro all t allv n _ _ _ hc hs
    have hsz : isSizer n all = true := hc.symm
    obtain ⟨p, rfl, hev, hpk⟩ := hs hsz
    simp [Py.fieldBytes, hsz, hev, bind, Except.bind, Py.sizerPrim, hpk, Spec.fieldChunks, render_scalar, Spec.sizeTy]
  case prim =>
    intro all p i hr allv n _ _ _ hc _
    exact scalar allv n rfl rfl hr hc
  case byte =>
    intro all i hr allv n _ _ _ hc _
    exact scalar allv n rfl rfl hr hc
  case enum =>
    intro all nm es i hany allv n hwt _ _ hc _
    rw [WF.wfTy_enum] at hwt
    exact scalar allv n rfl rfl (inRange_enum es i hwt hany) hc
  case struct =>
    intro all nm ms vs hhm ih allv n hwt _ hag hc _
    rw [WF.wfTy_struct, Bool.and_eq_true] at hwt
    rw [WF.agreeTy_struct, Bool.and_eq_true] at hag
    obtain ⟨B, hB, hEq⟩ := ih vs (sizerFacts e ms vs hwt.1 hwt.2 hhm hag.1) (fun m hm => hm) hwt.2 hag.2 0 false
    simp only [aheadAl, alignUp_one, padTo_one, zeros_zero, List.nil_append, Bool.false_eq_true, if_false] at hB hEq
    rw [Py.fieldBytes_plain e all allv n _ _ _ hc.symm, Spec.fieldChunks_plain all allv n _ _ rfl, Py.encTy_struct,
      Spec.chunksTy_struct, hB, show (Py.structSt (Py.stMs ms)).align = _ from Py.stMs_align ms, hEq,
      Spec.render_append]
    simp [bind, Except.bind, pure, Except.pure, Spec.render, Spec.Chunk.render, Spec.render_length]
  case union =>
    intro all nm arms idx an d t x ha hcx hx ih allv n hwt _ hag hc _
    rw [WF.wfTy_union, Bool.and_eq_true] at hwt
    rw [WF.agreeTy_union nm arms idx x an d t ha] at hag
    obtain ⟨hwt', _⟩ := WF.wfArms_get arms hwt.2 idx _ ha
    have hd : d < 2 ^ 32 := of_decide_eq_true (List.all_eq_true.1 hwt.1 (.mk an d t) (List.mem_of_getElem? ha))
    have h1 := ih.value hcx hwt' hag
    rw [Py.fieldBytes_plain e all allv n _ _ _ hc.symm, Spec.fieldChunks_plain all allv n _ _ rfl,
      Py.encTy_union e nm arms idx x an d t ha, Spec.chunksTy_union_some nm arms idx x an d t ha,
      show Spec.sizeTy (.union "" arms) = Spec.sizeTy (.union nm arms) from rfl, Py.pack_nat e d hd, h1, Py.unionSt_size nm arms (WF.fixedArms_of_wf arms hwt.2),
      Py.unionSt_align]
    simp [bind, Except.bind, pure, Except.pure, Py.ljust_eq, Spec.render, Spec.Chunk.render, Spec.flagSize]
    congr 1; exact sub_flag_gap (Nat.le_max_left ..)
  case absent =>
    intro all t allv n _ hfx _ _ _
    simp [Py.fieldBytes, Spec.fieldChunks, Py.fieldSt, Py.stTy_size_fixed t (hfx rfl), Py.stTy_align t, Spec.render,
      Spec.Chunk.render, pure, Except.pure, Py.flagSize, Spec.flagSize]
  case present =>
    intro all t x hcx hx ih allv n hwt _ hag _ _
    rw [WF.agreeTy_present] at hag
    have h1 := ih.value hcx hwt hag
    have hone : Py.pack e .u32 1 = .ok (scalarBytes e 4 1) := Py.pack_nat e 1 (by decide)
    simp [Py.fieldBytes, Spec.fieldChunks, Py.fieldSt, h1, hone, Py.stTy_align t, bind, Except.bind, pure,
      Except.pure, Py.ljust_eq, Spec.render, Spec.Chunk.render, Py.flagSize, Spec.flagSize]
  case bytes =>
    intro all k b hl allv n _ _ _ _ _
    cases k with
    | plain => cases hl
    | optional => cases hl
    | fixed c =>
      obtain rfl := (lenFits_fixed all c _).1 hl
      simp [Py.fieldBytes, Spec.fieldChunks, Py.ljust_eq, zeros_zero, Spec.render, Spec.Chunk.render, pure, Except.pure]
    | dyn s sh => simp [Py.fieldBytes, Spec.fieldChunks, Spec.render, Spec.Chunk.render, pure, Except.pure]
    | limited s c => simp [Py.fieldBytes, Spec.fieldChunks, Py.ljust_eq, Spec.render, Spec.Chunk.render, pure, Except.pure]
    | greedy => simp [Py.fieldBytes, Spec.fieldChunks, Spec.render, Spec.Chunk.render, pure, Except.pure]
  case arr =>
    intro all k t xs _ hl _ ih allv n hwt hfx hag _ _
    rw [WF.agreeTy_arr] at hag
    have h1 := ih hwt hag
    cases k with
    | plain => cases hl
    | optional => cases hl
    | fixed c => simp [Py.fieldBytes, Spec.fieldChunks, h1]
    | dyn s sh => simp [Py.fieldBytes, Spec.fieldChunks, h1]
    | greedy => simp [Py.fieldBytes, Spec.fieldChunks, h1]
    | limited s c =>
      simp [Py.fieldBytes, Spec.fieldChunks, h1, bind, Except.bind, pure, Except.pure, Py.ljust_eq, Py.fieldSt,
        Py.stTy_size_fixed t (hfx rfl), Spec.render, Spec.Chunk.render]
  case nil =>
    intro all allv _ _ _ _ off ad
    refine ⟨[], Py.encMs_nil .., ?_⟩
    cases ad <;> simp [aheadAl, Spec.blockAlign, padTo_one, Spec.chunksMs_nil, Spec.render, zeros_zero]
  case cons =>
    intro all n t k r v vs hcnt hf _ ihf ihm allv sf hsub hw hag off ad
    obtain ⟨hwt, hfx, _, _, hwr⟩ := (wfMs_cons all n t k r).1 hw
    rw [WF.agreeFields_cons, Bool.and_eq_true] at hag
    have hmem : Member.mk n t k ∈ all := hsub _ (List.mem_cons_self ..)
    have hbody := ihf allv n hwt hfx hag.1 hcnt (fun hs => sf.enc n t k hmem hs)
    have hal : (Py.fieldSt (Py.stTy t) k).align = Spec.alignMember (.mk n t k) := Py.fieldSt_align_member n t k
    have hdyn : (Py.fieldSt (Py.stTy t) k).dyn = Spec.endsBlock (.mk n t k) := Py.fieldSt_dyn all n t k r hw
    have hpa : Py.partialAl (Py.stMs r) = Spec.blockAlign r := Py.partialAl_stMs all r hwr
    obtain ⟨_, _, hoff1, hoff2⟩ := aheadAl_pad ad (.mk n t k) r off
    generalize hadef : (if ad = true then Spec.blockAlign (.mk n t k :: r) else Spec.alignMember (.mk n t k)) = a
      at hoff1 hoff2
    generalize hfc : Spec.fieldChunks all allv n t k v = fc at hbody
    obtain ⟨B', hB', hEq'⟩ := ihm allv sf (fun m hm => hsub m (List.mem_cons_of_mem _ hm)) hwr hag.2
      (off + padTo off a + Spec.clen fc) (Spec.endsBlock (.mk n t k))
    have hst : Py.stMs (.mk n t k :: r) = Py.fieldSt (Py.stTy t) k :: Py.stMs r := rfl
    refine ⟨zeros (padTo (alignUp off (aheadAl ad (.mk n t k :: r))) (Spec.alignMember (.mk n t k))) ++ Spec.render e fc
        ++ zeros (padTo (off + padTo off a + Spec.clen fc) (aheadAl (Spec.endsBlock (.mk n t k)) r)) ++ B', ?_, ?_⟩
    · rw [hst, Py.partials_cons, Py.encMs_cons, hbody]
      simp only [bind, Except.bind, hal, hdyn, hpa, Spec.render_length, hoff1]
      cases heb : Spec.endsBlock (.mk n t k)
      · simp [heb, aheadAl, padTo_one, alignUp_one] at hB' ⊢
        simp [hB', pure, Except.pure, zeros_zero]
      · simp [heb, aheadAl, alignUp] at hB' ⊢
        simp [hB', pure, Except.pure]
    · rw [Spec.chunksMs_cons, hadef, hfc]
      simp only [render_cons, Spec.render_append, Spec.Chunk.render]
      rw [← hEq', ← hoff2, zeros_add]
      simp [List.append_assoc]
  case enil =>
    intro t _ _
    rw [Py.encElems_nil, Spec.chunksElems_nil]; rfl
  case econs =>
    intro t x xs hcx hx _ ihx ihxs hwt hag
    rw [WF.agreeElems_cons, Bool.and_eq_true] at hag
    rw [Py.encElems_cons, Spec.chunksElems_cons, ihx.value hcx hwt hag.1, ihxs hwt hag.2, Spec.render_append]
    rfl

theorem ms_ok (e : Endian) : (vs : List Val) → ∀ (ms all : List Member) (allv : List Val),
      SizerFacts e all allv → (∀ m ∈ ms, m ∈ all) → wfMs all ms = true → hasMs all ms vs = true →
      agreeFields ms vs = true → ∀ (off : Nat) (ad : Bool),
      ∃ B, Py.encMs e all allv ms vs (Py.stMs ms) (Py.partials (Py.stMs ms)) (alignUp off (aheadAl ad ms)) = .ok B ∧
        zeros (padTo off (aheadAl ad ms)) ++ B = Spec.render e (Spec.chunksMs all allv ms vs off ad) :=
  fun vs ms all allv sf hsub hw hh hag off ad => (enc_ok e).2.1 vs all ms hh allv sf hsub hw hag off ad

theorem elems_ok (e : Endian) : (xs : List Val) → ∀ (t : Ty), wfTy t = true → hasElems t xs = true →
      agreeElems t xs = true → Py.encElems e t xs = .ok (Spec.render e (Spec.chunksElems t xs)) :=
  fun xs t hwt hh hag => (enc_ok e).2.2 xs t hh hwt hag

/-- `Message.encode()` of the Python runtime produces the canonical encoding of docs/encoding.rst -/
theorem Py.encode_canonical (t : Ty) (v : Val) (e : Endian) (hw : wfTy t = true) (hv : hasType t v = true)
    (ha : agreeTy t v = true) : Py.encode t v e = .ok (Spec.enc t v e) := by
  simp only [hasType, Bool.and_eq_true, Bool.not_eq_true'] at hv
  exact ((enc_ok e).1 v [] .plain t hv.2).value hv.1 hw ha

end Prophy
