/- The pointer encoder of the generated C++ full codec writes the canonical encoding: induction over well-typed values
   (`enc_cases`), the members along the walk of Lay.lean (`LayInv.step`).
   Convention, here and in CppObjects: a clause of a mutual definition (`encTy`, `objField`, `objMs`, `fitMs`) is copied out as
   `have : f .. = <clause> := rfl`; `unfold`/`simp [f]` would first build the equation lemmas of the whole block. -/
import ProphyModel.Cpp
import ProphyModel.Accept
import ProphyModel.Lemmas.Chunks
import ProphyModel.Lemmas.WFLemmas
import ProphyModel.Lemmas.WFAccept
import ProphyModel.Lemmas.TypingLemmas
import ProphyModel.Lemmas.Lay
import ProphyModel.Lemmas.EncLen
import ProphyModel.Lemmas.PLayoutFixed
import ProphyModel.Lemmas.NoShift
import ProphyModel.Lemmas.CppCodecSize

namespace Prophy

open WF

namespace Cpp

theorem mslot_fixed (n : String) (t : Ty) (k : MKind) (hf : Spec.fixedTy t = true) :
    mslot (.mk n t k) = Spec.slot t k :=
  PL.memOf_size_slot t k (PL.nodeTy_size_fixed t hf)

theorem mslot_dynlike (n : String) (t : Ty) (k : MKind) (hk : k.isStatic = false) : mslot (.mk n t k) = 0 := by
  cases k <;> first | rfl | exact (Bool.false_ne_true hk.symm).elim

/-- what `encode<E>()` leaves in the zero-initialised vector -/
def fill (cs : List Cell) : Bytes := cs.map (·.getD 0)

@[simp] theorem fill_nil : fill [] = [] := rfl
@[simp] theorem fill_append (a b : List Cell) : fill (a ++ b) = fill a ++ fill b := by simp [fill]
@[simp] theorem fill_length (a : List Cell) : (fill a).length = a.length := by simp [fill]
@[simp] theorem fill_written (b : Bytes) : fill (written b) = b := by
  simp [fill, written, List.map_map, Function.comp_def]
@[simp] theorem fill_skip (n : Nat) : fill (skip n) = zeros n := by simp [fill, skip, zeros]
@[simp] theorem written_length (b : Bytes) : (written b).length = b.length := by simp [written]
@[simp] theorem skip_length (n : Nat) : (skip n).length = n := by simp [skip]

theorem fill_overlay (cs : List Cell) (n : Nat) : fill (overlay cs n) = fill cs ++ zeros (n - cs.length) := by
  simp [overlay]

theorem overlay_length (cs : List Cell) (n : Nat) : (overlay cs n).length = cs.length + (n - cs.length) := by
  simp [overlay]


/-- `do_encode` of a value that is an element, an optional's value or a plain member: fixed-size
    types advance by `codec_traits<T>::size` -/
def encVal (e : Endian) (t : Ty) (v : Val) (pos : Nat) : List Cell :=
  if codecSize t ≥ 0 then overlay (encTy e t v pos) (codecSize t).toNat else encTy e t v pos

/-- the counter statement of generate_struct_encode -/
def counterCells (e : Endian) (all : List Member) (allv : List Val) (n : String) : List Cell :=
  match boundOf n all allv with
  | some (.mk _ _ (.limited _ lim), bv) =>
    written (scalarBytes e (sizerPrimOf n all).size (castCount (sizerPrimOf n all) (min bv.len lim)))
  | some (_, bv) =>
    written (scalarBytes e (sizerPrimOf n all).size (castCount (sizerPrimOf n all) bv.len))
  | none => []

/-- one member's own statement (the `body` of `Cpp.encMs`) -/
def fieldCells (e : Endian) (all : List Member) (allv : List Val) (n : String) (t : Ty) (k : MKind) (v : Val)
    (msize pos : Nat) : List Cell :=
  match k, v with
  | .plain, v => if isSizer n all then counterCells e all allv n else encVal e t v pos
  | .optional, .absent =>
    written (scalarBytes e 4 0) ++ skip (if cppAlign t > 4 then cppAlign t - 4 else 0) ++ skip (codecSize t).toNat
  | .optional, .present x =>
    (written (scalarBytes e 4 1) ++ skip (if cppAlign t > 4 then cppAlign t - 4 else 0)) ++
      encVal e t x (pos + (written (scalarBytes e 4 1) ++ skip (if cppAlign t > 4 then cppAlign t - 4 else 0)).length)
  | .fixed c, .arr xs => encElems e t xs c pos
  | .fixed c, .bytes b => written (b.take c)
  | .dyn s _, .arr xs => encElems e t xs (castCount (sizerPrimOf s all) xs.length) pos
  | .dyn s _, .bytes b => written (b.take (castCount (sizerPrimOf s all) b.length))
  | .limited s lim, .arr xs =>
    overlay (encElems e t xs (castCount (sizerPrimOf s all) (min xs.length lim)) pos) msize
  | .limited s lim, .bytes b =>
    overlay (written (b.take (castCount (sizerPrimOf s all) (min b.length lim)))) msize
  | .greedy, .arr xs => encElems e t xs xs.length pos
  | .greedy, .bytes b => written b
  | _, _ => []

theorem encMs_cons (e : Endian) (all : List Member) (allv : List Val) (n : String) (t : Ty) (k : MKind)
    (r : List Member) (v : Val) (vs : List Val) (msize al : Nat) (padding : Int) (ls : List (Nat × Nat × Int))
    (pos : Nat) :
    encMs e all allv (.mk n t k :: r) (v :: vs) ((msize, al, padding) :: ls) pos =
      fieldCells e all allv n t k v msize pos
        ++ skip (padLen padding (pos + (fieldCells e all allv n t k v msize pos).length))
        ++ encMs e all allv r vs ls
            (pos + (fieldCells e all allv n t k v msize pos).length
              + padLen padding (pos + (fieldCells e all allv n t k v msize pos).length)) := by
  have hp : ∀ pos1, (if padding < 0 then skip (padTo pos1 padding.natAbs) else skip padding.toNat)
      = skip (padLen padding pos1) := by
    intro pos1; unfold padLen; split <;> rfl
  conv => lhs; unfold encMs
  simp only [hp, skip_length]
  rfl

theorem encElems_cons (e : Endian) (t : Ty) (x : Val) (xs : List Val) (n pos : Nat) :
    encElems e t (x :: xs) (n + 1) pos = encVal e t x pos ++ encElems e t xs n (pos + (encVal e t x pos).length) := by
  simp only [encElems, encVal]

/-- what the encoder proofs use of a type; all of it follows from `Accept.front`, `Accept.pyRt`,
    `optMisaligned t = false` and `noShift_cppenc t` -/
structure TyOk (t : Ty) : Prop where
  wf : wfTy t = true
  ok : okTy t = true
  al : optMisaligned t = false
  ns : noShift_cppenc t = true

structure MsOk (all ms : List Member) : Prop where
  wf : wfMs all ms = true
  ok : okMs ms = true
  al : optMisalignedMs ms = false
  ns : noShiftMs_cppenc ms = true

theorem tyOk_of_accept (t : Ty) (hf : Accept.front t = true) (hp : Accept.pyRt t = true)
    (hm : optMisaligned t = false) (hn : noShift_cppenc t = true) : TyOk t :=
  ⟨Accept.wf_of_accept t hf hp, ok_of_front t hf, hm, hn⟩

theorem TyOk.struct {nm : String} {ms : List Member} (h : TyOk (.struct nm ms)) :
    uniq (ms.map (·.name)) = true ∧ MsOk ms ms := by
  have h1 := h.wf
  simp only [wfTy, Bool.and_eq_true] at h1
  exact ⟨h1.1, ⟨h1.2, by simpa [okTy] using h.ok, by simpa [optMisaligned] using h.al, by simpa [noShift_cppenc] using h.ns⟩⟩

theorem MsOk.cons {all : List Member} {n : String} {t : Ty} {k : MKind} {r : List Member}
    (h : MsOk all (.mk n t k :: r)) :
    TyOk t ∧ (needsFixed k = true → Spec.fixedTy t = true) ∧ (∀ s, k.sizer? = some s → sizerOk all s = true) ∧
      (k = .optional → max 4 (cppAlign t) = max 4 (Spec.alignTy t)) ∧ MsOk all r := by
  obtain ⟨hwt, hfx, hsz, _, hwr⟩ := (wfMs_cons all n t k r).1 h.wf
  obtain ⟨hot, _, _, _, _, hor⟩ := (okMs_cons n t k r).1 h.ok
  have hal := h.al
  have hns := h.ns
  simp only [optMisalignedMs, Bool.or_eq_false_iff] at hal
  simp only [noShiftMs_cppenc, Bool.and_eq_true, beq_iff_eq] at hns
  refine ⟨⟨hwt, hot, hal.1.2, hns.1.2⟩, hfx, hsz, ?_, ⟨hwr, hor, hal.2, hns.2⟩⟩
  intro hk
  subst hk
  have := hal.1.1
  rw [PL.nodeTy_align'] at this
  simpa using this

theorem TyOk.arm {nm : String} {arms : List Arm} (h : TyOk (.union nm arms)) (idx : Nat) (a : Arm)
    (ha : arms[idx]? = some a) : TyOk a.ty ∧ Spec.fixedTy a.ty = true ∧ a.disc < 2 ^ 32 := by
  have h1 := h.wf
  simp only [wfTy, Bool.and_eq_true] at h1
  obtain ⟨hw, hfx⟩ := WF.wfArms_get arms h1.2 idx a ha
  have hm := List.mem_of_getElem? ha
  have hok : okTy a.ty = true :=
    forall_mem_of_cons (P := fun a => okTy a.ty = true)
      (fun ⟨n, d, t⟩ r h => let ⟨h1, _, h3⟩ := (okArms_cons n d t r).1 h; ⟨h1, h3⟩)
      (show okArms arms = true by simpa [okTy] using h.ok) a hm
  have hal : optMisaligned a.ty = false :=
    forall_mem_of_cons (f := fun as => !optMisalignedArms as) (P := fun a => optMisaligned a.ty = false) (fun ⟨_, _, _⟩ _ h => by
      simpa [optMisalignedArms, Arm.ty] using h) (by simpa [optMisaligned] using h.al) a hm
  have hns : noShift_cppenc a.ty = true :=
    forall_mem_of_cons (P := fun a => noShift_cppenc a.ty = true) (fun ⟨_, _, _⟩ _ h => Bool.and_eq_true_iff.1 h)
      (show noShiftArms_cppenc arms = true by simpa [noShift_cppenc] using h.ns) a hm
  exact ⟨⟨hw, hok, hal, hns⟩, hfx, of_decide_eq_true (List.all_eq_true.1 h1.1 a hm)⟩

theorem TyOk.union_fixed {nm : String} {arms : List Arm} (h : TyOk (.union nm arms)) :
    Spec.fixedTy (.union nm arms) = true := by
  have h1 := h.wf
  simp only [wfTy, Bool.and_eq_true] at h1
  simpa [Spec.fixedTy] using WF.fixedArms_of_wf arms h1.2

theorem castCount_fit (p : Prim) (len : Nat) (h : len < 256 ^ p.size) : castCount p len = len :=
  Nat.mod_eq_of_lt h

theorem lt_of_sizerOk (all : List Member) (s : String) (h : sizerOk all s = true) (len : Nat)
    (hl : (len : Int) ≤ sizerMax s all) : len < 256 ^ (sizerPrimOf s all).size := by
  unfold sizerOk at h
  unfold sizerMax at hl
  unfold sizerPrimOf
  cases hf : all.find? (fun m => m.name == s) with
  | none => simp [hf] at h
  | some m =>
    obtain ⟨mn, mt, mk⟩ := m
    rw [hf] at h hl
    cases mt with
    | prim p =>
      cases mk <;> simp at h
      have := (primRange_nonfloat p h).2
      simp only at hl ⊢
      omega
    | _ => simp at h

theorem castCount_of_sizerOk (all : List Member) (s : String) (h : sizerOk all s = true) (len : Nat)
    (hl : (len : Int) ≤ sizerMax s all) : castCount (sizerPrimOf s all) len = len :=
  castCount_fit _ len (lt_of_sizerOk all s h len hl)

/-- what `MsOk` says of one member -/
structure FieldOk (all : List Member) (t : Ty) (k : MKind) : Prop where
  ty : TyOk t
  fx : needsFixed k = true → Spec.fixedTy t = true
  opt : k = .optional → max 4 (cppAlign t) = max 4 (Spec.alignTy t)
  cast : ∀ s, k.sizer? = some s → ∀ len : Nat, (len : Int) ≤ sizerMax s all → castCount (sizerPrimOf s all) len = len

theorem MsOk.field {all : List Member} {n : String} {t : Ty} {k : MKind} {r : List Member}
    (h : MsOk all (.mk n t k :: r)) : FieldOk all t k := by
  obtain ⟨h1, h2, h3, h4, _⟩ := h.cons
  exact ⟨h1, h2, h4, fun s hs len hl => castCount_of_sizerOk all s (h3 s hs) len hl⟩

/-- the statement of a counter writes the documented counter; `SizerFactsC`: so for every member of the struct -/
def SizerEncC (e : Endian) (all : List Member) (allv : List Val) (n : String) (t : Ty) : Prop :=
  isSizer n all = true → ∃ p, t = .prim p ∧
    counterCells e all allv n = written (scalarBytes e p.size (Spec.counter n all allv + sizerShift n all))

structure SizerFactsC (e : Endian) (all : List Member) (allv : List Val) : Prop where
  enc : ∀ n t k, Member.mk n t k ∈ all → SizerEncC e all allv n t

theorem boundOf_spec (all : List Member) (s : String) : (ms : List Member) → (vs : List Val) →
    hasMs all ms vs = true → (∃ m ∈ ms, m.kind.sizer? = some s) →
    ∃ m bv, boundOf s ms vs = some (m, bv) ∧ m.kind.sizer? = some s ∧ (boundLens s ms vs).headD 0 = bv.len ∧
      hasField all m.kind m.ty bv = true
  | [], _, _, ⟨m, hm, _⟩ => by cases hm
  | _ :: _, [], hh, _ => by simp [hasMs] at hh
  | .mk n t k :: r, v :: vs, hh, ⟨m, hm, hs⟩ => by
    obtain ⟨_, hf, hhr⟩ := (hasMs_cons all n t k r v vs).1 hh
    simp only [boundOf, boundLens]
    by_cases hk : (Member.mk n t k).kind.sizer? = some s
    · rw [if_pos hk, if_pos hk]
      exact ⟨_, _, rfl, hk, rfl, hf⟩
    · rw [if_neg hk, if_neg hk]
      rcases List.mem_cons.1 hm with rfl | hr
      · exact absurd hs hk
      · exact boundOf_spec all s r vs hhr ⟨m, hr, hs⟩

theorem sizerFactsC (e : Endian) (all : List Member) (allv : List Val)
    (hu : uniq (all.map (·.name)) = true) (hw : wfMs all all = true)
    (hh : hasMs all all allv = true) (hns : noShiftMs_cppenc all = true) : SizerFactsC e all allv := by
  refine ⟨fun n t k hm hs => ?_⟩
  -- the counter fits its type (`counter_inRange`), so the cast to it changes nothing
  obtain ⟨p, rfl, _, hin⟩ := counter_inRange all allv hu hw hh n t k hm hs
  have hlt := inRange_nat_lt p _ hin
  rw [sizerShift_zero_of_noShift n all (by rw [← noShiftMs_cppenc_eq_accept]; exact hns), Nat.add_zero] at hlt ⊢
  have hfind : all.find? (fun x => x.name == n) = some (.mk n (.prim p) k) := WF.uniq_find all hu _ hm
  have hsp : sizerPrimOf n all = p := by unfold sizerPrimOf; rw [hfind]
  obtain ⟨m', hm', hs'⟩ := (isSizer_iff n all).1 hs
  obtain ⟨m, bv, hb, _, hcnt, hfld⟩ := boundOf_spec all n all allv hh ⟨m', hm', hs'⟩
  have hc : Spec.counter n all allv = bv.len := hcnt
  rw [hc] at hlt ⊢
  refine ⟨p, rfl, ?_⟩
  unfold counterCells
  rw [hb, hsp]
  obtain ⟨mn, mt, mk⟩ := m
  cases mk with
  | limited s' lim =>
    simp only [Nat.min_eq_left (hasField_limited_len all s' lim mt bv hfld), castCount, Nat.mod_eq_of_lt hlt]
  | _ => simp only [castCount, Nat.mod_eq_of_lt hlt]

theorem codecSize_fixed (t : Ty) (hf : Spec.fixedTy t = true) : codecSize t = (Spec.sizeTy t : Int) := by
  rw [codecSize_of_kind0 t (PL.kind_of_fixed t hf), PL.nodeTy_size_fixed t hf]

theorem encVal_ok (e : Endian) (t : Ty) (v : Val) (pos : Nat) (hok : okTy t = true)
    (h : fill (encTy e t v pos) = Spec.render e (Spec.chunksTy t v))
    (hlen : Spec.fixedTy t = true → Spec.clen (Spec.chunksTy t v) = Spec.sizeTy t) :
    fill (encVal e t v pos) = Spec.render e (Spec.chunksTy t v) := by
  unfold encVal
  split
  · rename_i hc
    have h2 := kind0_of_codecSize t hc
    have hf := PL.fixed_of_kind_ok t hok h2
    have hl : (encTy e t v pos).length = (PL.nodeTy t).size := by
      rw [← fill_length, h, Spec.render_length, hlen hf, PL.nodeTy_size_fixed t hf]
    rw [fill_overlay, codecSize_of_kind0 t h2, Int.toNat_natCast, hl, h]
    simp [zeros]
  · exact h

theorem fieldCells_plain (e : Endian) (all : List Member) (allv : List Val) (n : String) (t : Ty) (v : Val)
    (msize pos : Nat) (h : isSizer n all = false) :
    fieldCells e all allv n t .plain v msize pos = encVal e t v pos := by
  simp [fieldCells, h]

def restChunks (S : Nat) (all : List Member) (allv : List Val) (ms : List Member) (vs : List Val) (off : Nat)
    (ad : Bool) : List Spec.Chunk :=
  Spec.chunksMs all allv ms vs off ad ++ [.pad (padTo (off + Spec.clen (Spec.chunksMs all allv ms vs off ad)) S)]

theorem restChunks_cons (S : Nat) (all : List Member) (allv : List Val) (n : String) (t : Ty) (k : MKind)
    (r : List Member) (v : Val) (vs : List Val) (off : Nat) (ad : Bool) :
    restChunks S all allv (.mk n t k :: r) (v :: vs) off ad =
      .pad (padTo off (aN S ad (.mk n t k :: r))) ::
        (Spec.fieldChunks all allv n t k v ++
          restChunks S all allv r vs
            (alignUp off (aN S ad (.mk n t k :: r)) + Spec.clen (Spec.fieldChunks all allv n t k v))
            (Spec.endsBlock (.mk n t k))) := by
  unfold restChunks
  rw [Spec.chunksMs_cons]
  simp only [aN, alignUp, List.cons_append, List.append_assoc, Spec.clen_cons, Spec.clen_append, Spec.Chunk.len,
    Nat.add_assoc]

theorem restChunks_nil (S : Nat) (all : List Member) (allv : List Val) (vs : List Val) (off : Nat) (ad : Bool) :
    restChunks S all allv [] vs off ad = [.pad (padTo off S)] := by
  unfold restChunks
  cases vs <;> simp [Spec.chunksMs, Spec.clen]

theorem encTy_struct (e : Endian) (nm : String) (ms : List Member) (vs : List Val) (pos : Nat) (hM : MsOk ms ms) :
    encTy e (.struct nm ms) (.struct vs) pos
      = encMs e ms vs ms vs (lay (Spec.alignMs ms) (Spec.dynMs ms) ms false 0) pos := by
  have h : encTy e (.struct nm ms) (.struct vs) pos = encMs e ms vs ms vs (PL.structMembers ms) pos := rfl
  rw [h, structMembers_eq_lay ms hM.ok]

theorem byteSizeTy_struct (nm : String) (ms : List Member) (vs : List Val) :
    byteSizeTy (.struct nm ms) (.struct vs) = byteSizeMs ms ms vs (PL.memsOf ms) (PL.structMembers ms) 0 0 := rfl

/-- `do_encode` of a union in the document's terms: the discriminator, padding up to the union's alignment `A`,
    the arm, and the rest of the union's static size skipped -/
theorem encTy_union (e : Endian) (nm : String) (arms : List Arm) (idx : Nat) (x : Val) (pos : Nat) (an : String)
    (d : Nat) (t' : Ty) (ha : arms[idx]? = some (.mk an d t')) (hf : Spec.fixedTy (.union nm arms) = true) :
    encTy e (.union nm arms) (.union idx x) pos
      = written (scalarBytes e 4 d) ++ skip (max 4 (Spec.alignArms arms) - 4)
        ++ overlay (encTy e t' x (pos + 4 + (max 4 (Spec.alignArms arms) - 4)))
            (Spec.sizeTy (.union nm arms) - 4 - (max 4 (Spec.alignArms arms) - 4)) := by
  have hnal : (PL.nodeTy (.union nm arms)).align = max 4 (Spec.alignArms arms) := PL.nodeTy_align' (.union nm arms)
  have hnsz := PL.nodeTy_size_fixed (.union nm arms) hf
  have hdp : (if (PL.nodeTy (.union nm arms)).align > PL.discSize then (PL.nodeTy (.union nm arms)).align - PL.discSize
      else 0) = max 4 (Spec.alignArms arms) - 4 := by
    rw [hnal]
    exact (gap_eq _).trans (by omega)
  have h : encTy e (.union nm arms) (.union idx x) pos
      = (match arms[idx]? with
        | some (.mk _ d t) =>
          written (scalarBytes e 4 d) ++
            skip (if (PL.nodeTy (.union nm arms)).align > PL.discSize
              then (PL.nodeTy (.union nm arms)).align - PL.discSize else 0)
            ++ overlay (encTy e t x (pos + 4 + (if (PL.nodeTy (.union nm arms)).align > PL.discSize
              then (PL.nodeTy (.union nm arms)).align - PL.discSize else 0)))
              ((PL.nodeTy (.union nm arms)).size - PL.discSize - (if (PL.nodeTy (.union nm arms)).align > PL.discSize
              then (PL.nodeTy (.union nm arms)).align - PL.discSize else 0))
        | none => []) := rfl
  rw [h, ha]
  simp only [hdp, hnsz]
  rfl

theorem field_of_ty (e : Endian) (all : List Member) (allv : List Val) (n : String) (t : Ty) (v : Val)
    (msize pos : Nat) (hok : okTy t = true) (hns : isSizer n all = false) (hnc : v.isCounter = false)
    (hlen : Spec.fixedTy t = true → Spec.clen (Spec.chunksTy t v) = Spec.sizeTy t)
    (H : fill (encTy e t v pos) = Spec.render e (Spec.chunksTy t v)) :
    fill (fieldCells e all allv n t .plain v msize pos) = Spec.render e (Spec.fieldChunks all allv n t .plain v) := by
  rw [fieldCells_plain e all allv n t v msize pos hns, Spec.fieldChunks_plain all allv n t v hnc]
  exact encVal_ok e t v pos hok H hlen

theorem optPad (t : Ty) (h : max 4 (cppAlign t) = max 4 (Spec.alignTy t)) :
    (if cppAlign t > 4 then cppAlign t - 4 else 0) = max 4 (Spec.alignTy t) - 4 := by
  rw [gap_eq, h]

/-! Coherence of the counters (`agreeTy`) plays no part below: the encoder takes a counter from the first array bound
    to it, as `Spec.counter` does. -/

/-- of a member value: its statement writes the member's chunks, and, for a plain member that is no counter,
    `do_encode` of the value at an aligned position writes the value's chunks -/
def FieldEnc (e : Endian) (all : List Member) (k : MKind) (t : Ty) (v : Val) : Prop :=
  (∀ (allv : List Val) (n : String) (msize pos : Nat), FieldOk all t k → v.isCounter = isSizer n all →
      SizerEncC e all allv n t → (∀ s lim, k = .limited s lim → msize = lim * Spec.sizeTy t) →
      Spec.alignMember (.mk n t k) ∣ pos →
      fill (fieldCells e all allv n t k v msize pos) = Spec.render e (Spec.fieldChunks all allv n t k v)) ∧
  (k = .plain → v.isCounter = false → TyOk t → ∀ pos, Spec.alignTy t ∣ pos →
      fill (encTy e t v pos) = Spec.render e (Spec.chunksTy t v))

/-- The document pads BEFORE a member, a C++ statement AFTER it: the padding in front of `ms` was written by the statement
    before and stands on the left as `zeros (padTo off0 ..)`; `restChunks` ends with the struct's end padding likewise.
    `base`: the address of the struct, a multiple of its alignment `S`. -/
def MsEnc (e : Endian) (all ms : List Member) (vs : List Val) : Prop :=
  ∀ (allv : List Val) (S : Nat) (ad : Bool) (off0 bs A base : Nat), IsAl S → S ∣ base → SizerFactsC e all allv →
    (∀ m ∈ ms, m ∈ all) → MsOk all ms → LayInv S (Spec.dynMs all) ms ad off0 bs A →
    zeros (padTo off0 (aN S ad ms)) ++
        fill (encMs e all allv ms vs (lay S (Spec.dynMs all) ms ad bs) (base + alignUp off0 (aN S ad ms)))
      = Spec.render e (restChunks S all allv ms vs off0 ad)

def ElemsEnc (e : Endian) (t : Ty) (xs : List Val) : Prop :=
  TyOk t → ∀ pos, Spec.alignTy t ∣ pos →
    fill (encElems e t xs xs.length pos) = Spec.render e (Spec.chunksElems t xs)

theorem FieldEnc.of_ty {e : Endian} {all : List Member} {t : Ty} {v : Val} (hnc : v.isCounter = false)
    (hlen : Spec.fixedTy t = true → Spec.clen (Spec.chunksTy t v) = Spec.sizeTy t)
    (H : TyOk t → ∀ pos, Spec.alignTy t ∣ pos → fill (encTy e t v pos) = Spec.render e (Spec.chunksTy t v)) :
    FieldEnc e all .plain t v :=
  ⟨fun allv n msize pos hF hc _ _ hpos =>
      field_of_ty e all allv n t v msize pos hF.ty.ok (by rw [← hc, hnc]) hnc hlen (H hF.ty pos hpos),
    fun _ _ hT pos hpos => H hT pos hpos⟩

theorem FieldEnc.sizer (e : Endian) (all : List Member) (t : Ty) : FieldEnc e all .plain t .sizer := by
  refine ⟨fun allv n msize pos _ hc hs _ _ => ?_, fun _ h => by cases h⟩
  have hsz : isSizer n all = true := hc.symm
  obtain ⟨p, rfl, hcc⟩ := hs hsz
  simp [fieldCells, hsz, hcc, Spec.fieldChunks, render_scalar, Spec.sizeTy]

theorem FieldEnc.struct (e : Endian) (all : List Member) (nm : String) (ms : List Member) (vs : List Val)
    (hm : hasMs ms ms vs = true) (ih : MsEnc e ms ms vs) : FieldEnc e all .plain (.struct nm ms) (.struct vs) := by
  refine FieldEnc.of_ty rfl (Spec.clen_fixed _ _ · rfl ((hasField_struct_iff [] .plain nm ms vs).2 ⟨rfl, hm⟩)) ?_
  intro hT pos hpos
  obtain ⟨hu, hM⟩ := hT.struct
  have H := ih vs (Spec.alignMs ms) false 0 0 (Spec.alignMs ms) pos (Spec.alignMs_isAl ms) hpos
    (sizerFactsC e ms vs hu hM.wf hm hM.ns) (fun m hm => hm) hM (LayInv.init ms)
  simp only [padTo_zero, alignUp, zeros_zero, List.nil_append, Nat.add_zero] at H
  rw [encTy_struct e nm ms vs pos hM, H]
  simp [restChunks, Spec.chunksTy]

theorem FieldEnc.union (e : Endian) (all : List Member) (nm : String) (arms : List Arm) (idx : Nat) (an : String)
    (d : Nat) (t' : Ty) (x : Val) (ha : arms[idx]? = some (.mk an d t')) (hc : x.isCounter = false)
    (hx : hasField [] .plain t' x = true) (ih : FieldEnc e [] .plain t' x) :
    FieldEnc e all .plain (.union nm arms) (.union idx x) := by
  refine FieldEnc.of_ty rfl
    (Spec.clen_fixed _ _ · rfl ((hasField_union_iff [] .plain nm arms idx x an d t' ha).2 ⟨rfl, hc, hx⟩)) ?_
  intro hT pos hpos
  obtain ⟨hT', hfx', hd⟩ := hT.arm idx _ ha
  simp only [Arm.ty, Arm.disc] at hT' hfx' hd
  have hposA : max 4 (Spec.alignArms arms) ∣ pos := hpos
  have hge := Spec.flag_add_maxArm_le_sizeTy_union nm arms
  have hpos' : Spec.alignTy t' ∣ pos + 4 + (max 4 (Spec.alignArms arms) - 4) := by
    have h1 : Spec.alignTy t' ∣ max 4 (Spec.alignArms arms) := Spec.alignArm_dvd arms idx _ ha
    have h2 : pos + 4 + (max 4 (Spec.alignArms arms) - 4) = pos + max 4 (Spec.alignArms arms) := by omega
    rw [h2]
    exact Nat.dvd_add (Nat.dvd_trans h1 hposA) h1
  have hx' := ih.2 rfl hc hT' (pos + 4 + (max 4 (Spec.alignArms arms) - 4)) hpos'
  have hlen := Spec.clen_fixed t' x hfx' hc hx
  have hle := Spec.le_maxArm arms idx _ ha
  simp only [Arm.ty] at hle
  have hnm : Spec.sizeTy (.union "" arms) = Spec.sizeTy (.union nm arms) := Spec.sizeTy_union_name _ _ _
  have hcl : (encTy e t' x (pos + 4 + (max 4 (Spec.alignArms arms) - 4))).length = Spec.sizeTy t' := by
    rw [← fill_length, hx', Spec.render_length, hlen]
  rw [encTy_union e nm arms idx x pos an d t' ha hT.union_fixed]
  simp only [Spec.chunksTy, ha, hnm]
  simp only [fill_append, fill_written, fill_skip, fill_overlay, hx', hcl, Spec.render_append, render_cons,
    Spec.Chunk.render, Spec.render, hlen, Spec.flagSize, List.append_assoc, List.append_nil,
    List.cons_append, List.nil_append]
  have hz : Spec.sizeTy (.union nm arms) - 4 - (max 4 (Spec.alignArms arms) - 4) - Spec.sizeTy t'
      = Spec.sizeTy (.union nm arms) - max 4 (Spec.alignArms arms) - Spec.sizeTy t' := by omega
  rw [hz]

theorem FieldEnc.absent (e : Endian) (all : List Member) (t : Ty) : FieldEnc e all .optional t .absent := by
  refine ⟨fun allv n msize pos hF _ _ _ _ => ?_, fun h => by cases h⟩
  have hcs := codecSize_fixed t (hF.fx rfl)
  have hop := optPad t (hF.opt rfl)
  simp only [fieldCells, Spec.fieldChunks, hcs, hop, fill_append, fill_written, fill_skip, scalarBytes_zero,
    Int.toNat_natCast, Spec.render, Spec.Chunk.render, Spec.flagSize, List.append_nil]
  rw [← zeros_add, ← zeros_add]
  congr 1; omega

theorem FieldEnc.present (e : Endian) (all : List Member) (t : Ty) (x : Val) (hc : x.isCounter = false)
    (hx : hasField [] .plain t x = true) (ih : FieldEnc e [] .plain t x) :
    FieldEnc e all .optional t (.present x) := by
  refine ⟨fun allv n msize pos hF _ _ _ hpos => ?_, fun h => by cases h⟩
  have hop := optPad t (hF.opt rfl)
  have hposM : max 4 (Spec.alignTy t) ∣ pos := hpos
  have hpl : (written (scalarBytes e 4 1) ++ skip (max 4 (Spec.alignTy t) - 4)).length = max 4 (Spec.alignTy t) := by
    simp; omega
  have hpos' := Spec.alignTy_dvd_add_gap t hposM
  have h1 := encVal_ok e t x _ hF.ty.ok (ih.2 rfl hc hF.ty (pos + max 4 (Spec.alignTy t)) hpos')
    (Spec.clen_fixed t x · hc hx)
  simp only [fieldCells, Spec.fieldChunks, hop, hpl, fill_append, fill_written, fill_skip, h1,
    render_cons, Spec.Chunk.render, Spec.render, Spec.flagSize, List.append_assoc,
    List.cons_append, List.nil_append]

theorem FieldEnc.bytes (e : Endian) (all : List Member) (k : MKind) (b : Bytes)
    (hl : lenFits all k b.length = true) : FieldEnc e all k .byte (.bytes b) := by
  refine ⟨fun allv n msize pos hF _ _ hms _ => ?_, fun h => absurd h (lenFits_kind all k _ hl).1⟩
  cases k with
  | plain => exact (Bool.false_ne_true hl).elim
  | optional => exact (Bool.false_ne_true hl).elim
  | fixed c =>
    have hlc : b.length = c := (lenFits_fixed all c _).1 hl
    simp [fieldCells, Spec.fieldChunks, ← hlc, Spec.render, Spec.Chunk.render]
  | dyn s sh =>
    have hcast := hF.cast s rfl b.length (by have := (lenFits_dyn all s sh _).1 hl; omega)
    simp [fieldCells, Spec.fieldChunks, hcast, Spec.render, Spec.Chunk.render]
  | limited s c =>
    obtain ⟨hlc, hmax⟩ := (lenFits_limited all s c _).1 hl
    have hcast := hF.cast s rfl b.length hmax
    have hm := hms s c rfl
    simp [fieldCells, Spec.fieldChunks, Nat.min_eq_left hlc, hcast, fill_overlay, hm, Spec.sizeTy, Spec.render,
      Spec.Chunk.render]
  | greedy => simp [fieldCells, Spec.fieldChunks, Spec.render, Spec.Chunk.render]

theorem FieldEnc.arr (e : Endian) (all : List Member) (k : MKind) (t : Ty) (xs : List Val)
    (hl : lenFits all k xs.length = true) (ih : ElemsEnc e t xs) : FieldEnc e all k t (.arr xs) := by
  refine ⟨fun allv n msize pos hF _ _ hms hpos => ?_, fun h => absurd h (lenFits_kind all k _ hl).1⟩
  have hposT : Spec.alignTy t ∣ pos := by
    by_cases hk : k = .optional
    · subst hk; exact (Bool.false_ne_true hl).elim
    · rw [Spec.alignMember_of_ne_optional n t k hk] at hpos; exact hpos
  have h1 := ih hF.ty pos hposT
  cases k with
  | plain => exact (Bool.false_ne_true hl).elim
  | optional => exact (Bool.false_ne_true hl).elim
  | fixed c =>
    have hlc : xs.length = c := (lenFits_fixed all c _).1 hl
    simp [fieldCells, Spec.fieldChunks, ← hlc, h1]
  | dyn s sh =>
    have hcast := hF.cast s rfl xs.length (by have := (lenFits_dyn all s sh _).1 hl; omega)
    simp [fieldCells, Spec.fieldChunks, hcast, h1]
  | greedy => simp [fieldCells, Spec.fieldChunks, h1]
  | limited s c =>
    obtain ⟨hlc, hmax⟩ := (lenFits_limited all s c _).1 hl
    have hcast := hF.cast s rfl xs.length hmax
    have hm := hms s c rfl
    have hcl : (encElems e t xs xs.length pos).length = Spec.clen (Spec.chunksElems t xs) := by
      rw [← fill_length, h1, Spec.render_length]
    simp [fieldCells, Spec.fieldChunks, Nat.min_eq_left hlc, hcast, fill_overlay, hm, h1, hcl, Spec.render,
      Spec.Chunk.render]

theorem MsEnc.nil (e : Endian) (all : List Member) : MsEnc e all [] [] := by
  intro allv S ad off0 bs A base _ _ _ _ _ _
  simp [restChunks_nil, encMs, aN, Spec.render, Spec.Chunk.render]

theorem MsEnc.cons (e : Endian) (all : List Member) (n : String) (t : Ty) (k : MKind) (r : List Member) (v : Val)
    (vs : List Val) (hcnt : v.isCounter = isSizer n all) (hf : hasField all k t v = true)
    (ihf : FieldEnc e all k t v) (ihm : MsEnc e all r vs) :
    MsEnc e all (.mk n t k :: r) (v :: vs) := by
  intro allv S ad off0 bs A base hS hb sf hsub hM inv
  obtain ⟨hT, hfx, _, _, hMr⟩ := hM.cons
  have hsz := sf.enc n t k (hsub _ (List.mem_cons_self ..))
  have hpos := inv.dvd_pos hS hb
  generalize ha : aN S ad (.mk n t k :: r) = a at *
  have hmsz : ∀ s lim, k = .limited s lim → mslot (.mk n t k) = lim * Spec.sizeTy t := by
    intro s lim hk
    subst hk
    rw [mslot_fixed n t _ (hfx rfl)]
    rfl
  have hbody := ihf.1 allv n (mslot (.mk n t k)) (base + alignUp off0 a) hM.field hcnt hsz hmsz hpos
  generalize hfc : Spec.fieldChunks all allv n t k v = fc at hbody
  generalize hcells : fieldCells e all allv n t k v (mslot (.mk n t k)) (base + alignUp off0 a) = cells at hbody
  have hclen : cells.length = Spec.clen fc := by rw [← fill_length, hbody, Spec.render_length]
  have hL : PL.LenOk (.mk n t k) (Spec.clen fc) (mslot (.mk n t k)) := by
    rw [← hfc]; exact PL.lenOk_fieldChunks all allv n t k v (.of_okMs hM.ok) hf
  obtain ⟨hpad, A', inv'⟩ := inv.step hS hL
  rw [ha] at hpad inv'
  rw [lay_cons, encMs_cons, hcells, hclen, restChunks_cons, ha, hfc, hpad base hb]
  simp only [fill_append, fill_skip, hbody, render_cons, Spec.render_append, Spec.Chunk.render]
  have hposeq : base + alignUp off0 a + Spec.clen fc
        + padTo (alignUp off0 a + Spec.clen fc) (aN S (Spec.endsBlock (.mk n t k)) r)
      = base + alignUp (alignUp off0 a + Spec.clen fc) (aN S (Spec.endsBlock (.mk n t k)) r) := by
    simp only [alignUp]; omega
  rw [hposeq, ← ihm allv S _ _ _ A' base hS hb sf (fun m hm => hsub m (List.mem_cons_of_mem _ hm)) hMr inv']
  simp [List.append_assoc]

theorem ElemsEnc.cons (e : Endian) (t : Ty) (x : Val) (xs : List Val) (hc : x.isCounter = false)
    (hx : hasField [] .plain t x = true) (ihx : FieldEnc e [] .plain t x) (ihs : ElemsEnc e t xs) :
    ElemsEnc e t (x :: xs) := by
  intro hT pos hpos
  have h1 := encVal_ok e t x pos hT.ok (ihx.2 rfl hc hT pos hpos) (Spec.clen_fixed t x · hc hx)
  have hlen : (encVal e t x pos).length = Spec.clen (Spec.chunksTy t x) := by
    rw [← fill_length, h1, Spec.render_length]
  have hd := PL.align_dvd_chunksTy_ok t hT.ok x hc hx
  have h2 := ihs hT (pos + (encVal e t x pos).length) (by rw [hlen]; exact Nat.dvd_add hpos hd)
  simp only [List.length_cons, encElems_cons, fill_append, h1, h2, Spec.chunksElems, Spec.render_append]

theorem enc_cases (e : Endian) : WtCases (FieldEnc e) (MsEnc e) (ElemsEnc e) where
  sizer := FieldEnc.sizer e
  prim := fun all p i _ => FieldEnc.of_ty rfl (fun _ => rfl) (fun _ pos _ => by
    simp [encTy, Spec.chunksTy, render_scalar])
  byte := fun all i _ => FieldEnc.of_ty rfl (fun _ => rfl) (fun _ pos _ => by
    simp [encTy, Spec.chunksTy, render_scalar])
  enum := fun all nm es i _ => FieldEnc.of_ty rfl (fun _ => rfl) (fun _ pos _ => by
    simp [encTy, Spec.chunksTy, render_scalar])
  struct := FieldEnc.struct e
  union := FieldEnc.union e
  absent := FieldEnc.absent e
  present := fun all t x hc hx ih => FieldEnc.present e all t x hc hx ih
  bytes := FieldEnc.bytes e
  arr := fun all k t xs _ hl _ ih => FieldEnc.arr e all k t xs hl ih
  nil := MsEnc.nil e
  cons := fun all n t k r v vs hcnt hf _ ihf ihm => MsEnc.cons e all n t k r v vs hcnt hf ihf ihm
  enil := fun t _ pos _ => by simp [encElems, Spec.chunksElems, Spec.render]
  econs := fun t x xs hc hx _ ihx ihs => ElemsEnc.cons e t x xs hc hx ihx ihs

theorem encTy_ok (e : Endian) (t : Ty) (v : Val) (pos : Nat) (hT : TyOk t) (hh : hasField [] .plain t v = true)
    (hnc : v.isCounter = false) (hpos : Spec.alignTy t ∣ pos) :
    fill (encTy e t v pos) = Spec.render e (Spec.chunksTy t v) :=
  ((wt_induct (enc_cases e)).1 v [] .plain t hh).2 rfl hnc hT pos hpos

theorem cms_ok (e : Endian) : (vs : List Val) → ∀ (ms all : List Member) (allv : List Val) (S : Nat) (ad : Bool)
      (off0 bs A base : Nat), IsAl S → S ∣ base → SizerFactsC e all allv → (∀ m ∈ ms, m ∈ all) → MsOk all ms →
      hasMs all ms vs = true → agreeFields ms vs = true → LayInv S (Spec.dynMs all) ms ad off0 bs A →
      zeros (padTo off0 (aN S ad ms)) ++
          fill (encMs e all allv ms vs (lay S (Spec.dynMs all) ms ad bs) (base + alignUp off0 (aN S ad ms)))
        = Spec.render e (restChunks S all allv ms vs off0 ad) :=
  fun vs ms all allv S ad off0 bs A base hS hb sf hsub hM hh _ inv =>
    (wt_induct (enc_cases e)).2.1 vs all ms hh allv S ad off0 bs A base hS hb sf hsub hM inv

theorem celems_ok (e : Endian) : (xs : List Val) → ∀ (t : Ty) (pos : Nat), TyOk t → hasElems t xs = true →
      agreeElems t xs = true → Spec.alignTy t ∣ pos →
      fill (encElems e t xs xs.length pos) = Spec.render e (Spec.chunksElems t xs) :=
  fun xs t pos hT hh _ hpos => (wt_induct (enc_cases e)).2.2 xs t hh hT pos hpos

/-- the pointer encoder: every cell it writes is the canonical byte, every cell it skips is a
    canonical padding zero -/
theorem encodePtr_canonical (t : Ty) (v : Val) (e : Endian) (hT : TyOk t) (hv : hasType t v = true) :
    fill (encodePtr t v e) = Spec.enc t v e := by
  obtain ⟨hnc, hh⟩ := (hasType_iff t v).1 hv
  exact encTy_ok e t v 0 hT hh hnc (Nat.dvd_zero _)

end Cpp
end Prophy
