/- `padTo` / `alignUp`: bounds, divisibility, the universal property of `alignUp`, congruences -/
import ProphyModel.Basic
namespace Prophy

theorem padTo_lt (off a : Nat) (ha : 0 < a) : padTo off a < a := by
  unfold padTo; exact Nat.mod_lt _ ha

theorem padTo_le (off a : Nat) : padTo off a ≤ a := by
  unfold padTo
  rcases Nat.eq_zero_or_pos a with h | h
  · subst h; simp
  · exact Nat.le_of_lt (Nat.mod_lt _ h)

theorem padTo_eq_zero_of_dvd (off a : Nat) (h : a ∣ off) : padTo off a = 0 := by
  unfold padTo
  obtain ⟨k, rfl⟩ := h
  simp

theorem alignUp_of_dvd (off a : Nat) (h : a ∣ off) : alignUp off a = off := by
  unfold alignUp; rw [padTo_eq_zero_of_dvd off a h]; rfl

theorem dvd_alignUp (off a : Nat) (ha : 0 < a) : a ∣ alignUp off a := by
  unfold alignUp padTo
  have hlt := Nat.mod_lt off ha
  by_cases hz : off % a = 0
  · have : (a - off % a) % a = 0 := by rw [hz]; simp
    rw [this]; exact Nat.dvd_of_mod_eq_zero (by simpa using hz)
  · have h2 : (a - off % a) % a = a - off % a := Nat.mod_eq_of_lt (by omega)
    rw [h2]
    have hd := Nat.div_add_mod off a
    refine ⟨off / a + 1, ?_⟩
    rw [Nat.mul_add]; omega

theorem le_alignUp (off a : Nat) : off ≤ alignUp off a := by unfold alignUp; omega

theorem alignUp_lt (off a : Nat) (ha : 0 < a) : alignUp off a < off + a := by
  unfold alignUp; have := padTo_lt off a ha; omega

/-- position independence: a block that starts at a multiple of `a` is padded the same as one starting at 0 -/
theorem padTo_add_mul (s off a : Nat) (h : a ∣ s) : padTo (s + off) a = padTo off a := by
  unfold padTo
  obtain ⟨k, rfl⟩ := h
  rw [Nat.mul_add_mod]

theorem alignUp_idem (off a : Nat) (ha : 0 < a) : alignUp (alignUp off a) a = alignUp off a :=
  alignUp_of_dvd _ _ (dvd_alignUp off a ha)

theorem padTo_zero (a : Nat) : padTo 0 a = 0 := by unfold padTo; simp

theorem alignUp_zero (a : Nat) : alignUp 0 a = 0 := by simp [alignUp, padTo_zero]

theorem alignUp_add_left (s x a : Nat) (h : a ∣ s) : alignUp (s + x) a = s + alignUp x a := by
  unfold alignUp; rw [padTo_add_mul s x a h]; omega

theorem alignUp_unique {x y a : Nat} (hd : a ∣ y) (h1 : x ≤ y) (h2 : y < x + a) : alignUp x a = y := by
  have ha : 0 < a := by omega
  obtain ⟨c, rfl⟩ := hd
  obtain ⟨c', hc'⟩ := dvd_alignUp x a ha
  have h3 := le_alignUp x a
  have h4 := alignUp_lt x a ha
  rw [hc'] at h3 h4 ⊢
  have : c' < c + 1 := Nat.lt_of_mul_lt_mul_left (a := a) (by rw [Nat.mul_succ]; omega)
  have : c < c' + 1 := Nat.lt_of_mul_lt_mul_left (a := a) (by rw [Nat.mul_succ]; omega)
  have : c' = c := by omega
  rw [this]

theorem alignUp_le_of_dvd {x y a : Nat} (ha : 0 < a) (hd : a ∣ y) (h : x ≤ y) : alignUp x a ≤ y := by
  obtain ⟨c, rfl⟩ := hd
  obtain ⟨c', hc'⟩ := dvd_alignUp x a ha
  have h4 := alignUp_lt x a ha
  rw [hc'] at h4 ⊢
  have : c' < c + 1 := Nat.lt_of_mul_lt_mul_left (a := a) (by rw [Nat.mul_succ]; omega)
  exact Nat.mul_le_mul_left a (by omega)

theorem alignUp_mono {x y a : Nat} (ha : 0 < a) (h : x ≤ y) : alignUp x a ≤ alignUp y a :=
  alignUp_le_of_dvd ha (dvd_alignUp y a ha) (Nat.le_trans h (le_alignUp y a))

theorem alignUp_alignUp {x a b : Nat} (hb : 0 < b) (h : a ∣ b) : alignUp (alignUp x a) b = alignUp x b := by
  have ha : 0 < a := Nat.pos_of_dvd_of_pos h hb
  apply alignUp_unique (dvd_alignUp x b hb)
  · exact alignUp_le_of_dvd ha (Nat.dvd_trans h (dvd_alignUp x b hb)) (le_alignUp x b)
  · have := alignUp_lt x b hb; have := le_alignUp x a; omega

/-- prophyc's `int((s + a - 1) / a) * a` (model.py evaluate_union_size) -/
theorem div_mul_eq_alignUp (s a : Nat) (ha : 0 < a) : (s + a - 1) / a * a = alignUp s a := by
  refine (alignUp_unique (Nat.dvd_mul_left _ _) ?_ ?_).symm
  · have := Nat.div_add_mod (s + a - 1) a; have := Nat.mod_lt (s + a - 1) ha
    rw [Nat.mul_comm]; omega
  · have := Nat.div_mul_le_self (s + a - 1) a; omega

theorem mod_of_dvd_mod (off bs a A : Nat) (ha : a ∣ A) (h : off % A = bs % A) : off % a = bs % a := by
  rw [← Nat.mod_mod_of_dvd off ha, h, Nat.mod_mod_of_dvd bs ha]

theorem add_mod_congr (x y l A : Nat) (h : x % A = y % A) : (x + l) % A = (y + l) % A := by
  rw [Nat.add_mod, h, ← Nat.add_mod]

theorem padTo_congr (a x y : Nat) (h : x % a = y % a) : padTo x a = padTo y a := by
  unfold padTo; rw [h]

theorem alignUp_congr (x y a B : Nat) (ha : a ∣ B) (h : x % B = y % B) : alignUp x a % B = alignUp y a % B := by
  unfold alignUp
  rw [padTo_congr a x y (mod_of_dvd_mod x y a B ha h), Nat.add_mod, h, ← Nat.add_mod]

theorem padTo_alignUp_of_dvd (off a b : Nat) (hb : 0 < b) (h : a ∣ b) : padTo (alignUp off b) a = 0 :=
  padTo_eq_zero_of_dvd _ _ (Nat.dvd_trans h (dvd_alignUp off b hb))

theorem padTo_one (off : Nat) : padTo off 1 = 0 := by unfold padTo; exact Nat.mod_one _
theorem alignUp_one (off : Nat) : alignUp off 1 = off := by simp [alignUp, padTo_one]

end Prophy
