/-
  Property C12: what prophyc accepts, the Python runtime imports.

  `Accept.front t` (prophyc's front-end rules, with prophyc's own stiffness `PL.nodeTy .kind`) implies
  `Accept.pyRt t` (the checks of the Python runtime at import, with the runtime's own `_DYNAMIC` /
  `_UNLIMITED` statics `Py.stTy`), *except* for the two checks the runtime makes on shifted counters
  (substitute_len_field / validate_bound_shift), which have no counterpart in prophyc because the prophy
  language cannot express a shift: `front t → pyRt t` is false, `front t` gives `pyRt t ↔ shiftsOk t`.
-/
import ProphyModel.Lemmas.PLayoutSpec
import ProphyModel.Lemmas.WFAccept
import ProphyModel.Lemmas.Scalars
namespace Prophy
open Prophy WF Accept

namespace Accept

mutual
  /-- no bound array carries a counter shift (`.dyn s sh` has `sh = 0`): true of everything prophyc's
      Python back-end emits, the prophy language has no syntax for a shift -/
  def noShift : Ty → Bool
    | .struct _ ms => noShiftMs ms
    | .union _ arms => noShiftArms arms
    | _ => true
  def noShiftMs : List Member → Bool
    | [] => true
    | .mk _ t k :: r => k.shift == 0 && noShift t && noShiftMs r
  def noShiftArms : List Arm → Bool
    | [] => true
    | .mk _ _ t :: r => noShift t && noShiftArms r
end

mutual
  /-- the runtime's two shift checks (`WF.shiftOk`: the shift leaves the counter room to count, one
      shift per counter) hold at every struct of the tree -/
  def shiftsOk : Ty → Bool
    | .struct _ ms => shiftsOkMs ms ms
    | .union _ arms => shiftsOkArms arms
    | _ => true
  def shiftsOkMs (all : List Member) : List Member → Bool
    | [] => true
    | .mk _ t k :: r => shiftOk all k && shiftsOk t && shiftsOkMs all r
  def shiftsOkArms : List Arm → Bool
    | [] => true
    | .mk _ _ t :: r => shiftsOk t && shiftsOkArms r
end

/-- `struct S { u8 n; u8 x<@n> }` with the counter shifted by 255 (only expressible in hand-written
    Python: `prophy.array(prophy.u8, bound='n', shift=255)`) -/
def shifted255 : Ty := .struct "S" [.mk "n" (.prim .u8) .plain, .mk "x" (.prim .u8) (.dyn "n" 255)]

/-- two arrays on one counter with different shifts: the runtime's second check (`validate_bound_shift`) refuses it -/
def shiftedTwice : Ty :=
  .struct "S" [.mk "n" (.prim .u8) .plain, .mk "x" (.prim .u8) (.dyn "n" 0), .mk "y" (.prim .u8) (.dyn "n" 1)]

end Accept

theorem Accept.spec_of_kindne2_p12 (t : Ty) (ht : front t = true) (hk : (PL.nodeTy t).kind ≠ 2) :
    Spec.unlTy t = false :=
  PL.unl_of_kind t ht hk

mutual
    theorem Accept.stTy_spec : (t : Ty) → front t = true →
      (Py.stTy t).dyn = Spec.dynTy t ∧ (Py.stTy t).unl = Spec.unlTy t
    | .prim _, _ => ⟨rfl, rfl⟩
    | .byte, _ => ⟨rfl, rfl⟩
    | .enum _ _, _ => ⟨rfl, rfl⟩
    | .union _ _, _ => ⟨rfl, rfl⟩
    | .struct _ ms, h => by
      have h' : frontMs ms ms [] = true := by
        simp only [front, Bool.and_eq_true] at h; exact h.2
      simp only [Py.stTy, Py.structSt, Spec.dynTy, Spec.unlTy]
      exact Accept.stMs_spec_p12 ms ms [] h'
  theorem Accept.stMs_spec_p12 : (ms all before : List Member) → frontMs all ms before = true →
      (Py.stMs ms).any (·.dyn) = Spec.dynMs ms ∧ (Py.stMs ms).any (·.unl) = Spec.unlMs ms
    | [], _, _, _ => ⟨rfl, rfl⟩
    | .mk n t k :: r, all, before, h => by
      obtain ⟨hft, hfopt, _, _, _, _, _, _, hfr⟩ := (Accept.frontMs_cons_iff all n t k r before).1 h
      obtain ⟨ih1, ih2⟩ := Accept.stMs_spec_p12 r all _ hfr
      obtain ⟨it1, it2⟩ := Accept.stTy_spec t hft
      simp only [Py.stMs, List.any_cons, Spec.dynMs_cons, Spec.unlMs, ih1, ih2]
      constructor
      · rw [Py.fieldSt_dyn_of n t k it1 fun hk => PL.dyn_of_kind_ok t (Cpp.ok_of_front t hft) (hfopt (by rw [hk]; rfl))]
      · congr 1
        cases k with
        | plain => exact it2
        | optional =>
          have := PL.unl_of_kind t hft (by rw [hfopt rfl]; decide)
          simp [Py.fieldSt, it2, this]
        | fixed c => rfl
        | dyn s sh => rfl
        | limited s c => rfl
        | greedy => rfl
end

/-- the bridge between prophyc's `Kind` and the runtime's `_DYNAMIC` / `_UNLIMITED`, under `front` alone -/
theorem Accept.stTy_kind (t : Ty) (ht : front t = true) :
    ((PL.nodeTy t).kind = 0 ↔ (Py.stTy t).dyn = false) ∧
    ((PL.nodeTy t).kind = 2 ↔ (Py.stTy t).unl = true) ∧
    (PL.nodeTy t).kind ≤ 2 := by
  obtain ⟨h1, h2⟩ := Accept.stTy_spec t ht
  have h3 := Py.stTy_unl_dyn t
  rw [PL.nodeTy_kind t ht, ← h1, ← h2]
  cases hu : (Py.stTy t).unl <;> cases hd : (Py.stTy t).dyn <;> simp_all

mutual
  theorem Accept.shiftsOk_of_pyRt : (t : Ty) → pyRt t = true → shiftsOk t = true
    | .prim _, _ => rfl
    | .byte, _ => rfl
    | .enum _ _, _ => rfl
    | .struct _ ms, h => by
      simp only [pyRt] at h
      simp only [shiftsOk]
      exact Accept.shiftsOkMs_of_pyRt ms ms [] h
    | .union _ arms, h => by
      simp only [pyRt, Bool.and_eq_true] at h
      simp only [shiftsOk]
      exact Accept.shiftsOkArms_of_pyRt arms h.2
  theorem Accept.shiftsOkMs_of_pyRt (all : List Member) : (ms before : List Member) →
      pyRtMs all ms before = true → shiftsOkMs all ms = true
    | [], _, _ => rfl
    | .mk n t k :: r, before, h => by
      obtain ⟨hpt, _, _, _, _, _, hshift, hpr⟩ := (Accept.pyRtMs_cons all n t k r before).1 h
      simp only [shiftsOkMs, Bool.and_eq_true]
      exact ⟨⟨hshift, Accept.shiftsOk_of_pyRt t hpt⟩, Accept.shiftsOkMs_of_pyRt all r _ hpr⟩
  theorem Accept.shiftsOkArms_of_pyRt : (arms : List Arm) → pyRtArms arms = true → shiftsOkArms arms = true
    | [], _ => rfl
    | .mk n d t :: r, h => by
      obtain ⟨hpt, _, hpr⟩ := (Accept.pyRtArms_cons n d t r).1 h
      simp only [shiftsOkArms, Bool.and_eq_true]
      exact ⟨Accept.shiftsOk_of_pyRt t hpt, Accept.shiftsOkArms_of_pyRt r hpr⟩
end

mutual
  theorem Accept.pyRt_of_front_shiftsOk : (t : Ty) → front t = true → shiftsOk t = true → pyRt t = true
    | .prim _, _, _ => rfl
    | .byte, _, _ => rfl
    | .enum _ es, hf, _ => by
      simp only [front] at hf
      simp only [pyRt]
      exact hf
    | .struct _ ms, hf, hs => by
      simp only [front, Bool.and_eq_true] at hf
      simp only [shiftsOk] at hs
      simp only [pyRt]
      exact Accept.pyRtMs_of_front_shiftsOk ms ms [] hf.2 hs
    | .union _ arms, hf, hs => by
      simp only [front, Bool.and_eq_true] at hf
      simp only [shiftsOk] at hs
      simp only [pyRt, Bool.and_eq_true]
      exact ⟨hf.1.1.1.1, Accept.pyRtArms_of_front_shiftsOk arms hf.2 hs⟩
  theorem Accept.pyRtMs_of_front_shiftsOk (all : List Member) : (ms before : List Member) →
      frontMs all ms before = true → shiftsOkMs all ms = true → pyRtMs all ms before = true
    | [], _, _, _ => rfl
    | .mk n t k :: r, before, hf, hs => by
      obtain ⟨hft, hfopt, hfsized, hfarr, _, hfsizer, hflast, _, hfr⟩ := (Accept.frontMs_cons_iff all n t k r before).1 hf
      simp only [shiftsOkMs, Bool.and_eq_true] at hs
      obtain ⟨⟨hs1, hs2⟩, hs3⟩ := hs
      obtain ⟨b0, b2, _⟩ := Accept.stTy_kind t hft
      rw [Accept.pyRtMs_cons]
      refine ⟨Accept.pyRt_of_front_shiftsOk t hft hs2, fun hk => b0.1 (hfopt hk), fun hk => b0.1 (hfsized hk), ?_, ?_, hfsizer, hs1,
        Accept.pyRtMs_of_front_shiftsOk all r _ hfr hs3⟩
      · exact fun hk => Bool.eq_false_iff.2 fun hu => hfarr hk (b2.2 hu)
      · by_cases hre : r = []
        · left; simp [hre]
        · right
          obtain ⟨hg, hk2⟩ := hflast.resolve_left hre
          have hu : (Py.stTy t).unl = false := Bool.eq_false_iff.2 fun hu => hk2 (b2.2 hu)
          cases k with
          | plain => exact hu
          | optional => exact hu
          | fixed c => rfl
          | dyn s sh => rfl
          | limited s c => rfl
          | greedy => simp [isGreedy] at hg
  theorem Accept.pyRtArms_of_front_shiftsOk : (arms : List Arm) → frontArms arms = true → shiftsOkArms arms = true →
      pyRtArms arms = true
    | [], _, _ => rfl
    | .mk n d t :: r, hf, hs => by
      obtain ⟨ht, hk, _, hr⟩ := (Accept.frontArms_cons_iff n d t r).1 hf
      simp only [shiftsOkArms, Bool.and_eq_true] at hs
      exact (Accept.pyRtArms_cons n d t r).2 ⟨Accept.pyRt_of_front_shiftsOk t ht hs.1, (Accept.stTy_kind t ht).1.1 hk,
        Accept.pyRtArms_of_front_shiftsOk r hr hs.2⟩
end

theorem Accept.pyRt_iff_shiftsOk (t : Ty) (hf : Accept.front t = true) :
    Accept.pyRt t = true ↔ Accept.shiftsOk t = true :=
  ⟨Accept.shiftsOk_of_pyRt t, Accept.pyRt_of_front_shiftsOk t hf⟩

theorem sizerShift_zero_of_noShift (s : String) : (all : List Member) → noShiftMs all = true → sizerShift s all = 0
  | [], _ => rfl
  | .mk n t k :: r, h => by
    simp only [noShiftMs, Bool.and_eq_true, beq_iff_eq] at h
    simp only [sizerShift]
    by_cases hc : (Member.mk n t k).kind.sizer? = some s
    · rw [if_pos hc]; exact h.1.1
    · rw [if_neg hc]; exact sizerShift_zero_of_noShift s r h.2

theorem noShiftMs_append_p12 : (a b : List Member) → noShiftMs (a ++ b) = (noShiftMs a && noShiftMs b)
  | [], b => by simp [noShiftMs]
  | .mk n t k :: r, b => by
    simp only [List.cons_append, noShiftMs, noShiftMs_append_p12 r b, Bool.and_assoc]

mutual
  theorem Accept.shiftsOk_of_front : (t : Ty) → front t = true → noShift t = true → shiftsOk t = true
    | .prim _, _, _ => rfl
    | .byte, _, _ => rfl
    | .enum _ _, _, _ => rfl
    | .struct _ ms, hf, hn => by
      simp only [front, Bool.and_eq_true] at hf
      simp only [noShift] at hn
      simp only [shiftsOk]
      exact Accept.shiftsOkMs_of_front ms hn ms [] rfl hf.2 hn
    | .union _ arms, hf, hn => by
      simp only [front, Bool.and_eq_true] at hf
      simp only [noShift] at hn
      simp only [shiftsOk]
      exact Accept.shiftsOkArms_of_front arms hf.2 hn
  theorem Accept.shiftsOkMs_of_front (all : List Member) (hall : noShiftMs all = true) :
      (ms before : List Member) → all = before ++ ms →
      frontMs all ms before = true → noShiftMs ms = true → shiftsOkMs all ms = true
    | [], _, _, _, _ => rfl
    | .mk n t k :: r, before, he, hf, hn => by
      obtain ⟨hft, _, _, _, _, hfsizer, _, _, hfr⟩ := (Accept.frontMs_cons_iff all n t k r before).1 hf
      simp only [noShiftMs, Bool.and_eq_true, beq_iff_eq] at hn
      obtain ⟨⟨hk0, hnt⟩, hnr⟩ := hn
      simp only [shiftsOkMs, Bool.and_eq_true]
      refine ⟨⟨?_, Accept.shiftsOk_of_front t hft hnt⟩,
        Accept.shiftsOkMs_of_front all hall r (before ++ [Member.mk n t k]) (by simp [he]) hfr hnr⟩
      unfold shiftOk
      cases hs : k.sizer? with
      | none => rfl
      | some s =>
        obtain ⟨sn, sty, sk, hfind, hi, _, _⟩ := hfsizer s hs
        obtain ⟨p, rfl, hfl⟩ := (Accept.isIntPrim_iff sty).1 hi
        have hmax : sizerMax s all = (primRange p).2 := by
          unfold sizerMax
          rw [he, List.find?_append, hfind]
          rfl
        simp only [Bool.and_eq_true, decide_eq_true_eq, beq_iff_eq]
        rw [hmax, hk0, sizerShift_zero_of_noShift s all hall]
        exact ⟨by simpa using primRange_pos p hfl, rfl⟩
  theorem Accept.shiftsOkArms_of_front : (arms : List Arm) → frontArms arms = true → noShiftArms arms = true →
      shiftsOkArms arms = true
    | [], _, _ => rfl
    | .mk n d t :: r, hf, hn => by
      obtain ⟨ht, _, _, hr⟩ := (Accept.frontArms_cons_iff n d t r).1 hf
      simp only [noShiftArms, Bool.and_eq_true] at hn
      simp only [shiftsOkArms, Bool.and_eq_true]
      exact ⟨Accept.shiftsOk_of_front t ht hn.1, Accept.shiftsOkArms_of_front r hr hn.2⟩
end

/-- without `hns` the statement is false (`Accept.pyRt_of_front_false`) -/
theorem Accept.pyRt_of_front (t : Ty) (hf : Accept.front t = true) (hns : Accept.noShift t = true) :
    Accept.pyRt t = true :=
  Accept.pyRt_of_front_shiftsOk t hf (Accept.shiftsOk_of_front t hf hns)

theorem Accept.shifted255_front : Accept.front Accept.shifted255 = true := by decide
theorem Accept.shifted255_pyRt : Accept.pyRt Accept.shifted255 = false := by decide
theorem Accept.shiftedTwice_front : Accept.front Accept.shiftedTwice = true := by decide
theorem Accept.shiftedTwice_pyRt : Accept.pyRt Accept.shiftedTwice = false := by decide

theorem Accept.pyRt_of_front_false : ¬ (∀ t : Ty, Accept.front t = true → Accept.pyRt t = true) := by
  intro h
  have := h Accept.shifted255 Accept.shifted255_front
  rw [Accept.shifted255_pyRt] at this
  cases this

end Prophy

#print axioms Prophy.Accept.pyRt_iff_shiftsOk
#print axioms Prophy.Accept.pyRt_of_front_false
#print axioms Prophy.Accept.pyRt_of_front
