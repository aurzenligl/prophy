/- C09: the walk of the generated `prophy::swap` over the members and parts of a struct, the induction on the
   value, and what the swap of an unlimited struct leaves in terms of the two encodings -/
import ProphyModel.Lemmas.RawSwapMember
namespace Prophy
namespace Raw
open Accept PL WF Cpp

theorem fieldOffset_of_group {S : Nat} {any : Bool} {g : MG} {n : String} {t : Ty} {k : MKind} {r : List Member}
    {ad : Bool} {o : Nat} {fields done restF : List Field} (h1 : GOne S any g n t k r ad o)
    (hfields : fields = done ++ (g.fields ++ restF)) (hdone : totalSize done = o)
    (hnames : WF.uniq (fields.map (·.name)) = true) :
    fieldOffset fields n = o + flagLen t k ∧ (k = .optional → fieldOffset fields ("has_" ++ n) = o) := by
  obtain ⟨p, idx, hgf⟩ := h1.hfields
  have hmf : (memFields n t k p idx).1 = (flagFields n t k idx).1 ++
      Field.mk n (sizeofTy t) (countOf k) :: (padFields p (flagFields n t k idx).2).1 := List.append_assoc _ _ _
  constructor
  · have hfs : fields = (done ++ (flagFields n t k idx).1) ++
        Field.mk n (sizeofTy t) (countOf k) :: ((padFields p (flagFields n t k idx).2).1 ++ restF) := by
      rw [hfields, hgf, hmf]; simp [List.append_assoc]
    have := fieldOffset_uniq _ (Field.mk n (sizeofTy t) (countOf k)) _ (by rw [← hfs]; exact hnames)
    rw [← hfs, totalSize_append, hdone, totalSize_flagFields] at this
    exact this
  · rintro rfl
    obtain ⟨pf, hpf⟩ : ∃ pf, (flagFields n t .optional idx).1 = Field.mk ("has_" ++ n) 4 1 :: pf := ⟨_, rfl⟩
    have hfs : fields = done ++ Field.mk ("has_" ++ n) 4 1 ::
        (pf ++ Field.mk n (sizeofTy t) (countOf .optional) :: ((padFields p (flagFields n t .optional idx).2).1 ++ restF)) := by
      rw [hfields, hgf, hmf, hpf]; simp [List.append_assoc]
    have := fieldOffset_uniq done (Field.mk ("has_" ++ n) 4 1) _ (by rw [← hfs]; exact hnames)
    rw [← hfs, hdone] at this
    exact this

theorem lastDynamic_eq (n : String) (t : Ty) (k : MKind) (hM : Cpp.MemberOk t k)
    (hk2 : (nodeTy t).kind ≠ 2) (hg : k ≠ .greedy) :
    ((nodeTy t).kind == 1 || isDynKind k) = Spec.endsBlock (.mk n t k) := by
  rw [← endsPart_memOf_ok n t k hM hk2]
  unfold endsPart
  cases k <;> simp_all [memOf, isDynKind]

theorem clen_static (all : List Member) (allv : List Val) (n : String) (t : Ty) (k : MKind) (v : Val)
    (hM : Cpp.MemberOk t k)
    (he : Spec.endsBlock (.mk n t k) = false) (hfd : hasField all k t v = true) :
    Spec.clen (Spec.fieldChunks all allv n t k v) = Spec.slot t k :=
  ((lenOk_fieldChunks all allv n t k v hM hfd).stat he).trans (memOf_slot_ok t k hM.ok)

/-- `gen_last_member`: aligning to the part's alignment `p`, then to the struct's, is aligning to the struct's -/
theorem end_dyn (base E S p : Nat) (hS : IsAl S) (hpA : p ∣ S) (hbase : S ∣ base) :
    (base + E + padTo (base + E) p) + padTo (base + E + padTo (base + E) p) S = base + alignUp E S := by
  have := alignUp_alignUp (x := base + E) hS.pos hpA
  rw [alignUp_add_left base E S hbase] at this
  unfold alignUp at this ⊢
  exact this

theorem monoParts_cons (q : List MG) (rest : List (List MG)) (h : monoParts (q :: rest) = true) :
    monoParts rest = true ∧ ∀ q2 rest2, rest = q2 :: rest2 → partAlign q ≤ partAlign q2 ∨ lastAlign q = partAlign q := by
  cases rest with
  | nil => exact ⟨rfl, fun _ _ h => by cases h⟩
  | cons q2 rest2 =>
    simp only [monoParts, pairOk, Bool.and_eq_true, Bool.or_eq_true, decide_eq_true_eq, beq_iff_eq] at h
    refine ⟨h.2, fun a b hab => ?_⟩
    injection hab with h1 h2
    subst h1
    exact h.1

/-- the end `e` a part returns (aligned to its own `p` unless it is the main block), aligned by the next part to `B`, is
    the documented start of the next block; `p ≤ B ∨ p ∣ e` is `pairOk`: here D23 is excluded -/
theorem next_part_ptr (base off' S B p e : Nat) (isMain : Bool) (hbase : S ∣ base) (hB : IsAl B) (hBA : B ∣ S)
    (he : e = base + off')
    (hnm : isMain = false → IsAl p ∧ (p ≤ B ∨ p ∣ e)) :
    (if isMain = true then e else e + padTo e p) + padTo (if isMain = true then e else e + padTo e p) B =
      base + alignUp off' B := by
  have hBS : B ∣ base := Nat.dvd_trans hBA hbase
  cases isMain with
  | true =>
    simp only [if_true]
    rw [he]
    exact alignUp_add_left base off' B hBS
  | false =>
    simp only [Bool.false_eq_true, if_false]
    obtain ⟨hp, h⟩ := hnm rfl
    rcases h with h | h
    · have := alignUp_alignUp (x := e) hB.pos (IsAl.dvd_of_le hp hB h)
      rw [he, alignUp_add_left base off' B hBS] at this
      rw [he]
      exact this
    · rw [padTo_eq_zero_of_dvd _ _ h, Nat.add_zero, he]
      exact alignUp_add_left base off' B hBS

/-- a last part without dynamic member ends `sizeof` of the part after its start -/
theorem end_static_part (base E S p ppos X : Nat) (hS : IsAl S) (hpA : p ∣ S) (hbase : S ∣ base)
    (hpp : p ∣ ppos) (h : ppos + X = base + E) :
    (ppos + alignUp X p) + padTo (ppos + alignUp X p) S = base + alignUp E S := by
  rw [← alignUp_add_left ppos X p hpp, h]
  exact end_dyn base E S p hS hpA hbase

theorem unlMs_cons_of_swapped (n : String) (t : Ty) (k : MKind) (r : List Member) (ht : front t = true)
    (hk2 : (nodeTy t).kind ≠ 2) (hng : k ≠ .greedy) : Spec.unlMs (.mk n t k :: r) = Spec.unlMs r := by
  have hut := PL.unl_of_kind t ht hk2
  simp only [Spec.unlMs]
  cases k <;> simp_all

/-- the generated `swap` does not enter a last member that is a greedy array or of unlimited type: exactly then the
    struct is unlimited -/
theorem unlMs_last (n : String) (t : Ty) (k : MKind) (hM : Cpp.MemberOk t k) :
    ((nodeTy t).kind == 2 || isGreedy k) = Spec.unlMs [.mk n t k] := by
  rw [Spec.unlMs_cons]
  cases k with
  | greedy => exact Bool.or_true _
  | plain =>
    rw [nodeTy_kind_ok t hM.ok]
    unfold specKind
    cases Spec.unlTy t
    · cases Spec.dynTy t <;> rfl
    · rfl
  | optional => rw [hM.opt rfl]; rfl
  | _ => rw [beq_eq_false_iff_ne.2 (hM.arr rfl)]; rfl

/-- offset (from the struct start) at which the own bytes of the last member begin -/
def lastStart (all : List Member) (allv : List Val) : List Member → List Val → Nat → Bool → Nat
  | .mk n t k :: r, v :: vs, off, ad =>
    if r.isEmpty then off + padTo off (if ad then Spec.blockAlign (.mk n t k :: r) else Spec.alignMember (.mk n t k))
    else lastStart all allv r vs
      (off + padTo off (if ad then Spec.blockAlign (.mk n t k :: r) else Spec.alignMember (.mk n t k))
        + Spec.clen (Spec.fieldChunks all allv n t k v)) (Spec.endsBlock (.mk n t k))
  | _, _, off, _ => off

theorem lastStart_cons (all : List Member) (allv : List Val) (n : String) (t : Ty) (k : MKind) (r : List Member)
    (v : Val) (vs : List Val) (off : Nat) (ad : Bool) :
    lastStart all allv (.mk n t k :: r) (v :: vs) off ad =
      if r.isEmpty then off + padTo off (if ad then Spec.blockAlign (.mk n t k :: r) else Spec.alignMember (.mk n t k))
      else lastStart all allv r vs
        (memberEnd all allv n t k r v off ad)
        (Spec.endsBlock (.mk n t k)) := rfl

/-- the bytes of the members after the swap: converted, but for the last member of an unlimited struct (`u`) -/
def outMs (u : Bool) (all : List Member) (allv : List Val) : List Member → List Val → Nat → Bool → Bytes
  | .mk n t k :: r, v :: vs, off, ad =>
    memberBytes (if u && r.isEmpty then .big else .little) all allv n t k r v off ad ++
      outMs u all allv r vs (memberEnd all allv n t k r v off ad) (Spec.endsBlock (.mk n t k))
  | _, _, _, _ => []

theorem outMs_cons (u : Bool) (all : List Member) (allv : List Val) (n : String) (t : Ty) (k : MKind)
    (r : List Member) (v : Val) (vs : List Val) (off : Nat) (ad : Bool) :
    outMs u all allv (.mk n t k :: r) (v :: vs) off ad =
      memberBytes (if u && r.isEmpty then .big else .little) all allv n t k r v off ad ++
        outMs u all allv r vs (memberEnd all allv n t k r v off ad) (Spec.endsBlock (.mk n t k)) := rfl

/-- offset (from the struct start) of what the returned pointer is the aligned address of: the last member of an
    unlimited struct (`u`), else the end of the members -/
def retOff (u : Bool) (all : List Member) (allv : List Val) (ms : List Member) (vs : List Val) (off : Nat) (ad : Bool) :
    Nat :=
  if u then lastStart all allv ms vs off ad else off + Spec.clen (Spec.chunksMs all allv ms vs off ad)

theorem retOff_cons (u : Bool) (all : List Member) (allv : List Val) (n : String) (t : Ty) (k : MKind) (m' : Member)
    (r' : List Member) (v v2 : Val) (vs' : List Val) (off : Nat) (ad : Bool) :
    retOff u all allv (.mk n t k :: m' :: r') (v :: v2 :: vs') off ad =
      retOff u all allv (m' :: r') (v2 :: vs')
        (memberEnd all allv n t k (m' :: r') v off ad)
        (Spec.endsBlock (.mk n t k)) := by
  cases u
  · simp only [retOff, Bool.false_eq_true, if_false]
    rw [Spec.chunksMs_cons, ← memberEnd_eq]
    simp only [Spec.clen_cons, Spec.clen_append, Spec.Chunk.len]
    rw [memberEnd_eq]
    omega
  · rfl

theorem chunksMs_single (all : List Member) (allv : List Val) (n : String) (t : Ty) (k : MKind) (v : Val)
    (off : Nat) (ad : Bool) :
    Spec.chunksMs all allv [.mk n t k] [v] off ad =
      .pad (padTo off (if ad then Spec.blockAlign [.mk n t k] else Spec.alignMember (.mk n t k))) ::
        Spec.fieldChunks all allv n t k v := by
  rw [Spec.chunksMs_cons]; simp [Spec.chunksMs]

theorem outMs_false (all : List Member) (allv : List Val) : (ms : List Member) → (vs : List Val) → (off : Nat) →
    (ad : Bool) → outMs false all allv ms vs off ad = Spec.render .little (Spec.chunksMs all allv ms vs off ad)
  | [], _, _, _ => by simp [outMs, Spec.chunksMs, render_nil]
  | .mk n t k :: r, [], _, _ => by simp [outMs, Spec.chunksMs, render_nil]
  | .mk n t k :: r, v :: vs, off, ad => by
    rw [outMs_cons, render_chunksMs_cons, outMs_false all allv r vs]
    simp only [Bool.false_and, Bool.false_eq_true, if_false]

/-- the struct whose members are walked: members `all` with values `allv`, alignment `S`, at address `base` of the
    buffer; `any`: it has a dynamic member -/
structure InStruct (all : List Member) (allv : List Val) (S base : Nat) (any : Bool) : Prop where
  hS : S = Spec.alignMs all
  hbase : S ∣ base
  huq : WF.uniq (all.map (·.name)) = true
  hw : wfMs all all = true
  hhall : hasMs all all allv = true
  hshift : shiftOk all = true
  hdd : ∀ m ∈ all, Spec.endsBlock m = true → any = true

/-- the members still to be walked, `.mk n t k :: r` after `before`, with their values; `u`: the struct is
    unlimited, its last member is then not swapped -/
structure Rest (all : List Member) (allv : List Val) (u : Bool) (n : String) (t : Ty) (k : MKind) (r : List Member)
    (v : Val) (vs : List Val) (before : List Member) : Prop where
  hall : all = before ++ .mk n t k :: r
  hfm : frontMs all (.mk n t k :: r) before = true
  hpm : pyRtMs all (.mk n t k :: r) before = true
  hdm : partsOkMs (.mk n t k :: r) = true
  hum : Spec.unlMs (.mk n t k :: r) = u
  hh : hasMs all (.mk n t k :: r) (v :: vs) = true
  hag : agreeFields (.mk n t k :: r) (v :: vs) = true
  hlens : lensOk all allv (.mk n t k :: r) (v :: vs)
  hdeep : ∀ x ∈ v :: vs, Deep TyOK x

/-- where the walk stands in the generated struct: the group of `.mk n t k` is `g` (the groups `gs'` follow), in the
    part `cur` (the parts `rest` follow) with fields `fields`, of which `done` (`o` bytes) lie before `g`; the part
    lies at `ppos` and is aligned to `palign` unless it is the main block (`isMain`); `off` bytes of the struct
    are swapped already and end `pre`; `sizers` finds the counters seen so far.  `hnm`: what is known of a part that
    is not the main block; `hpair` (`pairOk` of this part against the next) and `hmono` (the later parts) are where D23
    is excluded; `hbp`: the part's address suits the current block; `hnames` covers this and all later parts -/
structure At (all : List Member) (allv : List Val) (S base : Nat) (any : Bool) (n : String) (t : Ty) (k : MKind)
    (r before : List Member) (g : MG) (gs' cur : List MG) (rest : List (List MG)) (ad : Bool) (o : Nat)
    (fields done : List Field) (ppos palign : Nat) (isMain : Bool) (off : Nat) (pre : Bytes)
    (sizers : List (String × Nat × Nat)) : Prop where
  h1 : GOne S any g n t k r ad o
  hgs : Groups S any gs' r (Spec.endsBlock (.mk n t k)) (nextOff S n t k r o)
  hpart : partition (fun (g : MG) => g.isDyn) (g :: gs') = cur :: rest
  hfields : fields = done ++ cur.flatMap (·.fields)
  hdone : totalSize done = o
  hnames : WF.uniq ((fields ++ rest.flatten.flatMap (·.fields)).map (·.name)) = true
  hpre : pre.length = base + off
  hpos : base + alignUp off (if ad then Spec.blockAlign (.mk n t k :: r) else Spec.alignMember (.mk n t k)) = ppos + o
  hbp : Spec.blockAlign (.mk n t k :: r) ∣ ppos
  hnm : isMain = false →
    any = true ∧ IsAl palign ∧ palign ∣ S ∧ palign ∣ ppos ∧ Spec.blockAlign (.mk n t k :: r) ∣ palign
  hmain : isMain = true → ppos = base ∧ ad = false
  hpair : isMain = false → ∀ q rest', rest = q :: rest' → palign ≤ partAlign q ∨ lastAlign cur = palign
  hmono : monoParts rest = true
  hsinv : SInv all allv before sizers pre

section Walk
variable {all : List Member} {allv : List Val} {S base : Nat} {any u : Bool} {n : String} {t : Ty} {k : MKind}
  {r : List Member} {v : Val} {vs : List Val} {before : List Member} {g : MG} {gs' cur : List MG}
  {rest : List (List MG)} {ad : Bool} {o : Nat} {fields done : List Field} {ppos palign : Nat} {isMain : Bool}
  {off : Nat} {pre : Bytes} {sizers : List (String × Nat × Nat)} {n' : String} {t' : Ty} {k' : MKind}
  {r' : List Member}

theorem InStruct.isAl (s : InStruct all allv S base any) : IsAl S := by rw [s.hS]; exact Spec.alignMs_isAl all

theorem Rest.swapped (w : Rest all allv u n t k (.mk n' t' k' :: r') v vs before) :
    (nodeTy t).kind ≠ 2 ∧ k ≠ .greedy := by
  obtain ⟨_, _, _, _, _, _, hl, _, _⟩ := (Accept.frontMs_cons_iff all n t k _ before).1 w.hfm
  obtain ⟨hgr, hk2⟩ := hl.resolve_left (by simp)
  exact ⟨hk2, by intro h; subst h; simp [isGreedy] at hgr⟩

theorem Rest.tail (w : Rest all allv u n t k (.mk n' t' k' :: r') v vs before) :
    ∃ v2 vs', vs = v2 :: vs' ∧ Rest all allv u n' t' k' r' v2 vs' (before ++ [Member.mk n t k]) := by
  obtain ⟨ht, hr⟩ := Accept.frontMs_head_tail w.hfm
  obtain ⟨_, hpr⟩ := Accept.pyRtMs_head_tail w.hpm
  obtain ⟨hk2, hng⟩ := w.swapped
  obtain ⟨_, _, hhr⟩ := (hasMs_cons all n t k _ v vs).1 w.hh
  cases vs with
  | nil => exact absurd ((hasMs_nil_right all _).1 hhr) (by simp)
  | cons v2 vs' =>
    have hdm : (partsOk t && partsOkMs (.mk n' t' k' :: r')) = true := w.hdm
    have hag : (agreeTy t v && agreeFields (.mk n' t' k' :: r') (v2 :: vs')) = true := w.hag
    rw [Bool.and_eq_true] at hdm hag
    exact ⟨v2, vs', rfl, by rw [w.hall]; simp, hr, hpr, hdm.2,
      by rw [← w.hum]; exact (unlMs_cons_of_swapped n t k _ ht hk2 hng).symm, hhr, hag.2, w.hlens.2,
      fun x hx => w.hdeep x (List.mem_cons_of_mem _ hx)⟩

theorem member_at (s : InStruct all allv S base any) (w : Rest all allv u n t k r v vs before)
    (hk2 : (nodeTy t).kind ≠ 2) (hng : k ≠ .greedy) (h1 : GOne S any g n t k r ad o) {restF : List Field}
    (hfields : fields = done ++ (g.fields ++ restF)) (hdone : totalSize done = o)
    (hnames : WF.uniq (fields.map (·.name)) = true) (hpre : pre.length = base + off)
    (hpos : base + alignUp off (if ad then Spec.blockAlign (.mk n t k :: r) else Spec.alignMember (.mk n t k)) = ppos + o)
    (hsinv : SInv all allv before sizers pre)
    {fM : Nat} (hfuel : needField t v ≤ fM) (isLast : Bool) :
    (∀ post, ∃ e, memberStep fM g fields (pre ++ (memberBytes .big all allv n t k r v off ad ++ post)) ppos sizers
          isLast = some (pre ++ (memberBytes .little all allv n t k r v off ad ++ post), e) ∧
      (Spec.endsBlock (.mk n t k) = true → e = ppos + o + Spec.clen (Spec.fieldChunks all allv n t k v) ∧
        Spec.alignMember (.mk n t k) ∣ e)) ∧
      SInv all allv (before ++ [Member.mk n t k]) (sizersAfter g (ppos + fieldOffset fields g.m.name) sizers)
        (pre ++ memberBytes .little all allv n t k r v off ad) := by
  simp only [memberBytes, List.append_assoc]
  have hda : Spec.alignMember (.mk n t k) ∣
      (if ad then Spec.blockAlign (.mk n t k :: r) else Spec.alignMember (.mk n t k)) :=
    alignMember_dvd_aN S ad (.mk n t k) r
  have hapos : 0 < (if ad then Spec.blockAlign (.mk n t k :: r) else Spec.alignMember (.mk n t k)) :=
    (aN_isAl S s.isAl ad (.mk n t k :: r)).pos
  generalize (if ad then Spec.blockAlign (.mk n t k :: r) else Spec.alignMember (.mk n t k)) = a at *
  have ht := (Accept.frontMs_head_tail w.hfm).1
  have hM := Cpp.MemberOk.of_frontMs w.hfm
  have hpt := (Accept.pyRtMs_head_tail w.hpm).1
  obtain ⟨hcn, hfd, hhr⟩ := (hasMs_cons all n t k r v vs).1 w.hh
  have hdm : (partsOk t && partsOkMs r) = true := w.hdm
  have hag : (agreeTy t v && agreeFields r vs) = true := w.hag
  rw [Bool.and_eq_true] at hdm hag
  have hmem : Member.mk n t k ∈ all := by rw [w.hall]; simp
  have hdA : Spec.alignMember (.mk n t k) ∣ S := by rw [s.hS]; exact Spec.alignMember_dvd_alignMs _ all hmem
  have hal : Spec.alignMember (.mk n t k) ∣ ppos + o := by
    rw [← hpos]
    exact Nat.dvd_add (Nat.dvd_trans hdA s.hbase) (Nat.dvd_trans hda (dvd_alignUp off a hapos))
  have hpre1 : (pre ++ zeros (padTo off a)).length = ppos + o := by
    simp only [List.length_append, zeros_length, hpre]; rw [← hpos]; unfold alignUp; omega
  obtain ⟨hoff, hflag⟩ := fieldOffset_of_group h1 hfields hdone hnames
  have hcnt : ∀ s, k.sizer? = some s → ∃ saddr ssz, sizers.lookup s = some (saddr, ssz) ∧
      saddr + ssz ≤ (pre ++ zeros (padTo off a)).length ∧ leRead (pre ++ zeros (padTo off a)) saddr ssz = some v.len := by
    intro sz hs'
    obtain ⟨p, hp⟩ := frontMs_sizer all n t k r before w.hfm sz hs'
    have his : isSizer sz all = true := (isSizer_iff sz all).2 ⟨_, hmem, hs'⟩
    obtain ⟨a', h1', h2', h3'⟩ := (hsinv.mono (zeros (padTo off a))) sz p hp his
    have hlen : v.len = Spec.counter sz all allv := w.hlens.1 sz hs'
    rw [sizerShift_zero_of_shiftOk sz all s.hshift, Nat.add_zero] at h3'
    exact ⟨a', p.size, h1', h2', by rw [hlen]; exact h3'⟩
  have hszr : v = .sizer → ∃ p, t = .prim p := by
    intro hv; subst hv
    have his : isSizer n all = true := by simpa [Val.isCounter] using hcn.symm
    obtain ⟨p, hp, _⟩ := WF.sizer_prim all s.huq s.hw n t k hmem his
    exact ⟨p, hp⟩
  refine ⟨fun post => ?_, ?_⟩
  · obtain ⟨e, he1, he2⟩ := memberStep_ok all allv n t k v g fields ppos o sizers isLast
      (pre ++ zeros (padTo off a)) post fM h1.hm h1.hkind hoff hflag hpre1 ht hpt hdm.1 hk2 hng hfd hszr hag.1
      (w.hdeep v (List.mem_cons_self ..)) hal hcnt hfuel
    refine ⟨e, by simpa only [List.append_assoc] using he1, fun heb => ⟨he2 heb, ?_⟩⟩
    rw [he2 heb]
    exact Nat.dvd_add hal ((lenOk_fieldChunks all allv n t k v hM hfd).dyn heb).1
  · have := SInv.step all allv before sizers (pre ++ zeros (padTo off a)) n t k r g v h1.hm w.hall s.huq s.hw s.hhall hcn
      (hsinv.mono _)
    rw [hpre1] at this
    rw [h1.hm]
    simp only [Member.name, hoff]
    rw [← Nat.add_assoc]
    simpa only [List.append_assoc] using this

variable {ssize : Nat} {skind : Kind}

/-- the generated `swap` stands in front of member `n t k` (followed by `r`), `off` bytes into the struct, with `pre` the
    buffer up to there; `K buf` is what it still does to a buffer `buf`: the rest of the current part (`swapMembers`)
    and of the parts after it (`finishPart`).  Where it stands in the generated struct (`At`) and its two fuels
    (`swapParts` hands its fuel to both `swapMembers` and the next `swapParts`) are hidden here. -/
def Stands (all : List Member) (allv : List Val) (S base : Nat) (any : Bool) (ssize : Nat) (skind : Kind) (n : String)
    (t : Ty) (k : MKind) (r before : List Member) (v : Val) (vs : List Val) (ad : Bool) (off : Nat) (pre : Bytes)
    (K : Bytes → Option (Bytes × Nat)) : Prop :=
  ∃ g gs' cur rest o fields done ppos palign isMain sizers fuelP fuelM,
    At all allv S base any n t k r before g gs' cur rest ad o fields done ppos palign isMain off pre sizers ∧
    (isMain = true → Spec.dynMs (.mk n t k :: r) = false →
      ssize = alignUp (off + Spec.clen (Spec.chunksMs all allv (.mk n t k :: r) (v :: vs) off ad)) S) ∧
    needMs (.mk n t k :: r) (v :: vs) ≤ fuelP ∧ needMs (.mk n t k :: r) (v :: vs) ≤ fuelM ∧
    ∀ buf, K buf = finishPart fuelP S ssize skind rest isMain palign ppos fields base
      (swapMembers fuelM cur fields buf ppos sizers)

variable {K : Bytes → Option (Bytes × Nat)}

/-- the last member of the struct: the generated `swap` returns the aligned end of the struct, or, for an
    unlimited last member, which it does not swap, that member's aligned address -/
theorem walk_last (s : InStruct all allv S base any) (w : Rest all allv u n t k [] v vs before)
    (h : Stands all allv S base any ssize skind n t k [] before v vs ad off pre K) (post : Bytes) :
    K (pre ++ (Spec.render .big (Spec.chunksMs all allv [.mk n t k] (v :: vs) off ad) ++ post)) =
      some (pre ++ (outMs u all allv [.mk n t k] (v :: vs) off ad ++ post),
        base + alignUp (retOff u all allv [.mk n t k] (v :: vs) off ad) S) := by
  obtain ⟨g, gs', cur, rest, o, fields, done, ppos, palign, isMain, sizers, fuelP, fuelM, a, hss, -, hfM, hK⟩ := h
  rw [hK]
  obtain ⟨h1, h2, hpart, hfields, hdone, hnames, hpre, hpos, hbp, hnm, hmain, hpair, hmono, hsinv⟩ := a
  have hgs := h2.nil
  subst hgs
  obtain ⟨rfl, rfl⟩ := List.cons.inj (show [[g]] = cur :: rest from hpart)
  have hM := Cpp.MemberOk.of_frontMs w.hfm
  obtain ⟨hcn, hfd, hhr⟩ := (hasMs_cons all n t k [] v vs).1 w.hh
  have hvs := (hasMs_nil_left all vs).1 hhr
  subst hvs
  obtain ⟨fM, rfl, hfv, -⟩ := needMs_cons_le hfM
  have hSal := s.isAl
  have hbase := s.hbase
  simp only [List.flatMap_cons, List.flatMap_nil] at hfields
  have hnm' : WF.uniq (fields.map (·.name)) = true := by
    simpa using hnames
  have hposE : ppos + o =
      base + (off + padTo off (if ad then Spec.blockAlign [.mk n t k] else Spec.alignMember (.mk n t k))) := hpos.symm
  have hp : (if isMain = true then S else palign) ∣ S := by
    cases isMain with
    | true => exact Nat.dvd_refl _
    | false => exact (hnm rfl).2.2.1
  rw [chunksMs_single, outMs_cons]
  simp only [memberBytes, render_cons, Spec.Chunk.render, List.append_assoc, outMs, List.append_nil,
    List.isEmpty_nil, Bool.and_true]
  rw [swapMembers_cons]
  simp only [List.isEmpty_nil]
  have hunl : (g.kind == 2 || isGreedy g.m.kind) = u := by
    rw [h1.hkind, h1.hm, ← w.hum]; exact unlMs_last n t k hM
  cases u with
  | true => -- unlimited last member: not swapped, its aligned address is returned
    have hoff := (fieldOffset_of_group (restF := []) h1 (by rw [hfields, List.append_nil]) hdone hnm').1
    have hopt : k ≠ .optional := by
      intro hk; subst hk; rw [h1.hkind, h1.hm, hM.opt rfl] at hunl; cases hunl
    rw [show flagLen t k = 0 by cases k <;> first | rfl | exact absurd rfl hopt, Nat.add_zero] at hoff
    have hoff' : fieldOffset fields g.m.name = o := by rw [h1.hm]; exact hoff
    have hstep : ∀ buf, memberStep fM g fields buf ppos sizers true = some (buf, ppos + o) := by
      intro buf
      unfold memberStep
      rw [if_pos (by rw [Bool.true_and]; exact hunl), hoff']
    rw [hstep]
    simp only [if_true, finishPart, hunl, hoff']
    rw [hposE]
    refine congrArg (fun x => some (_, x)) ?_
    exact end_dyn base _ S _ hSal hp hbase
  | false =>
    obtain ⟨hk2b, hgk⟩ := Bool.or_eq_false_iff.1 hunl
    rw [h1.hkind] at hk2b
    rw [h1.hm] at hgk
    have hk2 : (nodeTy t).kind ≠ 2 := beq_eq_false_iff_ne.1 hk2b
    have hng : k ≠ .greedy := by intro hk; subst hk; cases hgk
    obtain ⟨e, he1, he2⟩ := (member_at s w hk2 hng h1 hfields hdone hnm' hpre hpos hsinv hfv true).1 post
    simp only [memberBytes, List.append_assoc] at he1
    have hdynf : (g.kind == 1 || isDynKind g.m.kind) = Spec.endsBlock (.mk n t k) := by
      rw [h1.hkind, h1.hm]; exact lastDynamic_eq n t k hM hk2 hng
    rw [he1]
    simp only [if_true, finishPart, hunl, hdynf, Bool.false_eq_true, if_false]
    have hend : retOff false all allv [.mk n t k] [v] off ad = memberEnd all allv n t k [] v off ad := by
      simp only [retOff, Bool.false_eq_true, if_false, chunksMs_single, Spec.clen_cons, Spec.Chunk.len, memberEnd]
      omega
    rw [hend]
    cases heb : Spec.endsBlock (.mk n t k) with
    | true => -- dynamic last member: `cast` of the end pointer
      simp only [if_true]
      rw [(he2 heb).1, hposE]
      refine congrArg (fun x => some (_, x)) ?_
      have := end_dyn base (memberEnd all allv n t k [] v off ad) S _ hSal hp hbase
      simp only [memberEnd, Nat.add_assoc] at this ⊢
      exact this
    | false => -- static last member: `payload + 1`
      simp only [Bool.false_eq_true, if_false]
      refine congrArg (fun x => some (_, x)) ?_
      have hcl := clen_static all allv n t k v hM heb hfd
      cases hmn : isMain with
      | true => -- main block: sizeof of the struct
        have hss' := hss hmn (by rw [Spec.dynMs_cons, heb]; rfl)
        rw [memberEnd_eq]
        rw [chunksMs_single] at hss'
        simp only [Spec.clen_cons, Spec.Chunk.len] at hss'
        obtain ⟨hp1, _⟩ := hmain hmn
        subst hp1
        simp only [if_true]
        rw [hss', ← Nat.add_assoc]
        rw [padTo_eq_zero_of_dvd _ _ (Nat.dvd_add hbase (dvd_alignUp _ S hSal.pos))]; rfl
      | false => -- a part: sizeof of the part, padded to `S` (left) or the unpadded end of a dynamic struct (right)
        obtain ⟨hd1, hpal, hpA, hpp, hbpal⟩ := hnm hmn
        simp only [Bool.false_eq_true, if_false]
        have htf : totalSize fields = o + totalSize g.fields := by
          rw [hfields]; simp only [totalSize_append, hdone, totalSize, Nat.add_zero]
        rw [htf]
        have hE : ppos + (o + Spec.slot t k) = base + memberEnd all allv n t k [] v off ad := by
          rw [memberEnd_eq, hcl, ← Nat.add_assoc base, ← Nat.add_assoc ppos, hposE]
        rcases h1.hend heb (rawSlot_of_not_ends_ok n t k hM heb) with ⟨hl2, hl1⟩ | ⟨_, _, hl⟩
        · rw [hl2, aN_nil]
          have hpe : palign = S := by
            have h3 : S ∣ palign := by
              rw [← hl1 rfl hd1]
              exact Nat.dvd_trans (Spec.alignMember_dvd_blockAlign (.mk n t k) []) hbpal
            exact Nat.dvd_antisymm hpA h3
          subst hpe
          rw [alignUp_idem _ _ hSal.pos]
          exact end_static_part base _ palign palign ppos _ hSal (Nat.dvd_refl _) hbase hpp hE
        · rw [hl]
          exact end_static_part base _ S palign ppos _ hSal hpA hbase hpp hE

/-- a member that is not the last one: the generated `swap` converts it and stands at the next member, in the same
    part or, after a member that ends its part, in the next part (`tl`: the bytes after the member) -/
theorem walk_step (s : InStruct all allv S base any) {v2 : Val} {vs' : List Val}
    (w : Rest all allv u n t k (.mk n' t' k' :: r') v (v2 :: vs') before)
    (h : Stands all allv S base any ssize skind n t k (.mk n' t' k' :: r') before v (v2 :: vs') ad off pre K) :
    ∃ K', Stands all allv S base any ssize skind n' t' k' r' (before ++ [Member.mk n t k]) v2 vs'
        (Spec.endsBlock (.mk n t k))
        (memberEnd all allv n t k (.mk n' t' k' :: r') v off ad)
        (pre ++ memberBytes .little all allv n t k (.mk n' t' k' :: r') v off ad) K' ∧
      ∀ tl, K (pre ++ (memberBytes .big all allv n t k (.mk n' t' k' :: r') v off ad ++ tl)) =
        K' (pre ++ memberBytes .little all allv n t k (.mk n' t' k' :: r') v off ad ++ tl) := by
  obtain ⟨g, gs', cur, rest, o, fields, done, ppos, palign, isMain, sizers, fuelP, fuelM, a, hss, hfP, hfM, hK⟩ := h
  obtain ⟨h1, h2, hpart, hfields, hdone, hnames, hpre, hpos, hbp, hnm, hmain, hpair, hmono, hsinv⟩ := a
  obtain ⟨g2, gs'', rfl, h3, h4⟩ := h2.cons s.isAl
  have hM := Cpp.MemberOk.of_frontMs w.hfm
  obtain ⟨hk2, hng⟩ := w.swapped
  have hdy := h1.isDyn_eq hM (by cases k <;> first | rfl | exact absurd rfl hng) hk2
  obtain ⟨hcn, hfd, hhr⟩ := (hasMs_cons all n t k (.mk n' t' k' :: r') v (v2 :: vs')).1 w.hh
  obtain ⟨fM, rfl, hfv, hfM⟩ := needMs_cons_le hfM
  obtain ⟨fP, rfl, -, hfP⟩ := needMs_cons_le hfP
  have hSal := s.isAl
  have hbase := s.hbase
  have hmem : Member.mk n t k ∈ all := by rw [w.hall]; simp
  have hsub : ∀ m ∈ (Member.mk n' t' k' :: r'), m ∈ all := by
    intro m hm; rw [w.hall]; exact List.mem_append_right _ (List.mem_cons_of_mem _ hm)
  have hB'A : Spec.blockAlign (.mk n' t' k' :: r') ∣ S := by
    rw [s.hS]
    exact Spec.blockAlign_dvd _ (Spec.alignMs_isAl all) _ (fun m hm => Spec.alignMember_dvd_alignMs m all (hsub m hm))
  have hB'al := Spec.blockAlign_isAl (.mk n' t' k' :: r')
  have hposE : ppos + o = base + (off + padTo off
      (if ad then Spec.blockAlign (.mk n t k :: .mk n' t' k' :: r') else Spec.alignMember (.mk n t k))) := hpos.symm
  have hme := memberEnd_eq all allv n t k (.mk n' t' k' :: r') v off ad
  have hnm' : WF.uniq (fields.map (·.name)) = true := by
    rw [List.map_append] at hnames; exact (uniq_append _ _ hnames).1
  have hchunks := Spec.chunksMs_cons all allv n t k (.mk n' t' k' :: r') v (v2 :: vs') off ad
  rw [← memberEnd_eq] at hchunks
  cases heb : Spec.endsBlock (.mk n t k) with
  | false =>
    -- the next member lies in the same part
    obtain ⟨hd, tl', hp1⟩ := partition_head (fun (g : MG) => g.isDyn) g2 gs''
    rw [partition_cons_ne _ g _ (by simp), hdy, heb, hp1] at hpart
    obtain ⟨rfl, rfl⟩ := List.cons.inj (show (g :: g2 :: hd) :: tl' = cur :: rest from hpart)
    rw [List.flatMap_cons] at hfields
    have hma := member_at s w hk2 hng h1 hfields hdone hnm' hpre hpos hsinv hfv false
    have hcl := clen_static all allv n t k v hM heb hfd
    rw [heb] at h3 hchunks
    have hnx := h1.end_eq_next heb (rawSlot_of_not_ends_ok n t k hM heb)
    rw [nextOff_static heb, show aN S false (.mk n' t' k' :: r') = Spec.alignMember (.mk n' t' k') from rfl] at h3 h4 hnx
    have hBB := Spec.blockAlign_tail_dvd (.mk n t k) (.mk n' t' k' :: r') heb
    have ha'S : Spec.alignMember (.mk n' t' k') ∣ base :=
      Nat.dvd_trans (Nat.dvd_trans (Spec.alignMember_dvd_blockAlign _ r') hB'A) hbase
    have ha'p : Spec.alignMember (.mk n' t' k') ∣ ppos :=
      Nat.dvd_trans (Nat.dvd_trans (Spec.alignMember_dvd_blockAlign _ r') hBB) hbp
    refine ⟨_, ⟨g2, gs'', g2 :: hd, tl', alignUp (o + Spec.slot t k) (Spec.alignMember (.mk n' t' k')), fields,
      done ++ g.fields, ppos, palign, isMain, sizersAfter g (ppos + fieldOffset fields g.m.name) sizers, fP + 1, fM,
      { h1 := h3, hgs := h4, hpart := hp1, hnames := hnames, hmono := hmono, hsinv := hma.2
        hfields := by rw [hfields]; simp [List.append_assoc]
        hdone := by rw [totalSize_append, hdone]; exact hnx
        hpre := by rw [List.length_append, hpre, ← memberBytes_length, Nat.add_assoc]
        hbp := Nat.dvd_trans hBB hbp
        hmain := fun hm => ⟨(hmain hm).1, rfl⟩
        hpos := ?hpos, hnm := ?hnm, hpair := ?hpair },
      ?hss, Nat.le_succ_of_le hfP, hfM, fun _ => rfl⟩, fun tl => ?hK⟩
    case hpos =>
      show base + alignUp _ (Spec.alignMember (.mk n' t' k')) = _
      rw [← alignUp_add_left base _ _ ha'S, ← alignUp_add_left ppos _ _ ha'p]
      refine congrArg (fun z => alignUp z _) ?_
      rw [hme, hcl, ← Nat.add_assoc base, ← Nat.add_assoc ppos, hposE]
    case hnm =>
      intro hm
      obtain ⟨q1, q2, q3, q4, q5⟩ := hnm hm
      exact ⟨q1, q2, q3, q4, Nat.dvd_trans hBB q5⟩
    case hpair => exact fun hm q rest' hq => hpair hm q rest' hq
    case hss =>
      intro hm hdy
      rw [hss hm (by rw [Spec.dynMs_cons, heb, hdy]; rfl), hchunks]
      simp only [Spec.clen_cons, Spec.clen_append, Spec.Chunk.len, hme, Nat.add_assoc]
    case hK =>
      obtain ⟨e, he1, -⟩ := hma.1 tl
      rw [hK, swapMembers_cons, List.isEmpty_cons, he1]
      simp only [Bool.false_eq_true, if_false, List.append_assoc]
  | true =>
    -- the member ends its part: the next one starts the next part
    obtain ⟨q', rest', hq⟩ := partition_head (fun (g : MG) => g.isDyn) g2 gs''
    rw [partition_cons_ne _ g _ (by simp), hdy, heb, hq] at hpart
    obtain ⟨rfl, rfl⟩ := List.cons.inj (show [g] :: (g2 :: q') :: rest' = cur :: rest from hpart)
    simp only [List.flatMap_cons, List.flatMap_nil] at hfields
    have hma := member_at s w hk2 hng h1 hfields hdone hnm' hpre hpos hsinv (by omega : needField t v ≤ fM) true
    rw [heb] at h3
    rw [nextOff_ends heb] at h3 h4
    have hal2 : g2.align = Spec.blockAlign (.mk n' t' k' :: r') := h3.halign
    obtain ⟨hmono', hpair'⟩ := monoParts_cons _ _ hmono
    have hpp' : Spec.blockAlign (.mk n' t' k' :: r') ∣
        base + alignUp (memberEnd all allv n t k (.mk n' t' k' :: r') v off ad) (Spec.blockAlign (.mk n' t' k' :: r')) :=
      Nat.dvd_add (Nat.dvd_trans hB'A hbase) (dvd_alignUp _ _ hB'al.pos)
    refine ⟨_, ⟨g2, gs'', g2 :: q', rest', 0, (g2 :: q').flatMap (·.fields), [], _, Spec.blockAlign (.mk n' t' k' :: r'),
      false, sizersAfter g (ppos + fieldOffset fields g.m.name) sizers, fP, fP,
      { h1 := h3, hgs := h4, hpart := hq, hfields := (List.nil_append _).symm, hdone := rfl, hbp := hpp'
        hmono := hmono', hsinv := hma.2
        hpre := by rw [List.length_append, hpre, ← memberBytes_length, Nat.add_assoc]
        hpos := by simp
        hnm := fun _ => ⟨s.hdd _ hmem heb, hB'al, hB'A, hpp', Nat.dvd_refl _⟩
        hmain := fun h => by cases h
        hnames := ?hnames, hpair := ?hpair },
      (fun h => by cases h), hfP, hfP, fun _ => rfl⟩, fun tl => ?hK⟩
    case hnames =>
      simp only [List.flatten_cons, List.flatMap_append, List.map_append] at hnames ⊢
      exact (uniq_append _ _ hnames).2.1
    case hpair =>
      intro _ q2 rest2 hq2
      have := hpair' q2 rest2 hq2
      rw [partAlign_cons, hal2] at this
      exact this
    case hK =>
      obtain ⟨e, he1, he2⟩ := hma.1 tl
      obtain ⟨he, hdme⟩ := he2 heb
      have heS : e = base + (memberEnd all allv n t k (.mk n' t' k' :: r') v off ad) := by
        rw [he, hposE, hme, Nat.add_assoc]
      have hptr := next_part_ptr base (memberEnd all allv n t k (.mk n' t' k' :: r') v off ad) S
        (Spec.blockAlign (.mk n' t' k' :: r')) palign e isMain hbase hB'al hB'A heS
        (fun hm => by
          obtain ⟨_, q2, _, _, _⟩ := hnm hm
          refine ⟨q2, ?_⟩
          rcases hpair hm _ _ rfl with h | h
          · left; rw [partAlign_cons, hal2] at h; exact h
          · right
            rw [← h, lastAlign_single, h1.hm]
            exact hdme)
      rw [hK, swapMembers_cons]
      simp only [List.isEmpty_nil]
      rw [he1]
      simp only [if_true]
      rw [finishPart_more, swapParts_cons]
      simp only [palignOf_false, partAlign_cons, List.append_assoc]
      rw [hal2, hptr]

theorem walk (s : InStruct all allv S base any) (r : List Member) : ∀ {n : String} {t : Ty} {k : MKind} {v : Val}
      {vs : List Val} {before : List Member} {ad : Bool} {off : Nat} {pre : Bytes}
      {K : Bytes → Option (Bytes × Nat)} (post : Bytes),
    Rest all allv u n t k r v vs before → Stands all allv S base any ssize skind n t k r before v vs ad off pre K →
    K (pre ++ (Spec.render .big (Spec.chunksMs all allv (.mk n t k :: r) (v :: vs) off ad) ++ post)) =
      some (pre ++ (outMs u all allv (.mk n t k :: r) (v :: vs) off ad ++ post),
        base + alignUp (retOff u all allv (.mk n t k :: r) (v :: vs) off ad) S) := by
  induction r with
  | nil => exact fun post w h => walk_last s w h post
  | cons m' r' ih =>
    obtain ⟨n', t', k'⟩ := m'
    intro n t k v vs before ad off pre K post w h
    obtain ⟨v2, vs', rfl, w'⟩ := w.tail
    obtain ⟨K', h', heq⟩ := walk_step s w h
    rw [render_chunksMs_cons, outMs_cons, retOff_cons]
    simp only [List.append_assoc, List.isEmpty_cons, Bool.and_false, Bool.false_eq_true, if_false]
    rw [heq, ih post w' h']
    simp only [List.append_assoc]

end Walk

theorem swap_struct (u : Bool) (nm : String) (ms : List Member) (vs : List Val) (pre post : Bytes) (fuel pos : Nat)
    (hf : front (.struct nm ms) = true) (hp : pyRt (.struct nm ms) = true) (hd : partsOk (.struct nm ms) = true)
    (hh : hasField [] .plain (.struct nm ms) (.struct vs) = true) (ha : agreeTy (.struct nm ms) (.struct vs) = true)
    (hu : Spec.unlMs ms = u) (hvs : ∀ v ∈ vs, Deep TyOK v) (hpre : pre.length = pos) (hal : Spec.alignMs ms ∣ pos)
    (hfuel : needTy (.struct nm ms) (.struct vs) ≤ fuel) :
    swapTy fuel (.struct nm ms) (pre ++ Spec.render .big (Spec.chunksTy (.struct nm ms) (.struct vs)) ++ post) pos =
      some (pre ++ (outMs u ms vs ms vs 0 false ++
          (zeros (padTo (Spec.clen (Spec.chunksMs ms vs ms vs 0 false)) (Spec.alignMs ms)) ++ post)),
        pos + alignUp (retOff u ms vs ms vs 0 false) (Spec.alignMs ms)) := by
  obtain ⟨hne, huq, hw, hfm, hpm⟩ := Accept.struct_facts nm ms hf hp
  have hhm : hasMs ms ms vs = true := ((hasField_struct_iff [] .plain nm ms vs).1 hh).2
  simp only [agreeTy, Bool.and_eq_true] at ha
  obtain ⟨hagm, hagf⟩ := ha
  simp only [partsOk, Bool.and_eq_true] at hd
  obtain ⟨⟨⟨hnames, hmono⟩, hshift⟩, hdms⟩ := hd
  simp only [needTy] at hfuel
  obtain ⟨f, rfl⟩ : ∃ f, fuel = f + 2 := ⟨fuel - 2, by omega⟩
  have hg := groups_spec_p13 ms hfm
  have hna : (nodeTy (.struct nm ms)).align = Spec.alignMs ms := nodeTy_align' _
  obtain ⟨cur, rest, hpart⟩ := List.exists_cons_of_ne_nil (partition_ne_nil (fun (g : MG) => g.isDyn) (groupsOf ms))
  obtain ⟨m, r, rfl⟩ := List.exists_cons_of_ne_nil hne
  obtain ⟨n, t, k⟩ := m
  obtain ⟨v, vs', rfl⟩ := hasMs_cons_vals hhm
  obtain ⟨g, gs', hgs, hg1, hg2⟩ := hg.cons (Spec.alignMs_isAl _)
  rw [hgs] at hpart
  have hflat : groupsOf (.mk n t k :: r) = cur ++ rest.flatten := by
    have := partition_flatten (fun (g : MG) => g.isDyn) (groupsOf (.mk n t k :: r))
    rw [hgs, hpart] at this
    rw [hgs, ← this]; rfl
  have hmono' : monoParts rest = true := by
    unfold monoOk at hmono; rw [hgs, hpart] at hmono; exact hmono
  have hnames' : WF.uniq (((cur.flatMap (·.fields)) ++ rest.flatten.flatMap (·.fields)).map (·.name)) = true := by
    unfold namesOk at hnames; rw [hflat, List.flatMap_append] at hnames; exact hnames
  have hbp : Spec.blockAlign (.mk n t k :: r) ∣ pos :=
    Nat.dvd_trans (Spec.blockAlign_dvd _ (Spec.alignMs_isAl _) _ (fun m hm => Spec.alignMember_dvd_alignMs m _ hm)) hal
  have hbody := walk (u := u) (ssize := sizeofTy (.struct nm (.mk n t k :: r)))
    (skind := (nodeTy (.struct nm (.mk n t k :: r))).kind)
    ⟨rfl, hal, huq, hw, hhm, hshift, Spec.dynMs_of_mem_endsBlock _⟩ r
    (zeros (padTo (Spec.clen (Spec.chunksMs (.mk n t k :: r) (v :: vs') (.mk n t k :: r) (v :: vs') 0 false))
      (Spec.alignMs (.mk n t k :: r))) ++ post)
    ⟨rfl, hfm, hpm, hdms, hu, hhm, hagf, lensOk_of_agree _ _ hagm, hvs⟩
    (ad := false) (off := 0) (pre := pre)
    ⟨g, gs', cur, rest, 0, _, [], pos, 1, true, [], f, f,
      { h1 := hg1, hgs := hg2, hpart := hpart, hfields := (List.nil_append _).symm, hdone := rfl, hnames := hnames'
        hbp := hbp, hmono := hmono', hmain := fun _ => ⟨rfl, rfl⟩
        hpre := by simp [hpre]
        hpos := by simp [alignUp_zero]
        hnm := fun h => by cases h
        hpair := fun h => by cases h
        hsinv := fun s p hm => by cases hm },
      (fun _ hdy => by
        have hdt : Spec.dynTy (.struct nm (.mk n t k :: r)) = false := hdy
        rw [sizeof_ok_p13 _ hf hdt, ← Spec.clen_fixed _ (.struct (v :: vs')) (fixed_of_ok _ (Cpp.ok_of_front _ hf) hdt) rfl hh]
        simp only [Spec.chunksTy, Spec.clen_append, Spec.clen_cons, Spec.clen_nil, Spec.Chunk.len, Nat.zero_add,
          Nat.add_zero]
        rfl),
      by omega, by omega, fun _ => rfl⟩
  simp only [Spec.chunksTy, Spec.render_append, render_cons, render_nil, Spec.Chunk.render, List.append_nil,
    List.append_assoc]
  rw [show f + 2 = (f + 1) + 1 from rfl, swapTy_struct, hgs, hpart, swapParts_cons]
  simp only [palignOf_main, padTo_one, Nat.add_zero, hna]
  rw [hbody]

theorem tyOK_struct (vs : List Val) (hvs : ∀ v ∈ vs, Deep TyOK v) : TyOK (.struct vs) := by
  intro t pre post fuel pos hf hp hd hc hh ha hu hpre hal hfuel
  obtain ⟨-, nm, ms, rfl, -⟩ := hasField_struct [] .plain t vs hh
  rw [swap_struct false nm ms vs pre post fuel pos hf hp hd hh ha hu hvs hpre hal hfuel, outMs_false]
  simp only [retOff, Bool.false_eq_true, if_false, Spec.chunksTy, Spec.render_append, render_cons, render_nil,
    Spec.Chunk.render, List.append_nil, List.append_assoc, Spec.clen_append, Spec.clen_cons, Spec.clen_nil,
    Spec.Chunk.len, Nat.add_zero, Nat.zero_add]
  rfl

theorem tyOK_vacuous (v : Val) (h : ∀ t, hasField [] .plain t v = false) : TyOK v := by
  intro t pre post fuel pos hf hp hd hc hh
  rw [h t] at hh; cases hh

theorem deep_ok (v : Val) : Deep TyOK v :=
  Val.deep_ind tyOK_int (fun t pre post fuel pos hf hp hd hc => by cases hc) tyOK_vacuous tyOK_struct tyOK_union v

theorem lastStart_ge (all : List Member) (allv : List Val) : (ms : List Member) → (vs : List Val) → (off : Nat) →
    (ad : Bool) → off ≤ lastStart all allv ms vs off ad
  | [], _, _, _ => by simp [lastStart]
  | .mk n t k :: r, [], _, _ => by simp [lastStart]
  | .mk n t k :: r, v :: vs, off, ad => by
    rw [lastStart_cons]
    split
    · omega
    · have := lastStart_ge all allv r vs (memberEnd all allv n t k r v off ad) (Spec.endsBlock (.mk n t k))
      have hme := memberEnd_eq all allv n t k r v off ad
      omega

theorem lastStart_le (all : List Member) (allv : List Val) : (ms : List Member) → (vs : List Val) → (off : Nat) →
    (ad : Bool) → lastStart all allv ms vs off ad ≤ off + Spec.clen (Spec.chunksMs all allv ms vs off ad)
  | [], _, _, _ => by simp [lastStart]
  | .mk n t k :: r, [], _, _ => by simp [lastStart]
  | .mk n t k :: r, v :: vs, off, ad => by
    rw [lastStart_cons, Spec.chunksMs_cons, ← memberEnd_eq]
    simp only [Spec.clen_cons, Spec.clen_append, Spec.Chunk.len]
    split
    · omega
    · have := lastStart_le all allv r vs (memberEnd all allv n t k r v off ad) (Spec.endsBlock (.mk n t k))
      have hme := memberEnd_eq all allv n t k r v off ad
      omega

theorem outMs_take_drop (all : List Member) (allv : List Val) : (ms : List Member) → (vs : List Val) → (off : Nat) →
    (ad : Bool) →
    outMs true all allv ms vs off ad =
      (Spec.render .little (Spec.chunksMs all allv ms vs off ad)).take (lastStart all allv ms vs off ad - off) ++
      (Spec.render .big (Spec.chunksMs all allv ms vs off ad)).drop (lastStart all allv ms vs off ad - off)
  | [], _, _, _ => by simp [outMs, Spec.chunksMs, lastStart, render_nil]
  | .mk n t k :: r, [], _, _ => by simp [outMs, Spec.chunksMs, lastStart, render_nil]
  | .mk n t k :: r, v :: vs, off, ad => by
    have ih := outMs_take_drop all allv r vs (memberEnd all allv n t k r v off ad) (Spec.endsBlock (.mk n t k))
    have hge := lastStart_ge all allv r vs (memberEnd all allv n t k r v off ad) (Spec.endsBlock (.mk n t k))
    have hme := memberEnd_eq all allv n t k r v off ad
    rw [outMs_cons, lastStart_cons, Spec.chunksMs_cons, ← memberEnd_eq]
    simp only [memberBytes]
    generalize (if ad then Spec.blockAlign (.mk n t k :: r) else Spec.alignMember (.mk n t k)) = a at *
    simp only [render_cons, Spec.render_append, Spec.Chunk.render, Bool.true_and, List.append_assoc]
    cases hr : r.isEmpty with
    | true =>
      have : r = [] := by simpa using hr
      subst this
      simp only [if_true]
      rw [show off + padTo off a - off = (zeros (padTo off a)).length + 0 by simp]
      rw [List.take_length_add_append, List.drop_length_add_append]
      simp [outMs, Spec.chunksMs, render_nil]
    | false =>
      simp only [Bool.false_eq_true, if_false]
      have h1 : ∀ e, lastStart all allv r vs (memberEnd all allv n t k r v off ad) (Spec.endsBlock (.mk n t k)) - off =
          (zeros (padTo off a)).length + ((Spec.render e (Spec.fieldChunks all allv n t k v)).length +
            (lastStart all allv r vs (memberEnd all allv n t k r v off ad) (Spec.endsBlock (.mk n t k)) -
              memberEnd all allv n t k r v off ad)) := by
        intro e; simp; omega
      rw [ih]
      conv => rhs; arg 1; rw [h1 .little, List.take_length_add_append, List.take_length_add_append]
      conv => rhs; arg 2; rw [h1 .big, List.drop_length_add_append, List.drop_length_add_append]
      simp [List.append_assoc]

end Raw
end Prophy
