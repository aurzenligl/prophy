/- whatever `Py.decode` returns is a well-typed, coherent, guarded value (C06, second clause) -/
import ProphyModel.Lemmas.PyEncode
import ProphyModel.Lemmas.WFAccept
import ProphyModel.Lemmas.Counters
import ProphyModel.Lemmas.PyDecodeStep
namespace Prophy
open Prophy WF Accept

/-! The decoder of a limited BYTES member raises `ProphyError("too long")` when `len_hint > size`.  Without that
  check `data[pos:pos+len_hint]`, which Python cuts at the end of the buffer, would pass with fewer than `len_hint`
  bytes; with another array on the same counter decoded with `len_hint` elements the result would hold two arrays of
  different lengths on one sizer and not encode ("Size mismatch of arrays", D50).  `T`, `D_dt`, `V` are that input
  and the value that would come out. -/
namespace DecodeTypedCx

/-- `struct S { u8 n; byte b<2> (bound n); byte a<1> (bound n); }` -/
def T : Ty := .struct "S" [.mk "n" (.prim .u8) .plain, .mk "b" .byte (.limited "n" 2), .mk "a" .byte (.limited "n" 1)]

def D_dt : Bytes := [2, 1, 2, 4]

def V : Val := .struct [.sizer, .bytes [1, 2], .bytes [4]]

theorem front_T : Accept.front T = true := by decide +kernel
theorem pyRt_T : Accept.pyRt T = true := by decide +kernel
theorem hasType_V : hasType T V = true := by decide +kernel
theorem guard_V : WF.guardTy T V = true := by decide +kernel
theorem not_agree_V : WF.agreeTy T V = false := by decide +kernel
theorem encode_V : Py.encode T V .little = .error .prophy := by rfl

theorem decode_D : Py.decode T D_dt .little = .error .prophy := by rfl

/-- the same with a dynamic array in front: `struct S { u8 n; byte b<@n>; byte a<1> (bound n); }` -/
def T' : Ty := .struct "S" [.mk "n" (.prim .u8) .plain, .mk "b" .byte (.dyn "n" 0), .mk "a" .byte (.limited "n" 1)]

theorem accept_T' : Accept.front T' = true ∧ Accept.pyRt T' = true := by decide +kernel
theorem not_agree_V' : WF.agreeTy T' V = false := by decide +kernel
theorem decode_D' : Py.decode T' D_dt .little = .error .prophy := by rfl

end DecodeTypedCx

/-- what C06's second clause says of a decoded value (`_dt`: of the decode-typed theorem, as in `HintsOk_dt`, `D_dt`) -/
structure Good_dt (t : Ty) (v : Val) : Prop where
  nc : v.isCounter = false
  ty : hasField [] .plain t v = true
  ag : agreeTy t v = true
  gd : guardTy t v = true

theorem Py.good_elems (t : Ty) : ∀ vs : List Val, (∀ v ∈ vs, Good_dt t v) →
    hasElems t vs = true ∧ agreeElems t vs = true ∧ guardElems t vs = true
  | [], _ => ⟨hasElems_nil t, by cases t <;> rfl, by cases t <;> rfl⟩
  | x :: xs, h => by
    have hx := h x (List.mem_cons_self ..)
    obtain ⟨a, b, c⟩ := Py.good_elems t xs (fun v hv => h v (List.mem_cons_of_mem _ hv))
    rw [hasElems_cons_eq, WF.agreeElems_cons, WF.guardElems_cons]
    simp [hx.nc, hx.ty, hx.ag, hx.gd, a, b, c]

/-- what `Py.field_typed` reads off one `FieldRes`.  `mode`: the member was a counter (its count `c`, in range, heads the
    new hints) or was not (hints unchanged; a counted array has the length of its hint) -/
structure FieldOk (all : List Member) (n : String) (t : Ty) (k : MKind)
    (hints : List (String × Nat)) (v : Val) (hints' : List (String × Nat)) : Prop where
  ty : hasField all k t v = true
  ag : agreeTy t v = true
  gd : guardTy t v = true
  glen : ∀ s, k.sizer? = some s → v.len ≤ guardLimit
  mode :
    (k = .plain ∧ isSizer n all = true ∧ v = .sizer ∧ ∃ c, hints' = Py.boundHints all n c ++ hints ∧
        (c : Int) + (sizerShift n all : Int) ≤ sizerMax n all ∧ c ≤ guardLimit) ∨
    ((k = .plain → isSizer n all = false) ∧ v.isCounter = false ∧ hints' = hints ∧
      ∀ s, k.sizer? = some s → hints.lookup n = some v.len)

theorem lenFits_of {all : List Member} {k : MKind} {hints : List (String × Nat)} {n : String} {len : Nat}
    (hl : Py.LenOf k hints n len) (hshift : ∀ s, k.sizer? = some s → k.shift = sizerShift s all)
    (hh : ∀ s, k.sizer? = some s → ∀ c, hints.lookup n = some c →
        (c : Int) + (sizerShift s all : Int) ≤ sizerMax s all ∧ c ≤ guardLimit) :
    lenFits all k len = true ∧ ∀ s, k.sizer? = some s → len ≤ guardLimit := by
  refine ⟨?_, fun s hs => (hh s hs len (hl.hint s hs)).2⟩
  cases k with
  | plain => exact absurd rfl hl.arr.1
  | optional => exact absurd rfl hl.arr.2
  | fixed c => exact (lenFits_fixed all c len).2 (hl.fixed c rfl)
  | dyn s sh =>
    have := (hh s rfl len (hl.hint s rfl)).1
    have hsh : sh = sizerShift s all := hshift s rfl
    exact (lenFits_dyn all s sh len).2 (by omega)
  | limited s c =>
    have := (hh s rfl len (hl.hint s rfl)).1
    exact (lenFits_limited all s c len).2 ⟨hl.lim s c rfl, by omega⟩
  | greedy => rfl

theorem Py.field_typed {e : Endian} {all : List Member} {n : String} {t : Ty} {k : MKind} {f : Py.St}
    {data : Bytes} {pos0 : Nat} {hints : List (String × Nat)} {v : Val} {sz : Nat} {hints' : List (String × Nat)}
    (h : Py.FieldRes e all n t k f data pos0 hints false v sz hints')
    (hty : ∀ {d q b w s}, Py.decTy e t d q b = .ok (w, s) → Good_dt t w)
    (hsp : isSizer n all = true → k = .plain ∧ ∃ p, t = .prim p ∧ sizerMax n all = (primRange p).2)
    (hshift : ∀ s, k.sizer? = some s → k.shift = sizerShift s all)
    (hh : ∀ s, k.sizer? = some s → ∀ c, hints.lookup n = some c →
        (c : Int) + (sizerShift s all : Int) ≤ sizerMax s all ∧ c ≤ guardLimit) :
    FieldOk all n t k hints v hints' := by
  cases h with
  | sizer c sz hk hs hd =>
    subst hk
    obtain ⟨_, p, rfl, hmax⟩ := hsp hs
    obtain ⟨hr, hg, _, _⟩ := Py.decSizer_spec hd
    simp only [inRange, Bool.and_eq_true, decide_eq_true_eq] at hr
    exact ⟨(hasField_sizer all _ _).2 rfl, rfl, rfl, nofun,
      Or.inl ⟨rfl, hs, rfl, c, rfl, by rw [hmax]; exact hr.2, hg⟩⟩
  | plain v sz hk hs hd =>
    subst hk
    have hg := hty hd
    exact ⟨by rw [hasField_plain_indep all []]; exact hg.ty, hg.ag, hg.gd, nofun,
      Or.inr ⟨fun _ => hs, hg.nc, rfl, nofun⟩⟩
  | absent x hk _ =>
    subst hk
    obtain ⟨ha, hg⟩ := agreeTy_flat t .absent trivial
    exact ⟨(hasField_absent all _ t).2 rfl, ha, hg, nofun, Or.inr ⟨nofun, rfl, rfl, nofun⟩⟩
  | present flag x w s hk _ _ hx =>
    subst hk
    have hg := hty hx
    exact ⟨(hasField_present all _ t w).2 ⟨rfl, hg.nc, by rw [hasField_plain_indep all []]; exact hg.ty⟩,
      by rw [WF.agreeTy_present]; exact hg.ag, by rw [WF.guardTy_present]; exact hg.gd, nofun,
      Or.inr ⟨nofun, rfl, rfl, nofun⟩⟩
  | bytes b sz ht hl _ _ _ =>
    subst ht
    obtain ⟨hfit, hgl⟩ := lenFits_of hl hshift hh
    obtain ⟨ha, hg⟩ := agreeTy_flat .byte (.bytes b) trivial
    exact ⟨(hasField_bytes_iff all k .byte b).2 ⟨rfl, hfit⟩, ha, hg, hgl,
      Or.inr ⟨fun hk => absurd hk hl.arr.1, rfl, rfl, hl.hint⟩⟩
  | arr vs cur sz hb hl hst _ _ =>
    obtain ⟨hfit, hgl⟩ := lenFits_of hl hshift hh
    obtain ⟨h1, h2, h3⟩ := Py.good_elems t vs (hst.all (fun _ _ _ hq => hty hq))
    exact ⟨(hasField_arr_iff all k t vs).2 ⟨hb, hfit, h1⟩, by rw [WF.agreeTy_arr]; exact h2,
      by rw [WF.guardTy_arr]; exact h3, hgl, Or.inr ⟨fun hk => absurd hk hl.arr.1, rfl, rfl, hl.hint⟩⟩

/-- `Hinted`, every counter taken as read: an entry found is within its counter's range and the guard -/
def HintsOk_dt (all : List Member) (hints : List (String × Nat)) : Prop :=
  ∀ m ∈ all, ∀ s, m.kind.sizer? = some s → ∀ c, hints.lookup m.name = some c →
    (c : Int) + (sizerShift s all : Int) ≤ sizerMax s all ∧ c ≤ guardLimit

theorem hintsOk_bound (all : List Member) (UQ : ∀ m ∈ all, ∀ m' ∈ all, m.name = m'.name → m = m')
    (n : String) (c : Nat) (hints : List (String × Nat)) (h : HintsOk_dt all hints)
    (hb : (c : Int) + (sizerShift n all : Int) ≤ sizerMax n all ∧ c ≤ guardLimit) :
    HintsOk_dt all (Py.boundHints all n c ++ hints) := by
  intro m hm s hs
  exact Hinted.counter (seen := fun _ => True) (seen' := fun _ => True)
    (Q := fun _ s o => ∀ c, o = some c → (c : Int) + (sizerShift s all : Int) ≤ sizerMax s all ∧ c ≤ guardLimit)
    UQ (fun m hm s hs _ => h m hm s hs) (fun _ hm => ⟨hm, hm⟩) (fun _ _ => Or.inl trivial)
    (fun _ _ _ _ hc => by cases hc; exact hb) m hm s hs trivial

/-- what the walk over a struct's members carries along: what a counter is, and that names identify members -/
structure SizerSpec (all : List Member) : Prop where
  prim : ∀ n t k, Member.mk n t k ∈ all → isSizer n all = true →
    k = .plain ∧ ∃ p, t = .prim p ∧ sizerMax n all = (primRange p).2
  uniq : ∀ m ∈ all, ∀ m' ∈ all, m.name = m'.name → m = m'

theorem sizerSpec_of_wf (ms : List Member) (hu : WF.uniq (ms.map (·.name)) = true) (hw : wfMs ms ms = true) :
    SizerSpec ms where
  prim n t k hm hs := by
    obtain ⟨p, h1, h2, _, h4⟩ := WF.sizer_prim ms hu hw n t k hm hs
    exact ⟨h2, p, h1, h4⟩
  uniq m hm m' hm' hn := WF.uniq_name_inj ms hu m m' hm hm' hn

theorem Py.decTy_typed_cases (e : Endian) : Py.DecCases e
    (fun t _ _ _ v _ => front t = true → pyRt t = true → Good_dt t v)
    (fun all ms _ _ _ _ hints vs _ => ∀ before, all = before ++ ms → frontMs all ms before = true →
      pyRtMs all ms before = true → SizerSpec all → HintsOk_dt all hints →
      hasMs all ms vs = true ∧ agreeFields ms vs = true ∧ guardFields all ms vs = true ∧ Run all ms hints vs) where
  prim p data pos term i sz hd _ _ := ⟨rfl, (Py.decScalar_spec hd).1, rfl, rfl⟩
  byte data pos term i sz hd _ _ := ⟨rfl, (Py.decScalar_spec hd).1, rfl, rfl⟩
  enum nm es data pos term i sz _ hany _ _ := ⟨rfl, hany, rfl, rfl⟩
  struct nm ms data pos term vs pos1 _ ih _ hf hp := by
    have hw := Accept.wf_of_accept _ hf hp
    rw [WF.wfTy_struct, Bool.and_eq_true] at hw
    simp only [front, Bool.and_eq_true] at hf
    simp only [pyRt] at hp
    have S := sizerSpec_of_wf ms hw.1 hw.2
    obtain ⟨h1, h2, h3, hrun⟩ := ih [] rfl hf.2 hp S (by intro m _ s _ c hc; simp at hc)
    have hag := run_agree ms vs hw.1 (fun n t k hm hs => (S.prim n t k hm hs).1) (sizerBefore_of_pyRt ms hp) hrun
    exact ⟨rfl, (hasField_struct_iff [] .plain nm ms vs).2 ⟨rfl, h1⟩, by rw [WF.agreeTy_struct, hag, h2]; rfl,
      by rw [WF.guardTy_struct]; exact h3⟩
  union nm arms data pos term d x idx an dd t w s _ hget _ _ ih _ _ hf hp := by
    rw [Accept.front_union] at hf
    simp only [Bool.and_eq_true] at hf
    rw [Accept.pyRt_union, Bool.and_eq_true] at hp
    have hg := ih (Accept.frontArms_get arms hf.2 idx _ hget) (Accept.pyRtArms_get arms hp.2 idx _ hget).1
    exact ⟨rfl, (hasField_union_iff [] .plain nm arms idx w an dd t hget).2 ⟨rfl, hg.nc, hg.ty⟩,
      by rw [WF.agreeTy_union nm arms idx w an dd t hget]; exact hg.ag,
      by rw [WF.guardTy_union nm arms idx w an dd t hget]; exact hg.gd⟩
  nil all fs ps data pos hints before _ _ _ _ _ := ⟨rfl, rfl, rfl, Run.nil _⟩
  cons all n t k r f fs p ps data pos hints v sz hints' vs pe hres iht _ ihm before hall hf hp S hok := by
    obtain ⟨hft, hfr⟩ := Accept.frontMs_head_tail hf
    obtain ⟨hpt, _, _, _, _, _, hshift, hpr⟩ := (Accept.pyRtMs_cons all n t k r before).1 hp
    have hmem : Member.mk n t k ∈ all := by rw [hall]; simp
    have F := Py.field_typed hres (fun hd => iht hd hft hpt) (S.prim n t k hmem)
      (fun s hs => by unfold shiftOk at hshift; rw [hs] at hshift; simp only [Bool.and_eq_true, beq_iff_eq] at hshift; exact hshift.2)
      (fun s hs c hc => hok _ hmem s hs c hc)
    have hok' : HintsOk_dt all hints' := by
      rcases F.mode with ⟨_, _, _, c, rfl, hb1, hb2⟩ | ⟨_, _, rfl, _⟩
      · exact hintsOk_bound all S.uniq n c hints hok ⟨hb1, hb2⟩
      · exact hok
    obtain ⟨i1, i2, i3, irun⟩ := ihm (before ++ [Member.mk n t k]) (by simp [hall]) hfr hpr S hok'
    refine ⟨?_, ?_, ?_, ?_⟩
    · rw [hasMs_cons]
      refine ⟨?_, F.ty, i1⟩
      rcases F.mode with ⟨_, hs, rfl, _⟩ | ⟨hns, hnc, _, _⟩
      · rw [hs]; rfl
      · rw [hnc]
        cases hs : isSizer n all with
        | false => rfl
        | true => rw [hns (S.prim n t k hmem hs).1] at hs; cases hs
    · rw [WF.agreeFields_cons, F.ag, i2]; rfl
    · rw [WF.guardFields_cons]
      simp only [Bool.and_eq_true]
      refine ⟨⟨?_, F.gd⟩, i3⟩
      cases hk : k.sizer? with
      | none => rfl
      | some s => simpa using F.glen s hk
    · rcases F.mode with ⟨rfl, hs, rfl, c, rfl, _, _⟩ | ⟨hns, _, rfl, hb⟩
      · exact Run.sizer n t r hints c vs hs irun
      · exact Run.other n t k r hints' v vs hns hb irun

theorem Py.decTy_typed (e : Endian) (t : Ty) (hf : front t = true) (hp : pyRt t = true)
    (data : Bytes) (pos : Nat) (term : Bool) (v : Val) (sz : Nat)
    (h : Py.decTy e t data pos term = .ok (v, sz)) : Good_dt t v :=
  (Py.decTy_post (Py.decTy_typed_cases e)).1 t data pos term v sz h hf hp

theorem dec_ms_ok (e : Endian) : (ms : List Member) → ∀ (all before : List Member), all = before ++ ms →
      frontMs all ms before = true → pyRtMs all ms before = true →
      (∀ n t k, Member.mk n t k ∈ all → isSizer n all = true →
          k = .plain ∧ ∃ p, t = .prim p ∧ sizerMax n all = (primRange p).2) →
      (∀ m ∈ all, ∀ m' ∈ all, m.name = m'.name → m = m') →
      ∀ (fs : List Py.St) (ps : List (Option Nat)) (data : Bytes) (pos : Nat) (hints : List (String × Nat))
        (vs : List Val) (posEnd : Nat), HintsOk_dt all hints →
      Py.decMs e all ms fs ps data pos hints = .ok (vs, posEnd) →
      hasMs all ms vs = true ∧ agreeFields ms vs = true ∧ guardFields all ms vs = true ∧
      Run all ms hints vs :=
  fun ms all before hall hf hp SP UQ fs ps data pos hints vs pe hok h =>
    (Py.decTy_post (Py.decTy_typed_cases e)).2 ms all fs ps data pos hints vs pe h before hall hf hp ⟨SP, UQ⟩ hok

theorem dec_arms_ok (e : Endian) : (arms : List Arm) → frontArms arms = true → pyRtArms arms = true →
      ∀ (all : List Arm) (disc : Int) (data : Bytes) (pos idx i : Nat) (v : Val),
      Py.decArms e all arms disc data pos idx = .ok (i, v) →
      ∃ j an ad at', i = idx + j ∧ arms[j]? = some (.mk an ad at') ∧ Good_dt at' v := by
  intro arms hf hp all disc data pos idx i v h
  obtain ⟨j, an, d, t, s, hj, hget, _, hx⟩ := Py.decArms_ok h
  exact ⟨j, an, d, t, hj, hget, Py.decTy_typed e t (Accept.frontArms_get arms hf j _ hget)
    (Accept.pyRtArms_get arms hp j _ hget).1 _ _ _ _ _ hx⟩

/-- C06, second clause: whatever `decode` returns is a well-typed, coherent value within the decoder's
    counter guard -/
theorem Py.decode_typed (t : Ty) (data : Bytes) (e : Endian) (v : Val) (n : Nat)
    (hf : Accept.front t = true) (hp : Accept.pyRt t = true)
    (h : Py.decode t data e = .ok (v, n)) :
    hasType t v = true ∧ WF.agreeTy t v = true ∧ WF.guardTy t v = true := by
  have g := Py.decTy_typed e t hf hp data 0 true v n h
  exact ⟨by simp [hasType, g.nc, g.ty], g.ag, g.gd⟩

theorem Py.decoded_encodes (t : Ty) (data : Bytes) (e : Endian) (v : Val) (n : Nat)
    (hf : Accept.front t = true) (hp : Accept.pyRt t = true)
    (h : Py.decode t data e = .ok (v, n)) :
    ∀ e', Py.encode t v e' = .ok (Spec.enc t v e') := by
  obtain ⟨h1, h2, _⟩ := Py.decode_typed t data e v n hf hp h
  exact fun e' => Py.encode_canonical t v e' (Accept.wf_of_accept t hf hp) h1 h2

end Prophy

#print axioms Prophy.Py.decode_typed
#print axioms Prophy.Py.decoded_encodes
