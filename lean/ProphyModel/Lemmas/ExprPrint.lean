/-
  C14, grouping: the parser of `Expr.lean` inverts a printer.  `Rep l a t` (it is `RepT calcT` of `ExprParse.lean`)
  relates a tree `a` to every token list `t` that writes it with the parentheses the precedence table requires plus
  ANY redundant ones; `parse_iff_rep : parse t = some a ↔ Rep 0 a t`; the printers `toks` (minimal parentheses) and
  `toksFull` are instances.  Also here: `evalToks` (parse, then evaluate) and `rawBinop_of_binop` (about the
  evaluator; shared by ExprHost and Properties/C14).
-/
import ProphyModel.Lemmas.ExprParse
namespace Prophy
namespace Expr

/-- It is `RepT calcT`, kept apart for the statement of `C14_parser_language`.
    `Rep l a t`: the token list `t` is a way of writing the tree `a` in a context that admits
    unparenthesised binary operators of level `≥ l` only (`l = 0`: anywhere a full expression is
    allowed; `l = 4`: operand of unary minus).  Parentheses may be added anywhere (`paren`), and may
    be omitted only where the precedence table allows it (`bin`). -/
inductive Rep : Nat → Ast → List Tok → Prop
  | num (l n : Nat) : Rep l (.num n) [.num n]
  | name (l : Nat) (s : String) : Rep l (.name s) [.ident s]
  | neg (l : Nat) (e : Ast) (t : List Tok) : Rep 4 e t → Rep l (.neg e) (.minus :: t)
  | bin (l : Nat) (op : BinOp) (x y : Ast) (tx ty : List Tok) :
      l ≤ lvl op → Rep (lnx op) x tx → Rep (nxt op) y ty →
      Rep l (.bin op x y) (tx ++ opTok op :: ty)
  | paren (l : Nat) (a : Ast) (t : List Tok) : Rep 0 a t → Rep l a (.lpar :: t ++ [.rpar])

theorem RepT_of_Rep {l : Nat} {a : Ast} {t : List Tok} (h : Rep l a t) : RepT calcT l a t := by
  induction h with
  | num l n => exact .num l n
  | name l s => exact .name l s
  | neg l e t _ ih => exact .neg l e t ih
  | bin l op x y tx ty hl _ _ ihx ihy => exact .bin l op x y tx ty hl ihx ihy
  | paren l a t _ ih => exact .paren l a t ih

theorem Rep_of_RepT {l : Nat} {a : Ast} {t : List Tok} (h : RepT calcT l a t) : Rep l a t := by
  induction h with
  | num l n => exact .num l n
  | name l s => exact .name l s
  | neg l e t _ ih => exact .neg l e t ih
  | bin l op x y tx ty hl _ _ ihx ihy => exact .bin l op x y tx ty hl ihx ihy
  | paren l a t _ ih => exact .paren l a t ih

theorem parse_iff_repT (t : List Tok) (a : Ast) : parse t = some a ↔ RepT calcT 0 a t := by
  rw [← parseWith_binInfo, ← calcT_info]; exact parseWith_iff_repT calcT_wf t a

theorem parse_iff_rep (t : List Tok) (a : Ast) : parse t = some a ↔ Rep 0 a t :=
  (parse_iff_repT t a).trans ⟨Rep_of_RepT, RepT_of_Rep⟩

/-- `parse`'s fuel `4n+4` is sufficient: every representation of `a` parses to `a`,
    however it is parenthesised -/
theorem Rep.parse_eq {a : Ast} {t : List Tok} (h : Rep 0 a t) : parse t = some a :=
  (parse_iff_rep t a).2 h

theorem Rep.unique {a b : Ast} {t : List Tok} (ha : Rep 0 a t) (hb : Rep 0 b t) : a = b := by
  have h1 := ha.parse_eq
  rw [hb.parse_eq] at h1
  injection h1 with h1
  exact h1.symm

/-- printer with MINIMAL parentheses at context level `l`: a binary node is parenthesised iff its
    level is below `l`; its left operand is printed at level `lnx op` (same level allowed for the
    left-associative operators, strictly higher for the right-associative `|`), its right operand at
    `nxt op` (strictly higher level for left-associative operators); the operand of unary minus
    at level 4 (every binary node parenthesised, nested minus / literals / names bare). -/
def toksP : Nat → Ast → List Tok
  | _, .num n => [.num n]
  | _, .name s => [.ident s]
  | _, .neg e => .minus :: toksP 4 e
  | l, .bin op x y =>
    if lvl op < l then .lpar :: (toksP (lnx op) x ++ opTok op :: toksP (nxt op) y) ++ [.rpar]
    else toksP (lnx op) x ++ opTok op :: toksP (nxt op) y

def toks (a : Ast) : List Tok := toksP 0 a

/-- parenthesise a compound (non-literal, non-name) expression -/
def wrap (a : Ast) (t : List Tok) : List Tok :=
  match a with
  | .num _ => t
  | .name _ => t
  | _ => .lpar :: t ++ [.rpar]

def toksFull : Ast → List Tok
  | .num n => [.num n]
  | .name s => [.ident s]
  | .neg e => .minus :: wrap e (toksFull e)
  | .bin op x y => wrap x (toksFull x) ++ opTok op :: wrap y (toksFull y)

theorem rep_toksP (a : Ast) : ∀ l, Rep l a (toksP l a) := by
  induction a with
  | num n => intro l; exact .num l n
  | name s => intro l; exact .name l s
  | neg e ih => intro l; exact .neg l e _ (ih 4)
  | bin op x y ihx ihy =>
    intro l
    have h0 : Rep 0 (.bin op x y) (toksP (lnx op) x ++ opTok op :: toksP (nxt op) y) :=
      .bin 0 op x y _ _ (Nat.zero_le _) (ihx _) (ihy _)
    unfold toksP
    split
    · exact .paren l _ _ h0
    · exact .bin l op x y _ _ (by omega) (ihx _) (ihy _)

theorem repT_toksFull (T : Table) (a : Ast) :
    RepT T 0 a (toksFull a) ∧ ∀ l, RepT T l a (wrap a (toksFull a)) := by
  induction a with
  | num n => exact ⟨.num 0 n, fun l => .num l n⟩
  | name s => exact ⟨.name 0 s, fun l => .name l s⟩
  | neg e ih =>
    have h0 : RepT T 0 (.neg e) (toksFull (.neg e)) := .neg 0 e _ (ih.2 4)
    exact ⟨h0, fun l => .paren l _ _ h0⟩
  | bin op x y ihx ihy =>
    have h0 : RepT T 0 (.bin op x y) (toksFull (.bin op x y)) :=
      .bin 0 op x y _ _ (Nat.zero_le _) (ihx.2 _) (ihy.2 _)
    exact ⟨h0, fun l => .paren l _ _ h0⟩

theorem parseWith_toksFull {T : Table} (hT : T.WF) (a : Ast) :
    parseWith T.info (toksFull a) = some a := (repT_toksFull T a).1.parse_eq hT

/-- Every tree is printable at token level: `Ast.num` and `Tok.num` both carry a `Nat` (a negative constant is
    `Ast.neg (.num n)`, printed with unary minus) and `Ast.name` / `Tok.ident` both carry an arbitrary `String`. -/
theorem parse_toks (a : Ast) : parse (toks a) = some a :=
  (rep_toksP a 0).parse_eq

theorem parse_toksFull (a : Ast) : parse (toksFull a) = some a :=
  (parse_iff_repT _ a).2 (repT_toksFull calcT a).1

theorem parse_wrap_toksFull (a : Ast) : parse (wrap a (toksFull a)) = some a :=
  (parse_iff_repT _ a).2 ((repT_toksFull calcT a).2 0)

theorem rawBinop_of_binop {op : BinOp} {a b v : Int} (h : binop op a b = .ok v) :
    rawBinop op a b = .ok v ∧ inRange64 v = true := by
  unfold binop at h
  split at h
  · cases h
  · cases hr : rawBinop op a b with
    | error e => simp [hr] at h
    | ok w =>
      simp only [hr] at h
      split at h
      · rename_i hin
        cases h
        exact ⟨rfl, hin⟩
      · cases h

def evalToks (env : String → Option Int) (t : List Tok) : Outcome :=
  match parse t with
  | none => .syntaxError
  | some e => match eval env e with
    | .ok v => .value v
    | .error x => .evalError x

theorem evalText_eq_evalToks (octal : Bool) (env : String → Option Int) (s : String) :
    evalText octal env s =
      match tokenize octal s with
      | none => .syntaxError
      | some t => if octal && t.contains .bar then .syntaxError else evalToks env t := by
  unfold evalText evalToks
  rfl

-- `1 - 2 - 3` is `(1 - 2) - 3`
example : parse [.num 1, .minus, .num 2, .minus, .num 3]
    = some (.bin .sub (.bin .sub (.num 1) (.num 2)) (.num 3)) := by decide +kernel
-- `8 / 4 * 2` is `(8 / 4) * 2`
example : parse [.num 8, .slash, .num 4, .star, .num 2]
    = some (.bin .mul (.bin .div (.num 8) (.num 4)) (.num 2)) := by decide +kernel
-- `1 << 2 >> 3` is `(1 << 2) >> 3`
example : parse [.num 1, .shl, .num 2, .shr, .num 3]
    = some (.bin .shr (.bin .shl (.num 1) (.num 2)) (.num 3)) := by decide +kernel
-- calc's `|` (no precedence entry: level 0) is right-associative: `1 | 2 | 3` is `1 | (2 | 3)`
example : parse [.num 1, .bar, .num 2, .bar, .num 3]
    = some (.bin .bor (.num 1) (.bin .bor (.num 2) (.num 3))) := by decide +kernel
-- the printer on a right-nested same-level tree keeps the parentheses ...
example : toks (.bin .sub (.num 1) (.bin .sub (.num 2) (.num 3)))
    = [.num 1, .minus, .lpar, .num 2, .minus, .num 3, .rpar] := by decide +kernel
-- ... and on the left-nested one emits none
example : toks (.bin .sub (.bin .sub (.num 1) (.num 2)) (.num 3))
    = [.num 1, .minus, .num 2, .minus, .num 3] := by decide +kernel
example : toks (.bin .bor (.bin .bor (.num 1) (.num 2)) (.num 3))
    = [.lpar, .num 1, .bar, .num 2, .rpar, .bar, .num 3] := by decide +kernel
example : toks (.bin .bor (.num 1) (.bin .bor (.num 2) (.num 3)))
    = [.num 1, .bar, .num 2, .bar, .num 3] := by decide +kernel
-- unary minus: operand parenthesised iff it is a binary node
example : toks (.neg (.bin .shl (.neg (.neg (.num 1))) (.name "x")))
    = [.minus, .lpar, .minus, .minus, .num 1, .shl, .ident "x", .rpar] := by decide +kernel
example : toksFull (.neg (.bin .shl (.neg (.neg (.num 1))) (.name "x")))
    = [.minus, .lpar, .lpar, .minus, .lpar, .minus, .num 1, .rpar, .rpar, .shl, .ident "x", .rpar] := by
  decide +kernel

end Expr
end Prophy

#print axioms Prophy.Expr.Rep.parse_eq
#print axioms Prophy.Expr.parse_iff_rep
#print axioms Prophy.Expr.parse_toksFull
#print axioms Prophy.Expr.parse_toks
