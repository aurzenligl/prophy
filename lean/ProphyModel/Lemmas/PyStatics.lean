/- the Python runtime's static attributes against the Spec: alignment, size of a fixed type, dynamic flag, partial
   alignments -/
import ProphyModel.Py
import ProphyModel.Lemmas.Statics
import ProphyModel.Lemmas.WFLemmas
namespace Prophy

namespace Py

theorem fieldSt_align (s : St) (k : MKind) :
    (fieldSt s k).align = match k with
      | .optional => max flagSize s.align
      | _ => s.align := by
  cases k <;> rfl

mutual
  theorem stTy_align : (t : Ty) → (stTy t).align = Spec.alignTy t
    | .prim p => by simp [stTy, Spec.alignTy]
    | .byte => by simp [stTy, Spec.alignTy]
    | .enum _ _ => by simp [stTy, Spec.alignTy]
    | .struct _ ms => by
      simp only [stTy, structSt, Spec.alignTy]
      exact stMs_align ms
    | .union _ arms => by
      simp only [stTy, unionSt, Spec.alignTy, flagSize, Spec.flagSize]
      rw [stArms_align arms]
  theorem stMs_align : (ms : List Member) → maxAlign (stMs ms) = Spec.alignMs ms
    | [] => by simp [stMs, maxAlign, Spec.alignMs]
    | .mk _ t k :: r => by
      simp only [stMs, maxAlign, Spec.alignMs]
      rw [stMs_align r, fieldSt_align, stTy_align t]
      cases k <;> simp [flagSize, Spec.flagSize]
  theorem stArms_align : (arms : List Arm) → maxAlign (stArms arms) = Spec.alignArms arms
    | [] => by simp [stArms, maxAlign, Spec.alignArms]
    | .mk _ _ t :: r => by
      simp only [stArms, maxAlign, Spec.alignArms]
      rw [stArms_align r, stTy_align t]
end

/-- where the loop of get_padded_sizes ends -/
def finalOffset (fs : List St) (sa off : Nat) : Nat := off + sumSizes fs + paddings fs sa off

theorem finalOffset_nil (sa off : Nat) : finalOffset [] sa off = off := by simp [finalOffset, sumSizes, paddings]

theorem finalOffset_single (f : St) (sa off : Nat) :
    finalOffset [f] sa off = alignUp (off + f.size) sa := by
  simp [finalOffset, sumSizes, paddings, alignUp]

theorem finalOffset_cons (f g : St) (r : List St) (sa off : Nat) :
    finalOffset (f :: g :: r) sa off = finalOffset (g :: r) sa (alignUp (off + f.size) g.align) := by
  simp only [finalOffset, sumSizes, paddings, alignUp]; omega

theorem fieldSt_align_member (n : String) (t : Ty) (k : MKind) :
    (fieldSt (stTy t) k).align = Spec.alignMember (.mk n t k) := by
  rw [fieldSt_align, stTy_align]
  unfold Spec.alignMember
  cases k <;> simp [Member.kind, Member.ty, flagSize, Spec.flagSize]

theorem fieldSt_size_slot (t : Ty) (k : MKind) (hs : (stTy t).size = Spec.sizeTy t) (hk : k.isStatic = true) :
    (fieldSt (stTy t) k).size = Spec.slot t k := by
  have ha := stTy_align t
  cases k with
  | plain => exact hs
  | optional => show max flagSize (stTy t).align + (stTy t).size = _; rw [hs, ha]; rfl
  | fixed c => show c * (stTy t).size = _; rw [hs]; rfl
  | limited s c => show c * (stTy t).size = _; rw [hs]; rfl
  | dyn s sh => exact (Bool.noConfusion hk)
  | greedy => exact (Bool.noConfusion hk)

mutual
  theorem stTy_size_fixed : (t : Ty) → Spec.fixedTy t = true → (stTy t).size = Spec.sizeTy t
    | .prim _, _ => rfl
    | .byte, _ => rfl
    | .enum _ _, _ => rfl
    | .struct _ ms, h => by
      have hf : Spec.fixedMs ms = true := by simpa [Spec.fixedTy] using h
      simp only [stTy, structSt, Spec.sizeTy]
      rw [stMs_align]
      cases ms with
      | nil => simp [stMs, sumSizes, paddings, Spec.endMs, alignUp, padTo, Spec.alignMs]
      | cons m r =>
        have := stMs_layout (m :: r) hf (Spec.alignMs (m :: r)) 0 (by intro _ _ _; exact Nat.dvd_zero _) (by simp)
        simpa [finalOffset] using this
    | .union _ arms, h => by
      have hf : Spec.fixedArms arms = true := by simpa [Spec.fixedTy] using h
      simp only [stTy, unionSt, Spec.sizeTy, alignUp]
      rw [stArms_align, stArms_maxSize arms hf]
      simp [flagSize, Spec.flagSize]
  /-- the loop of get_padded_sizes reaches the documented end offset: it pads AFTER a field to the next field's
      alignment where the document pads before, so the offset it is entered at must be aligned for the first member -/
  theorem stMs_layout : (ms : List Member) → Spec.fixedMs ms = true →
      ∀ (sa off : Nat), (∀ m r, ms = m :: r → Spec.alignMember m ∣ off) → ms ≠ [] →
      finalOffset (stMs ms) sa off = alignUp (Spec.endMs ms off false) sa
    | [], _, _, _, _, hne => absurd rfl hne
    | [.mk n t k], hf, sa, off, hd, _ => by
      have hd := hd _ _ rfl
      obtain ⟨hk, ht, _⟩ := (Spec.fixedMs_cons n t k []).1 hf
      simp only [stMs, finalOffset_single]
      rw [Spec.endMs_cons]
      simp only [Bool.false_eq_true, if_false, Spec.endMs]
      rw [alignUp_of_dvd off _ hd, fieldSt_size_slot t k (stTy_size_fixed t ht) hk]
    | .mk n t k :: .mk n' t' k' :: r', hf, sa, off, hd, _ => by
      have hd := hd _ _ rfl
      obtain ⟨hk, ht, hf'⟩ := (Spec.fixedMs_cons n t k (.mk n' t' k' :: r')).1 hf
      have hstep : stMs (.mk n t k :: .mk n' t' k' :: r') =
          fieldSt (stTy t) k :: fieldSt (stTy t') k' :: stMs r' := by simp [stMs]
      rw [hstep, finalOffset_cons, fieldSt_align_member n' t' k']
      have ih := stMs_layout (.mk n' t' k' :: r') hf' sa
        (alignUp (off + (fieldSt (stTy t) k).size) (Spec.alignMember (.mk n' t' k')))
        (by intro m r h; injection h with h1 h2; subst h1; exact dvd_alignUp _ _ (Spec.alignMember_pos _))
        (by simp)
      have hstep' : fieldSt (stTy t') k' :: stMs r' = stMs (.mk n' t' k' :: r') := by simp [stMs]
      rw [hstep', ih, Spec.endMs_alignUp]
      rw [Spec.endMs_cons n t k]
      simp only [Bool.false_eq_true, if_false]
      rw [alignUp_of_dvd off _ hd, Spec.endsBlock_of_fixed n t k _ hf]
      rw [fieldSt_size_slot t k (stTy_size_fixed t ht) hk]
  theorem stArms_maxSize : (arms : List Arm) → Spec.fixedArms arms = true → maxSize (stArms arms) = Spec.maxArm arms
    | [], _ => rfl
    | .mk _ _ t :: r, h => by
      have h' : Spec.fixedTy t = true ∧ Spec.fixedArms r = true := by simpa [Spec.fixedArms] using h
      simp only [stArms, maxSize, Spec.maxArm]
      rw [stTy_size_fixed t h'.1, stArms_maxSize r h'.2]
end

open WF

theorem fieldSt_dyn_of (n : String) (t : Ty) (k : MKind) (iht : (stTy t).dyn = Spec.dynTy t)
    (hopt : k = .optional → Spec.dynTy t = false) : (fieldSt (stTy t) k).dyn = Spec.endsBlock (.mk n t k) := by
  unfold Spec.endsBlock
  cases k with
  | plain => exact iht
  | optional => simp [fieldSt, iht, hopt rfl, Member.kind]
  | fixed c => rfl
  | dyn s sh => rfl
  | limited s c => rfl
  | greedy => rfl

mutual
  theorem stTy_dyn : (t : Ty) → wfTy t = true → (stTy t).dyn = Spec.dynTy t
    | .prim _, _ => rfl
    | .byte, _ => rfl
    | .enum _ _, _ => rfl
    | .union _ _, _ => rfl
    | .struct _ ms, h => by
      have h' : wfMs ms ms = true := by
        simp only [wfTy, Bool.and_eq_true] at h; exact h.2
      simp only [stTy, structSt, Spec.dynTy]
      exact stMs_dyn ms ms h'
  theorem stMs_dyn (all : List Member) : (ms : List Member) → wfMs all ms = true →
      (stMs ms).any (·.dyn) = Spec.dynMs ms
    | [], _ => rfl
    | .mk n t k :: r, h => by
      obtain ⟨ht, hfx, _, _, hr⟩ := (wfMs_cons all n t k r).1 h
      rw [Spec.dynMs_cons, ← stMs_dyn all r hr,
        ← fieldSt_dyn_of n t k (stTy_dyn t ht) fun hk => Spec.dynTy_of_fixed t (hfx (by rw [hk]; rfl))]
      rfl
end

theorem fieldSt_dyn (all : List Member) (n : String) (t : Ty) (k : MKind) (r : List Member)
    (h : wfMs all (.mk n t k :: r) = true) :
    (fieldSt (stTy t) k).dyn = Spec.endsBlock (.mk n t k) :=
  let ⟨ht, hfx, _⟩ := (wfMs_cons all n t k r).1 h
  fieldSt_dyn_of n t k (stTy_dyn t ht) fun hk => Spec.dynTy_of_fixed t (hfx (by rw [hk]; rfl))

/-- second component of `partialsAux`: the alignment of the block that begins at the head of `fs` -/
def partialAl (fs : List St) : Nat := (partialsAux fs).2

theorem partials_cons (f : St) (r : List St) :
    partials (f :: r) = (if f.dyn then some (partialAl r) else none) :: partials r := by
  simp only [partials, partialAl, partialsAux]
  split <;> rfl

theorem partialAl_cons (f : St) (r : List St) :
    partialAl (f :: r) = if f.dyn then max f.align 1 else max f.align (partialAl r) := by
  simp only [partialAl, partialsAux]
  split <;> rfl

theorem partials_nil : partials [] = [] := rfl
theorem partialAl_nil : partialAl [] = 1 := rfl

theorem partialAl_stMs (all : List Member) : (ms : List Member) → wfMs all ms = true →
    partialAl (stMs ms) = Spec.blockAlign ms
  | [], _ => rfl
  | .mk n t k :: r, h => by
    obtain ⟨_, _, _, _, hr⟩ := (wfMs_cons all n t k r).1 h
    have ih := partialAl_stMs all r hr
    have hd := fieldSt_dyn all n t k r h
    have ha := fieldSt_align_member n t k
    have hp := Spec.alignMember_pos (.mk n t k)
    simp only [stMs, partialAl_cons, Spec.blockAlign, hd, ha, ih]
    split
    · exact Nat.max_eq_left hp
    · rfl

theorem partials_length : (fs : List St) → (partials fs).length = fs.length
  | [] => rfl
  | f :: r => by
    rw [partials_cons]
    simp [partials_length r]

theorem stMs_length : (ms : List Member) → (stMs ms).length = ms.length
  | [] => rfl
  | .mk _ _ _ :: r => by simp [stMs, stMs_length r]

end Py

mutual
  theorem Py.stTy_unl_dyn : (t : Ty) → (Py.stTy t).unl = true → (Py.stTy t).dyn = true
    | .prim _, h => by simp [Py.stTy] at h
    | .byte, h => by simp [Py.stTy] at h
    | .enum _ _, h => by simp [Py.stTy] at h
    | .union _ _, h => by simp [Py.stTy, Py.unionSt] at h
    | .struct _ ms, h => by
      simp only [Py.stTy, Py.structSt] at h ⊢
      exact Py.stMs_unl_dyn ms h
  theorem Py.stMs_unl_dyn : (ms : List Member) → (Py.stMs ms).any (·.unl) = true → (Py.stMs ms).any (·.dyn) = true
    | [], h => by simp [Py.stMs] at h
    | .mk _ t k :: r, h => by
      simp only [Py.stMs, List.any_cons, Bool.or_eq_true] at h ⊢
      rcases h with h | h
      · left
        cases k with
        | plain => exact Py.stTy_unl_dyn t h
        | optional => exact Py.stTy_unl_dyn t h
        | fixed c => simp [Py.fieldSt] at h
        | dyn s sh => simp [Py.fieldSt] at h
        | limited s c => simp [Py.fieldSt] at h
        | greedy => rfl
      · right; exact Py.stMs_unl_dyn r h
end

theorem Py.stTy_not_unl_of_not_dyn (t : Ty) (h : (Py.stTy t).dyn = false) : (Py.stTy t).unl = false := by
  cases hu : (Py.stTy t).unl with
  | false => rfl
  | true => rw [Py.stTy_unl_dyn t hu] at h; cases h

theorem Py.stMs_any_unl_mem (all : List Member) (n : String) (t : Ty) (k : MKind) (hm : Member.mk n t k ∈ all)
    (h : (Py.fieldSt (Py.stTy t) k).unl = true) : (Py.stMs all).any (·.unl) = true := by
  induction all with
  | nil => cases hm
  | cons a r ih =>
    obtain ⟨n', t', k'⟩ := a
    simp only [Py.stMs, List.any_cons, Bool.or_eq_true]
    rcases List.mem_cons.1 hm with heq | hr
    · injection heq with h1 h2 h3; subst h1 h2 h3; exact Or.inl h
    · exact Or.inr (ih hr)

end Prophy
