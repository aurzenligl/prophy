/- Every C++ object (`objOk`: `hasType` without limits, counter ranges and enumerator membership) against
   `get_byte_size()`: the pointer encoder never gets ahead of it and is level with it when the counts fit
   (`countsFit`).  By induction over objects: fixed types (`fix_cases`), then the general case (`len_cases`). -/
import ProphyModel.Lemmas.CppEncoder

namespace Prophy
open WF

namespace Cpp

/- `v` has the shape of a C++ object of the generated class of `t`; an enum member holds any value of a 32-bit underlying
   type, `int` or `unsigned`: `-(2^31) ≤ i < 2^32` -/
mutual
  def objField (k : MKind) : Ty → Val → Bool
    | _, .sizer => (match k with | .plain => true | _ => false)
    | _, .absent => (match k with | .optional => true | _ => false)
    | t, .present x => (match k with | .optional => true | _ => false) && !x.isCounter && objField .plain t x
    | t, .bytes b =>
      (match t with | .byte => true | _ => false) &&
      (match k with
       | .fixed c => b.length == c
       | .limited _ _ => true
       | .dyn _ _ => true
       | .greedy => true
       | _ => false)
    | t, .arr xs =>
      (match t with | .byte => false | _ => true) &&
      (match k with
       | .fixed c => xs.length == c
       | .limited _ _ => true
       | .dyn _ _ => true
       | .greedy => true
       | _ => false) && objElems t xs
    | .prim p, .int i => (match k with | .plain => true | _ => false) && inRange p i
    | .byte, .int i => (match k with | .plain => true | _ => false) && inRange .u8 i
    | .enum _ _, .int i => (match k with | .plain => true | _ => false) && decide (-(2 ^ 31 : Int) ≤ i ∧ i < 2 ^ 32)
    | .struct _ ms, .struct vs => (match k with | .plain => true | _ => false) && objMs ms ms vs
    | .union _ arms, .union idx v =>
      (match k with | .plain => true | _ => false) &&
      (match arms[idx]? with
       | some (.mk _ _ t) => !v.isCounter && objField .plain t v
       | none => false)
    | _, _ => false
  def objMs (all : List Member) : List Member → List Val → Bool
    | [], [] => true
    | .mk n t k :: r, v :: vs =>
      (match v with
       | .sizer => isSizer n all
       | _ => !(isSizer n all)) && objField k t v && objMs all r vs
    | _, _ => false
  def objElems : Ty → List Val → Bool
    | _, [] => true
    | t, x :: xs => !x.isCounter && objField .plain t x && objElems t xs
end

def objOk (t : Ty) (v : Val) : Bool := !v.isCounter && objField .plain t v

def objLen : MKind → Nat → Bool
  | .fixed c, n => n == c
  | .limited _ _, _ => true
  | .dyn _ _, _ => true
  | .greedy, _ => true
  | _, _ => false

theorem objLen_fixed (c n : Nat) : objLen (.fixed c) n = true ↔ n = c := by simp [objLen]

theorem objLen_kind (k : MKind) (n : Nat) (h : objLen k n = true) : k ≠ .plain ∧ k ≠ .optional := by
  cases k <;> first | exact (Bool.false_ne_true h).elim | exact ⟨MKind.noConfusion, MKind.noConfusion⟩

/- every array bound to a counter (`T x<@n>`) has a length its counter's C++ type can hold -/
mutual
  def fitTy : Ty → Val → Bool
    | t, .present x => fitTy t x
    | t, .arr xs => fitElems t xs
    | .struct _ ms, .struct vs => fitMs ms ms vs
    | .union _ arms, .union idx v =>
      (match arms[idx]? with
       | some (.mk _ _ t) => fitTy t v
       | none => true)
    | _, _ => true
  def fitMs (all : List Member) : List Member → List Val → Bool
    | .mk _ t k :: r, v :: vs =>
      (match k with
       | .dyn s _ => decide (v.len < 256 ^ (sizerPrimOf s all).size)
       | _ => true) && fitTy t v && fitMs all r vs
    | _, _ => true
  def fitElems : Ty → List Val → Bool
    | _, [] => true
    | t, x :: xs => fitTy t x && fitElems t xs
end

def countsFit (t : Ty) (v : Val) : Bool := fitTy t v

/-- the condition `fitMs` puts on one member: only a dynamic array has one (fixed and limited arrays take their static
    slot whatever they hold, a greedy array has no counter) -/
def fitK (all : List Member) (k : MKind) (v : Val) : Bool :=
  match k with
  | .dyn s _ => decide (v.len < 256 ^ (sizerPrimOf s all).size)
  | _ => true

theorem fitMs_cons (all : List Member) (n : String) (t : Ty) (k : MKind) (r : List Member) (v : Val) (vs : List Val) :
    fitMs all (.mk n t k :: r) (v :: vs) = true ↔
      fitK all k v = true ∧ fitTy t v = true ∧ fitMs all r vs = true := by
  have e : fitMs all (.mk n t k :: r) (v :: vs)
      = ((match k with | .dyn s _ => decide (v.len < 256 ^ (sizerPrimOf s all).size) | _ => true)
          && fitTy t v && fitMs all r vs) := rfl
  rw [e]
  simp only [fitK, Bool.and_eq_true, and_assoc]

theorem fitTy_struct (nm : String) (ms : List Member) (vs : List Val) :
    fitTy (.struct nm ms) (.struct vs) = fitMs ms ms vs := rfl

theorem fitTy_arr (t : Ty) (xs : List Val) : fitTy t (.arr xs) = fitElems t xs := by cases t <;> rfl

theorem fitTy_present (t : Ty) (x : Val) : fitTy t (.present x) = fitTy t x := by cases t <;> rfl

theorem fitElems_cons (t : Ty) (x : Val) (xs : List Val) :
    fitElems t (x :: xs) = (fitTy t x && fitElems t xs) := by cases t <;> rfl

theorem objField_sizer (k : MKind) (t : Ty) : objField k t .sizer = true ↔ k = .plain := by
  cases k <;> (constructor <;> intro h <;> first | rfl | cases h)

theorem objField_absent (k : MKind) (t : Ty) : objField k t .absent = true ↔ k = .optional := by
  cases k <;> (constructor <;> intro h <;> first | rfl | cases h)

theorem objField_present_eq (k : MKind) (t : Ty) (x : Val) :
    objField k t (.present x)
      = ((match k with | .optional => true | _ => false) && !x.isCounter && objField .plain t x) := by
  cases t <;> rfl

theorem objField_present (k : MKind) (t : Ty) (x : Val) :
    objField k t (.present x) = true ↔ k = .optional ∧ x.isCounter = false ∧ objField .plain t x = true := by
  rw [objField_present_eq]
  cases k <;> simp

theorem objField_bytes_eq (k : MKind) (t : Ty) (b : Bytes) :
    objField k t (.bytes b) = ((match t with | .byte => true | _ => false) && objLen k b.length) := by
  cases t <;> cases k <;> rfl

theorem objField_bytes_iff (k : MKind) (t : Ty) (b : Bytes) :
    objField k t (.bytes b) = true ↔ t = .byte ∧ objLen k b.length = true := by
  rw [objField_bytes_eq]
  cases t <;> simp

theorem objField_arr_eq (k : MKind) (t : Ty) (xs : List Val) :
    objField k t (.arr xs)
      = ((match t with | .byte => false | _ => true) && objLen k xs.length && objElems t xs) := by
  cases t <;> cases k <;> rfl

theorem objField_arr_iff (k : MKind) (t : Ty) (xs : List Val) :
    objField k t (.arr xs) = true ↔ t ≠ .byte ∧ objLen k xs.length = true ∧ objElems t xs = true := by
  rw [objField_arr_eq]
  cases t <;> simp

theorem objField_union_iff (k : MKind) (nm : String) (arms : List Arm) (idx : Nat) (x : Val)
    (an : String) (d : Nat) (t' : Ty) (ha : arms[idx]? = some (.mk an d t')) :
    objField k (.union nm arms) (.union idx x) = true ↔
      k = .plain ∧ x.isCounter = false ∧ objField .plain t' x = true := by
  have e : objField k (.union nm arms) (.union idx x)
      = ((match k with | .plain => true | _ => false) &&
          (match arms[idx]? with
           | some (.mk _ _ t) => !x.isCounter && objField .plain t x
           | none => false)) := rfl
  rw [e, ha]
  cases k <;> simp

theorem objField_int (k : MKind) (t : Ty) (i : Int) (h : objField k t (.int i) = true) :
    k = .plain ∧
      ((∃ p, t = .prim p ∧ inRange p i = true) ∨ (t = .byte ∧ inRange .u8 i = true) ∨
        (∃ nm es, t = .enum nm es ∧ (-(2 ^ 31 : Int) ≤ i ∧ i < 2 ^ 32))) := by
  cases t with
  | prim p => exact ⟨(isPlain_and h).1, Or.inl ⟨p, rfl, (isPlain_and h).2⟩⟩
  | byte => exact ⟨(isPlain_and h).1, Or.inr (Or.inl ⟨rfl, (isPlain_and h).2⟩)⟩
  | enum nm es => exact ⟨(isPlain_and h).1, Or.inr (Or.inr ⟨nm, es, rfl, of_decide_eq_true (isPlain_and h).2⟩)⟩
  | struct nm ms => exact (Bool.false_ne_true h).elim
  | union nm arms => exact (Bool.false_ne_true h).elim

theorem objField_struct (k : MKind) (t : Ty) (vs : List Val) (h : objField k t (.struct vs) = true) :
    k = .plain ∧ ∃ nm ms, t = .struct nm ms ∧ objMs ms ms vs = true := by
  cases t with
  | struct nm ms => exact ⟨(isPlain_and h).1, nm, ms, rfl, (isPlain_and h).2⟩
  | _ => exact (Bool.false_ne_true h).elim

theorem objField_union (k : MKind) (t : Ty) (idx : Nat) (x : Val) (h : objField k t (.union idx x) = true) :
    k = .plain ∧ ∃ nm arms an d t', t = .union nm arms ∧ arms[idx]? = some (.mk an d t') ∧
      x.isCounter = false ∧ objField .plain t' x = true := by
  cases t with
  | union nm arms =>
    obtain ⟨hk, h2⟩ := isPlain_and h
    cases ha : arms[idx]? with
    | none => rw [ha] at h2; exact (Bool.false_ne_true h2).elim
    | some a =>
      obtain ⟨an, d, t'⟩ := a
      rw [ha] at h2
      have h3 : x.isCounter = false ∧ objField .plain t' x = true := by simpa using h2
      exact ⟨hk, nm, arms, an, d, t', rfl, ha, h3⟩
  | _ => exact (Bool.false_ne_true h).elim

theorem objMs_nil_left (all : List Member) (vs : List Val) : objMs all [] vs = true ↔ vs = [] := by
  cases vs with
  | nil => exact ⟨fun _ => rfl, fun _ => rfl⟩
  | cons v vs => exact ⟨fun h => (Bool.false_ne_true h).elim, fun h => by cases h⟩

theorem objMs_nil_right (all ms : List Member) : objMs all ms [] = true ↔ ms = [] := by
  cases ms with
  | nil => exact ⟨fun _ => rfl, fun _ => rfl⟩
  | cons m r => obtain ⟨n, t, k⟩ := m; exact ⟨fun h => (Bool.false_ne_true h).elim, fun h => by cases h⟩

theorem objMs_cons (all : List Member) (n : String) (t : Ty) (k : MKind) (r : List Member) (v : Val) (vs : List Val) :
    objMs all (.mk n t k :: r) (v :: vs) = true ↔
      (v.isCounter = isSizer n all) ∧ objField k t v = true ∧ objMs all r vs = true := by
  have e : objMs all (.mk n t k :: r) (v :: vs)
      = ((match v with | .sizer => isSizer n all | _ => !(isSizer n all)) && objField k t v && objMs all r vs) := rfl
  rw [e]
  cases v <;> simp [Val.isCounter, and_assoc]

theorem objElems_cons (t : Ty) (x : Val) (xs : List Val) :
    objElems t (x :: xs) = true ↔ x.isCounter = false ∧ objField .plain t x = true ∧ objElems t xs = true := by
  have e : objElems t (x :: xs) = (!x.isCounter && objField .plain t x && objElems t xs) := by cases t <;> rfl
  rw [e]
  simp [and_assoc]

theorem objElems_nil (t : Ty) : objElems t [] = true := by cases t <;> rfl

structure ObjCases (F : MKind → Ty → Val → Prop) (M : List Member → List Member → List Val → Prop)
    (E : Ty → List Val → Prop) : Prop where
  sizer : ∀ t, F .plain t .sizer
  prim : ∀ p i, inRange p i = true → F .plain (.prim p) (.int i)
  byte : ∀ i, inRange .u8 i = true → F .plain .byte (.int i)
  enum : ∀ nm es i, (-(2 ^ 31 : Int) ≤ i ∧ i < 2 ^ 32) → F .plain (.enum nm es) (.int i)
  struct : ∀ nm ms vs, objMs ms ms vs = true → M ms ms vs → F .plain (.struct nm ms) (.struct vs)
  union : ∀ nm arms idx an d t x, arms[idx]? = some (.mk an d t) → x.isCounter = false →
    objField .plain t x = true → F .plain t x → F .plain (.union nm arms) (.union idx x)
  absent : ∀ t, F .optional t .absent
  present : ∀ t x, x.isCounter = false → objField .plain t x = true → F .plain t x → F .optional t (.present x)
  bytes : ∀ k b, objLen k b.length = true → F k .byte (.bytes b)
  arr : ∀ k t xs, t ≠ .byte → objLen k xs.length = true → objElems t xs = true → E t xs → F k t (.arr xs)
  nil : ∀ all, M all [] []
  cons : ∀ all n t k r v vs, v.isCounter = isSizer n all → objField k t v = true → objMs all r vs = true →
    F k t v → M all r vs → M all (.mk n t k :: r) (v :: vs)
  enil : ∀ t, E t []
  econs : ∀ t x xs, x.isCounter = false → objField .plain t x = true → objElems t xs = true →
    F .plain t x → E t xs → E t (x :: xs)

mutual
  theorem objField_ind {F M E} (c : ObjCases F M E) : (v : Val) → ∀ k t, objField k t v = true → F k t v
    | .sizer, k, t, h => by rw [(objField_sizer k t).1 h]; exact c.sizer t
    | .int i, k, t, h => by
      obtain ⟨rfl, ⟨p, rfl, hr⟩ | ⟨rfl, hr⟩ | ⟨nm, es, rfl, hr⟩⟩ := objField_int k t i h
      · exact c.prim p i hr
      · exact c.byte i hr
      · exact c.enum nm es i hr
    | .struct vs, k, t, h => by
      obtain ⟨rfl, nm, ms, rfl, hm⟩ := objField_struct k t vs h
      exact c.struct nm ms vs hm (objMs_ind c vs ms ms hm)
    | .union idx x, k, t, h => by
      obtain ⟨rfl, nm, arms, an, d, t', rfl, ha, hc, hx⟩ := objField_union k t idx x h
      exact c.union nm arms idx an d t' x ha hc hx (objField_ind c x .plain t' hx)
    | .absent, k, t, h => by rw [(objField_absent k t).1 h]; exact c.absent t
    | .present x, k, t, h => by
      obtain ⟨rfl, hc, hx⟩ := (objField_present k t x).1 h
      exact c.present t x hc hx (objField_ind c x .plain t hx)
    | .bytes b, k, t, h => by
      obtain ⟨rfl, hl⟩ := (objField_bytes_iff k t b).1 h
      exact c.bytes k b hl
    | .arr xs, k, t, h => by
      obtain ⟨hb, hl, he⟩ := (objField_arr_iff k t xs).1 h
      exact c.arr k t xs hb hl he (objElems_ind c xs t he)
  theorem objMs_ind {F M E} (c : ObjCases F M E) : (vs : List Val) → ∀ all ms, objMs all ms vs = true → M all ms vs
    | [], all, ms, h => by rw [(objMs_nil_right all ms).1 h]; exact c.nil all
    | v :: vs, all, [], h => by cases (objMs_nil_left all (v :: vs)).1 h
    | v :: vs, all, .mk n t k :: r, h => by
      obtain ⟨h1, h2, h3⟩ := (objMs_cons all n t k r v vs).1 h
      exact c.cons all n t k r v vs h1 h2 h3 (objField_ind c v k t h2) (objMs_ind c vs all r h3)
  theorem objElems_ind {F M E} (c : ObjCases F M E) : (xs : List Val) → ∀ t, objElems t xs = true → E t xs
    | [], t, _ => c.enil t
    | x :: xs, t, h => by
      obtain ⟨h1, h2, h3⟩ := (objElems_cons t x xs).1 h
      exact c.econs t x xs h1 h2 h3 (objField_ind c x .plain t h2) (objElems_ind c xs t h3)
end

theorem obj_induct {F M E} (c : ObjCases F M E) :
    (∀ v k t, objField k t v = true → F k t v) ∧
    (∀ vs all ms, objMs all ms vs = true → M all ms vs) ∧
    (∀ xs t, objElems t xs = true → E t xs) :=
  ⟨objField_ind c, objMs_ind c, objElems_ind c⟩


theorem castCount_le (p : Prim) (n : Nat) : castCount p n ≤ n := Nat.mod_le _ _

/-- what is left of `SizerEncC` for objects: the LENGTH of the counter statement (its value needs typed `allv`) -/
def CounterLen_p16 (e : Endian) (all : List Member) (allv : List Val) (n : String) (t : Ty) : Prop :=
  isSizer n all = true → ∃ p, t = .prim p ∧ (counterCells e all allv n).length = p.size

theorem boundOf_some (all : List Member) (s : String) : (ms : List Member) → (vs : List Val) →
    objMs all ms vs = true → (∃ m ∈ ms, m.kind.sizer? = some s) → ∃ m bv, boundOf s ms vs = some (m, bv)
  | [], _, _, ⟨m, hm, _⟩ => by cases hm
  | m' :: r, [], hh, _ => by cases (objMs_nil_right all (m' :: r)).1 hh
  | .mk n t k :: r, v :: vs, hh, ⟨m, hm, hs⟩ => by
    obtain ⟨_, _, hhr⟩ := (objMs_cons all n t k r v vs).1 hh
    simp only [boundOf]
    by_cases hk : (Member.mk n t k).kind.sizer? = some s
    · rw [if_pos hk]; exact ⟨_, _, rfl⟩
    · rw [if_neg hk]
      rcases List.mem_cons.1 hm with rfl | hr
      · exact absurd hs hk
      · exact boundOf_some all s r vs hhr ⟨m, hr, hs⟩

theorem counterLen (e : Endian) (all : List Member) (allv : List Val)
    (hu : uniq (all.map (·.name)) = true) (hw : wfMs all all = true) (ho : objMs all all allv = true) :
    ∀ n t k, Member.mk n t k ∈ all → CounterLen_p16 e all allv n t := by
  intro n t k hm hs
  obtain ⟨p, rfl, rfl, _, _⟩ := WF.sizer_prim all hu hw n t k hm hs
  have hfind : all.find? (fun x => x.name == n) = some (.mk n (.prim p) .plain) := WF.uniq_find all hu _ hm
  have hsp : sizerPrimOf n all = p := by unfold sizerPrimOf; rw [hfind]
  obtain ⟨m', hm', hs'⟩ := (isSizer_iff n all).1 hs
  obtain ⟨m, bv, hb⟩ := boundOf_some all n all allv ho ⟨m', hm', hs'⟩
  refine ⟨p, rfl, ?_⟩
  unfold counterCells
  rw [hb, hsp]
  obtain ⟨mn, mt, mk⟩ := m
  cases mk <;> simp

/-- the static offset after the members `ms`, the first of which starts at static offset `bs` -/
def endLay_p16 (S : Nat) : List Member → Nat → Nat
  | [], bs => bs
  | m :: r, bs => endLay_p16 S r (alignUp (bs + mslot m) (aN S false r))

theorem endLay_eq (S : Nat) : (r : List Member) → ∀ (m : Member) (x : Nat), Spec.fixedMs (m :: r) = true →
    endLay_p16 S (m :: r) (alignUp x (Spec.alignMember m)) = alignUp (Spec.endMs (m :: r) x false) S
  | [], m, x, hf => by
    obtain ⟨n, t, k⟩ := m
    obtain ⟨_, ht, _⟩ := (Spec.fixedMs_cons n t k []).1 hf
    rw [Spec.endMs_cons]
    simp only [endLay_p16, aN, Spec.endMs, Bool.false_eq_true, if_false, mslot_fixed n t k ht]
  | m' :: r', m, x, hf => by
    obtain ⟨n, t, k⟩ := m
    obtain ⟨_, ht, hr⟩ := (Spec.fixedMs_cons n t k _).1 hf
    have ih := endLay_eq S r' m' (alignUp x (Spec.alignMember (.mk n t k)) + mslot (.mk n t k)) hr
    have he := Spec.endsBlock_of_fixed n t k _ hf
    rw [Spec.endMs_cons, he]
    simp only [Bool.false_eq_true, if_false]
    rw [← mslot_fixed n t k ht, ← ih]
    simp only [endLay_p16, aN, Bool.false_eq_true, if_false]

theorem endLay_size (nm : String) (ms : List Member) (hf : Spec.fixedMs ms = true) :
    endLay_p16 (Spec.alignMs ms) ms 0 = Spec.sizeTy (.struct nm ms) := by
  cases ms with
  | nil => simp [endLay_p16, Spec.sizeTy, Spec.endMs, alignUp, padTo_zero]
  | cons m r =>
    have := endLay_eq (Spec.alignMs (m :: r)) r m 0 hf
    simp only [alignUp, padTo_zero, Nat.add_zero] at this
    simp only [Spec.sizeTy, alignUp]
    exact this

theorem padLen_nat (x pos : Nat) : padLen ((x : Nat) : Int) pos = x := by
  unfold padLen
  rw [if_neg (by omega)]
  exact Int.toNat_natCast _

theorem encVal_length (e : Endian) (t : Ty) (v : Val) (pos : Nat) (hf : Spec.fixedTy t = true)
    (H : (encTy e t v pos).length = Spec.sizeTy t) : (encVal e t v pos).length = Spec.sizeTy t := by
  have hc := codecSize_fixed t hf
  unfold encVal
  rw [if_pos (by omega), overlay_length, hc, H]
  simp

theorem mslot_plain (n : String) (t : Ty) (hf : Spec.fixedTy t = true) : mslot (.mk n t .plain) = Spec.sizeTy t := by
  rw [mslot_fixed n t .plain hf]; rfl

theorem encElems_zero (e : Endian) (t : Ty) (xs : List Val) (pos : Nat) : encElems e t xs 0 pos = [] := by
  cases xs <;> simp [encElems]

theorem encElems_nil (e : Endian) (t : Ty) (n pos : Nat) : encElems e t [] n pos = [] := by
  simp [encElems]


def FieldFix (e : Endian) (k : MKind) (t : Ty) (v : Val) : Prop :=
  (∀ (all : List Member) (allv : List Val) (n : String) (pos : Nat), TyOk t → Spec.fixedTy t = true →
      k.isStatic = true → (k = .optional → max 4 (cppAlign t) = max 4 (Spec.alignTy t)) →
      v.isCounter = isSizer n all → CounterLen_p16 e all allv n t →
      (fieldCells e all allv n t k v (mslot (.mk n t k)) pos).length = mslot (.mk n t k)) ∧
  (k = .plain → v.isCounter = false → TyOk t → Spec.fixedTy t = true → ∀ pos,
      (encTy e t v pos).length = Spec.sizeTy t)

/-- for ANY `S`, `bs`, `pos`: a list of fixed size has static paddings only (`padOf_static`), no walk invariant is needed -/
def MsFix (e : Endian) (all ms : List Member) (vs : List Val) : Prop :=
  ∀ (allv : List Val) (S bs pos : Nat), (∀ n t k, Member.mk n t k ∈ all → CounterLen_p16 e all allv n t) →
    (∀ m ∈ ms, m ∈ all) → MsOk all ms → Spec.fixedMs ms = true →
    bs + (encMs e all allv ms vs (lay S false ms false bs) pos).length = endLay_p16 S ms bs

/-- `min cnt xs.length`: `encElems` stops at the shorter of count and list -/
def ElemsFix (e : Endian) (t : Ty) (xs : List Val) : Prop :=
  ∀ (cnt pos : Nat), TyOk t → Spec.fixedTy t = true →
    (encElems e t xs cnt pos).length = min cnt xs.length * Spec.sizeTy t

theorem FieldFix.of_ty {e : Endian} {t : Ty} {v : Val} (hnc : v.isCounter = false)
    (H : TyOk t → Spec.fixedTy t = true → ∀ pos, (encTy e t v pos).length = Spec.sizeTy t) :
    FieldFix e .plain t v := by
  refine ⟨fun all allv n pos hT hfx _ _ hc _ => ?_, fun _ _ hT hfx pos => H hT hfx pos⟩
  rw [fieldCells_plain e all allv n t v _ pos (by rw [← hc, hnc]), mslot_plain n t hfx]
  exact encVal_length e t v pos hfx (H hT hfx pos)

theorem FieldFix.sizer (e : Endian) (t : Ty) : FieldFix e .plain t .sizer := by
  refine ⟨fun all allv n pos _ _ _ _ hc hs => ?_, fun _ h => by cases h⟩
  have hsz : isSizer n all = true := hc.symm
  obtain ⟨p, rfl, hcc⟩ := hs hsz
  rw [mslot_plain n _ rfl]
  simp [fieldCells, hsz, hcc, Spec.sizeTy]

theorem FieldFix.struct (e : Endian) (nm : String) (ms : List Member) (vs : List Val)
    (hom : objMs ms ms vs = true) (ih : MsFix e ms ms vs) : FieldFix e .plain (.struct nm ms) (.struct vs) := by
  refine FieldFix.of_ty rfl ?_
  intro hT hfx pos
  obtain ⟨hu, hM⟩ := hT.struct
  have hfm : Spec.fixedMs ms = true := hfx
  have H := ih vs (Spec.alignMs ms) 0 pos (counterLen e ms vs hu hM.wf hom) (fun m hm => hm) hM hfm
  rw [encTy_struct e nm ms vs pos hM, Spec.dynMs_of_fixed ms hfm, ← endLay_size nm ms hfm, ← H]
  simp

theorem FieldFix.union (e : Endian) (nm : String) (arms : List Arm) (idx : Nat) (an : String) (d : Nat) (t' : Ty)
    (x : Val) (ha : arms[idx]? = some (.mk an d t')) (hc : x.isCounter = false) (ih : FieldFix e .plain t' x) :
    FieldFix e .plain (.union nm arms) (.union idx x) := by
  refine FieldFix.of_ty rfl ?_
  intro hT hfx pos
  obtain ⟨hT', hfx', _⟩ := hT.arm idx _ ha
  simp only [Arm.ty] at hT' hfx'
  have hge := Spec.flag_add_maxArm_le_sizeTy_union nm arms
  have hx := ih.2 rfl hc hT' hfx' (pos + 4 + (max 4 (Spec.alignArms arms) - 4))
  have hle := Spec.le_maxArm arms idx _ ha
  simp only [Arm.ty] at hle
  rw [encTy_union e nm arms idx x pos an d t' ha hfx]
  simp only [List.length_append, written_length, scalarBytes_length, skip_length, overlay_length, hx]
  omega

theorem FieldFix.absent (e : Endian) (t : Ty) : FieldFix e .optional t .absent := by
  refine ⟨fun all allv n pos _ hfx _ hop _ _ => ?_, fun h => by cases h⟩
  have hcs := codecSize_fixed t hfx
  have hop' := optPad t (hop rfl)
  rw [mslot_fixed n t .optional hfx]
  simp only [fieldCells, Spec.slot, hcs, hop', List.length_append, written_length, scalarBytes_length,
    skip_length, Int.toNat_natCast, Spec.flagSize]
  omega

theorem FieldFix.present (e : Endian) (t : Ty) (x : Val) (hc : x.isCounter = false)
    (ih : FieldFix e .plain t x) : FieldFix e .optional t (.present x) := by
  refine ⟨fun all allv n pos hT hfx _ hop _ _ => ?_, fun h => by cases h⟩
  have hop' := optPad t (hop rfl)
  have hv : ∀ q, (encVal e t x q).length = Spec.sizeTy t := fun q =>
    encVal_length e t x q hfx (ih.2 rfl hc hT hfx q)
  rw [mslot_fixed n t .optional hfx]
  simp only [fieldCells, Spec.slot, hop', List.length_append, hv, written_length, scalarBytes_length,
    skip_length, Spec.flagSize]
  omega

theorem FieldFix.bytes (e : Endian) (k : MKind) (b : Bytes) (hl : objLen k b.length = true) :
    FieldFix e k .byte (.bytes b) := by
  refine ⟨fun all allv n pos _ _ hst _ _ _ => ?_, fun h => absurd h (objLen_kind k _ hl).1⟩
  cases k with
  | plain => exact (Bool.false_ne_true hl).elim
  | optional => exact (Bool.false_ne_true hl).elim
  | fixed c =>
    have hlc : b.length = c := (objLen_fixed c _).1 hl
    rw [mslot_fixed n .byte _ rfl]
    simp [fieldCells, Spec.slot, Spec.sizeTy, hlc]
  | dyn s sh => exact (Bool.false_ne_true hst).elim
  | limited s c =>
    have := castCount_le (sizerPrimOf s all) (min b.length c)
    rw [mslot_fixed n .byte _ rfl]
    simp only [fieldCells, Spec.slot, Spec.sizeTy, overlay_length, written_length, List.length_take]
    omega
  | greedy => exact (Bool.false_ne_true hst).elim

theorem FieldFix.arr (e : Endian) (k : MKind) (t : Ty) (xs : List Val) (hl : objLen k xs.length = true)
    (ih : ElemsFix e t xs) : FieldFix e k t (.arr xs) := by
  refine ⟨fun all allv n pos hT hfx hst _ _ _ => ?_, fun h => absurd h (objLen_kind k _ hl).1⟩
  cases k with
  | plain => exact (Bool.false_ne_true hl).elim
  | optional => exact (Bool.false_ne_true hl).elim
  | fixed c =>
    have hlc : xs.length = c := (objLen_fixed c _).1 hl
    have h1 := ih c pos hT hfx
    rw [mslot_fixed n t _ hfx]
    simp only [fieldCells, Spec.slot, h1, hlc, Nat.min_self]
  | dyn s sh => exact (Bool.false_ne_true hst).elim
  | greedy => exact (Bool.false_ne_true hst).elim
  | limited s c =>
    have hcl := castCount_le (sizerPrimOf s all) (min xs.length c)
    have h1 := ih (castCount (sizerPrimOf s all) (min xs.length c)) pos hT hfx
    have hle : min (castCount (sizerPrimOf s all) (min xs.length c)) xs.length ≤ c := by omega
    have := Nat.mul_le_mul_right (Spec.sizeTy t) hle
    rw [mslot_fixed n t _ hfx]
    simp only [fieldCells, Spec.slot, overlay_length, h1]
    omega

theorem MsFix.cons (e : Endian) (all : List Member) (n : String) (t : Ty) (k : MKind) (r : List Member) (v : Val)
    (vs : List Val) (hcnt : v.isCounter = isSizer n all) (ihf : FieldFix e k t v) (ihm : MsFix e all r vs) :
    MsFix e all (.mk n t k :: r) (v :: vs) := by
  intro allv S bs pos cf hsub hM hfm
  obtain ⟨hT, _, _, hopt, hMr⟩ := hM.cons
  obtain ⟨hst, hft, hfr⟩ := (Spec.fixedMs_cons n t k r).1 hfm
  have hmem : Member.mk n t k ∈ all := hsub _ (List.mem_cons_self ..)
  have he := Spec.endsBlock_of_fixed n t k r hfm
  have hL := ihf.1 all allv n pos hT hft hst hopt hcnt (cf n t k hmem)
  rw [lay_cons, he, padOf_static S _ r _ he, encMs_cons, hL, padLen_nat]
  have ih := ihm allv S (alignUp (bs + mslot (.mk n t k)) (aN S false r))
    (pos + mslot (.mk n t k) + padTo (bs + mslot (.mk n t k)) (aN S false r)) cf
    (fun m hm => hsub m (List.mem_cons_of_mem _ hm)) hMr hfr
  simp only [endLay_p16, List.length_append, hL, skip_length]
  rw [← ih]
  simp only [alignUp]
  omega

theorem ElemsFix.cons (e : Endian) (t : Ty) (x : Val) (xs : List Val) (hc : x.isCounter = false)
    (ihx : FieldFix e .plain t x) (ihs : ElemsFix e t xs) : ElemsFix e t (x :: xs) := by
  intro cnt pos hT hfx
  cases cnt with
  | zero => simp [encElems_zero]
  | succ c =>
    have hv := encVal_length e t x pos hfx (ihx.2 rfl hc hT hfx pos)
    have ih := ihs c (pos + (encVal e t x pos).length) hT hfx
    rw [encElems_cons, List.length_append, hv, ← hv, ih, hv, List.length_cons, Nat.succ_min_succ, Nat.succ_mul]
    omega

theorem fix_cases (e : Endian) : ObjCases (FieldFix e) (MsFix e) (ElemsFix e) where
  sizer := FieldFix.sizer e
  prim := fun p i _ => FieldFix.of_ty rfl (fun _ _ pos => by simp [encTy, Spec.sizeTy])
  byte := fun i _ => FieldFix.of_ty rfl (fun _ _ pos => by simp [encTy, Spec.sizeTy])
  enum := fun nm es i _ => FieldFix.of_ty rfl (fun _ _ pos => by simp [encTy, Spec.sizeTy])
  struct := FieldFix.struct e
  union := fun nm arms idx an d t x ha hc _ ih => FieldFix.union e nm arms idx an d t x ha hc ih
  absent := FieldFix.absent e
  present := fun t x hc _ ih => FieldFix.present e t x hc ih
  bytes := FieldFix.bytes e
  arr := fun k t xs _ hl _ ih => FieldFix.arr e k t xs hl ih
  nil := fun all allv S bs pos _ _ _ _ => by simp [encMs, endLay_p16]
  cons := fun all n t k r v vs hcnt _ _ ihf ihm => MsFix.cons e all n t k r v vs hcnt ihf ihm
  enil := fun t cnt pos _ _ => by simp [encElems_nil]
  econs := fun t x xs hc _ _ ihx ihs => ElemsFix.cons e t x xs hc ihx ihs

theorem fieldFix (e : Endian) (v : Val) (k : MKind) (t : Ty) (h : objField k t v = true) : FieldFix e k t v :=
  (obj_induct (fix_cases e)).1 v k t h

theorem fms_p16 (e : Endian) : (vs : List Val) → ∀ (ms all : List Member) (allv : List Val) (S bs pos : Nat),
      (∀ n t k, Member.mk n t k ∈ all → CounterLen_p16 e all allv n t) → (∀ m ∈ ms, m ∈ all) → MsOk all ms →
      Spec.fixedMs ms = true → objMs all ms vs = true →
      bs + (encMs e all allv ms vs (lay S false ms false bs) pos).length = endLay_p16 S ms bs :=
  fun vs ms all allv S bs pos cf hsub hM hfm ho =>
    (obj_induct (fix_cases e)).2.1 vs all ms ho allv S bs pos cf hsub hM hfm

theorem elemsFix (e : Endian) (xs : List Val) (t : Ty) (cnt pos : Nat) (hT : TyOk t) (hfx : Spec.fixedTy t = true)
    (ho : objElems t xs = true) : (encElems e t xs cnt pos).length = min cnt xs.length * Spec.sizeTy t :=
  (obj_induct (fix_cases e)).2.2 xs t ho cnt pos hT hfx


theorem nearest_eq (n x : Nat) (hn : 0 < n) : nearest n (x : Int) = ((alignUp x n : Nat) : Int) := by
  unfold nearest
  rw [← div_mul_eq_alignUp x n hn]
  have h : ((x : Int) + (n : Int) - 1) = ((x + n - 1 : Nat) : Int) := by omega
  rw [h, Int.natCast_mul, Int.natCast_ediv]

/-- what one member adds to the running size (before its padding) -/
def bszInc (t : Ty) (k : MKind) (v : Val) (kind0 : Bool) (msize : Nat) : Int :=
  if kind0 then (if k.isStatic then (msize : Int) else (v.len : Int) * ((PL.nodeTy t).size : Int))
  else (if k.isStatic then byteSizeTy t v else (match v with | .arr xs => byteSizeElems t xs | _ => 0))

/-- the running size after a member and its padding statement -/
def bszStep (cur inc : Int) (static0 : Bool) (padding : Int) : Int :=
  if padding < 0 then nearest padding.natAbs (cur + inc + (if static0 then max padding 0 else 0))
  else cur + inc + (if static0 then max padding 0 else 0)

/-- `acc`, `bytes` after one member (the body of `Cpp.byteSizeMs`) -/
def bszPair (t : Ty) (k : MKind) (v : Val) (kind : Nat) (msize : Nat) (padding : Int) (acc bytes : Int) : Int × Int :=
  let dynOrGreedy := match k with
    | .dyn _ _ => true
    | .greedy => true
    | _ => false
  let p1 : Int × Int :=
    if kind = 0 then
      if dynOrGreedy then (acc + (v.len : Int) * ((PL.nodeTy t).size : Int), bytes)
      else (acc, bytes + (msize : Int) + max padding 0)
    else
      if dynOrGreedy then (acc + (match v with | .arr xs => byteSizeElems t xs | _ => 0), bytes)
      else (acc + byteSizeTy t v, bytes)
  let p2 : Int × Int :=
    if padding < 0 then
      (nearest padding.natAbs (if p1.2 ≠ 0 then p1.1 + p1.2 else p1.1), 0)
    else (p1.1, p1.2)
  p2

theorem byteSizeMs_unfold (all : List Member) (n : String) (t : Ty) (k : MKind) (r : List Member) (v : Val)
    (vs : List Val) (mem : PL.Mem) (mems : List PL.Mem) (msize al : Nat) (padding : Int)
    (ls : List (Nat × Nat × Int)) (acc bytes : Int) :
    byteSizeMs all (.mk n t k :: r) (v :: vs) (mem :: mems) ((msize, al, padding) :: ls) acc bytes =
      byteSizeMs all r vs mems ls (bszPair t k v mem.kind msize padding acc bytes).1
        (bszPair t k v mem.kind msize padding acc bytes).2 := by
  obtain ⟨sz, al', kind, d1, d2, d3, d4⟩ := mem
  -- the element sizes of a dynamic array are recursive calls below `v`: only there must `v` be a constructor
  cases kind with
  | zero => cases padding <;> cases k <;> rfl
  | succ j =>
    cases padding <;> cases k with
    | dyn s sh => cases v <;> rfl
    | greedy => cases v <;> rfl
    | _ => rfl

theorem bszPair_sum (t : Ty) (k : MKind) (v : Val) (kind msize : Nat) (padding : Int) (acc bytes : Int) :
    (bszPair t k v kind msize padding acc bytes).1 + (bszPair t k v kind msize padding acc bytes).2
      = bszStep (acc + bytes) (bszInc t k v (decide (kind = 0)) msize) (decide (kind = 0) && k.isStatic) padding := by
  have hif : ∀ (a b : Int), (if b ≠ 0 then a + b else a) = a + b := by
    intro a b; split <;> omega
  -- "dynamic or greedy" is "not static"; then both sides are the same sum, rounded or not
  have hd : (match k with | .dyn _ _ => true | .greedy => true | _ => false) = !k.isStatic := by cases k <;> rfl
  simp only [bszPair, bszStep, bszInc, hd, hif]
  by_cases hk0 : kind = 0 <;> by_cases hp : padding < 0 <;> cases k.isStatic <;>
    simp only [hk0, hp, decide_true, decide_false, if_true, if_false, Bool.not_true, Bool.not_false,
      Bool.and_true, Bool.and_false, Bool.false_eq_true, Int.add_zero] <;>
    first | omega | (congr 1; omega)

theorem byteSizeMs_nil (all : List Member) (vs : List Val) (mems : List PL.Mem) (ls : List (Nat × Nat × Int))
    (acc bytes : Int) : byteSizeMs all [] vs mems ls acc bytes = acc + bytes := by
  have : byteSizeMs all [] vs mems ls acc bytes = if bytes ≠ 0 then acc + bytes else acc := by
    cases vs <;> rfl
  rw [this]
  split <;> omega

/-- `byteSizeMs` with its two accumulators added up: the result depends on their sum only -/
def bsz : List Member → List Val → List (Nat × Nat × Int) → Int → Int
  | .mk _ t k :: r, v :: vs, (msize, _, p) :: ls, cur =>
    bsz r vs ls (bszStep cur (bszInc t k v (decide ((PL.nodeTy t).kind = 0)) msize)
      (decide ((PL.nodeTy t).kind = 0) && k.isStatic) p)
  | _, _, _, cur => cur

theorem bsz_cons (n : String) (t : Ty) (k : MKind) (r : List Member) (v : Val) (vs : List Val) (msize al : Nat)
    (p : Int) (ls : List (Nat × Nat × Int)) (cur : Int) :
    bsz (.mk n t k :: r) (v :: vs) ((msize, al, p) :: ls) cur
      = bsz r vs ls (bszStep cur (bszInc t k v (decide ((PL.nodeTy t).kind = 0)) msize)
          (decide ((PL.nodeTy t).kind = 0) && k.isStatic) p) := rfl

theorem byteSizeMs_eq_bsz (all : List Member) : (ms : List Member) → ∀ (vs : List Val)
    (ls : List (Nat × Nat × Int)) (acc bytes : Int),
    byteSizeMs all ms vs (PL.memsOf ms) ls acc bytes = bsz ms vs ls (acc + bytes)
  | [], vs, ls, acc, bytes => byteSizeMs_nil all vs _ ls acc bytes
  | .mk n t k :: r, [], ls, acc, bytes => by
    have : byteSizeMs all (.mk n t k :: r) [] (PL.memsOf (.mk n t k :: r)) ls acc bytes
        = if bytes ≠ 0 then acc + bytes else acc := rfl
    rw [this]
    show _ = acc + bytes
    split <;> omega
  | .mk n t k :: r, v :: vs, [], acc, bytes => by
    have : byteSizeMs all (.mk n t k :: r) (v :: vs) (PL.memsOf (.mk n t k :: r)) [] acc bytes
        = if bytes ≠ 0 then acc + bytes else acc := rfl
    rw [this]
    show _ = acc + bytes
    split <;> omega
  | .mk n t k :: r, v :: vs, (msize, al, p) :: ls, acc, bytes => by
    have hmm : PL.memsOf (.mk n t k :: r) = PL.memOf (PL.nodeTy t) k :: PL.memsOf r := rfl
    rw [hmm, byteSizeMs_unfold, byteSizeMs_eq_bsz all r vs ls, bszPair_sum, PL.memOf_kind, bsz_cons]

theorem byteSizeElems_cons (t : Ty) (x : Val) (xs : List Val) :
    byteSizeElems t (x :: xs) = byteSizeTy t x + byteSizeElems t xs := rfl

theorem byteSizeElems_nil (t : Ty) : byteSizeElems t [] = 0 := rfl

theorem byteSizeTy_other (t : Ty) (v : Val) (h : ∀ nm ms vs, ¬ (t = .struct nm ms ∧ v = .struct vs)) :
    byteSizeTy t v = ((PL.nodeTy t).size : Int) := by
  cases t <;> cases v <;> first | rfl | exact absurd ⟨rfl, rfl⟩ (h _ _ _)

theorem bszStep_eq (cur L : Nat) (static0 : Bool) (padding : Int)
    (hz : static0 = false → 0 ≤ padding → padding = 0) :
    bszStep (cur : Int) (L : Int) static0 padding = ((cur + L + padLen padding (cur + L) : Nat) : Int) := by
  unfold bszStep padLen
  by_cases hp : padding < 0
  · rw [if_pos hp, if_pos hp]
    have hm : max padding 0 = 0 := by omega
    have hn : 0 < padding.natAbs := by omega
    have hc : (cur : Int) + (L : Int) + (if static0 = true then max padding 0 else 0) = ((cur + L : Nat) : Int) := by
      cases static0 <;> simp [hm]
    rw [hc, nearest_eq _ _ hn]
    rfl
  · rw [if_neg hp, if_neg hp]
    cases hs : static0 with
    | true =>
      simp only [if_true]
      omega
    | false =>
      have := hz hs (by omega)
      subst this
      simp

theorem endsBlock_of_not_static0 (n : String) (t : Ty) (k : MKind) (hM : MemberOk t k)
    (h : (decide ((PL.nodeTy t).kind = 0) && k.isStatic) = false) : Spec.endsBlock (.mk n t k) = true := by
  cases he : Spec.endsBlock (.mk n t k) with
  | true => rfl
  | false =>
    obtain ⟨hst, hfx⟩ := PL.static_fixed_of_not_endsBlock n t k hM he
    rw [decide_eq_true (PL.kind_of_fixed t hfx), hst] at h
    cases h

theorem padLen_mono (p : Int) {x y : Nat} (h : x ≤ y) : x + padLen p x ≤ y + padLen p y := by
  unfold padLen
  split
  · exact alignUp_mono (by omega) h
  · omega

/-- the running size of `get_byte_size` never falls behind the encoder: it depends on `cur + inc` only, where it is
    `bszStep_eq`, and a padding statement is monotone -/
theorem bszStep_ge (off L : Nat) (cur inc : Int) (static0 : Bool) (padding : Int)
    (hcur : (off : Int) ≤ cur) (hinc : (L : Int) ≤ inc)
    (hz : static0 = false → 0 ≤ padding → padding = 0) :
    ((off + L + padLen padding (off + L) : Nat) : Int) ≤ bszStep cur inc static0 padding := by
  obtain ⟨n, hn⟩ := Int.eq_ofNat_of_zero_le (a := cur + inc) (by omega)
  have h : bszStep cur inc static0 padding = bszStep (n : Int) ((0 : Nat) : Int) static0 padding := by
    unfold bszStep; rw [hn]; simp
  rw [h, bszStep_eq n 0 static0 padding hz]
  exact Int.ofNat_le.2 (padLen_mono padding (by omega))

theorem encVal_dyn (e : Endian) (t : Ty) (v : Val) (pos : Nat) (h : (PL.nodeTy t).kind ≠ 0) :
    encVal e t v pos = encTy e t v pos := by
  unfold encVal
  rw [if_neg (fun hc => h (kind0_of_codecSize t hc))]

theorem objField_dynlike (k : MKind) (t : Ty) (v : Val) (hk : k.isStatic = false) (ho : objField k t v = true) :
    (∃ xs, v = .arr xs ∧ objElems t xs = true) ∨ (t = .byte ∧ ∃ b, v = .bytes b) := by
  cases v with
  | arr xs => exact Or.inl ⟨xs, rfl, ((objField_arr_iff k t xs).1 ho).2.2⟩
  | bytes b => exact Or.inr ⟨((objField_bytes_iff k t b).1 ho).1, b, rfl⟩
  | sizer => rw [(objField_sizer k t).1 ho] at hk; cases hk
  | absent => rw [(objField_absent k t).1 ho] at hk; cases hk
  | present x => rw [((objField_present k t x).1 ho).1] at hk; cases hk
  | struct vs => rw [(objField_struct k t vs ho).1] at hk; cases hk
  | union idx x => rw [(objField_union k t idx x ho).1] at hk; cases hk
  | int i => rw [(objField_int k t i ho).1] at hk; cases hk

/-- one member statement at `pos`: its length fits the walk (`LenOk`), is at most what get_byte_size counts for the member
    (`bszInc`), and is that when the counts fit -/
structure FieldLen (e : Endian) (all : List Member) (allv : List Val) (n : String) (t : Ty) (k : MKind) (v : Val)
    (pos : Nat) : Prop where
  lenok : PL.LenOk (.mk n t k) (fieldCells e all allv n t k v (mslot (.mk n t k)) pos).length (mslot (.mk n t k))
  le : ((fieldCells e all allv n t k v (mslot (.mk n t k)) pos).length : Int)
        ≤ bszInc t k v (decide ((PL.nodeTy t).kind = 0)) (mslot (.mk n t k))
  eq : fitK all k v = true → fitTy t v = true →
      ((fieldCells e all allv n t k v (mslot (.mk n t k)) pos).length : Int)
        = bszInc t k v (decide ((PL.nodeTy t).kind = 0)) (mslot (.mk n t k))

/-- `do_encode` of a value: it ends aligned (the next element starts there), within `get_byte_size()`, at it when the counts fit -/
def TyLen (e : Endian) (t : Ty) (v : Val) (pos : Nat) : Prop :=
  Spec.alignTy t ∣ (encTy e t v pos).length ∧ ((encTy e t v pos).length : Int) ≤ byteSizeTy t v ∧
    (fitTy t v = true → ((encTy e t v pos).length : Int) = byteSizeTy t v)

theorem FieldLen.dynlike (e : Endian) (all : List Member) (allv : List Val) (n : String) (t : Ty) (k : MKind)
    (v : Val) (pos L : Nat) (inc : Int) (hk : k.isStatic = false)
    (hL : (fieldCells e all allv n t k v (mslot (.mk n t k)) pos).length = L)
    (hinc : bszInc t k v (decide ((PL.nodeTy t).kind = 0)) (mslot (.mk n t k)) = inc)
    (hd : Spec.alignTy t ∣ L) (hle : (L : Int) ≤ inc) (heq : fitK all k v = true → fitTy t v = true → (L : Int) = inc) :
    FieldLen e all allv n t k v pos := by
  obtain ⟨hend, hal⟩ := Spec.endsBlock_dynlike n t k hk
  refine ⟨⟨(fun he => by rw [hend] at he; cases he), fun _ => ⟨?_, ?_⟩⟩, ?_, ?_⟩
  · rw [hL, hal]; exact hd
  · rw [mslot_dynlike n t k hk]; exact Nat.dvd_zero _
  · rw [hL, hinc]; exact hle
  · intro h1 h2; rw [hL, hinc]; exact heq h1 h2

/-- how many elements the statement of a dynamic or greedy array writes -/
def writtenCount (all : List Member) (k : MKind) (len : Nat) : Nat :=
  match k with
  | .dyn s _ => castCount (sizerPrimOf s all) len
  | _ => len

theorem writtenCount_le (all : List Member) (k : MKind) (len : Nat) : writtenCount all k len ≤ len := by
  cases k <;> first | exact Nat.le_refl _ | exact castCount_le _ _

theorem writtenCount_fit (all : List Member) (k : MKind) (v : Val) (h : fitK all k v = true) :
    writtenCount all k v.len = v.len := by
  cases k <;> first | rfl | exact castCount_fit _ _ (of_decide_eq_true h)

theorem fieldCells_dynlike_arr (e : Endian) (all : List Member) (allv : List Val) (n : String) (t : Ty) (k : MKind)
    (xs : List Val) (msize pos : Nat) (hk : k.isStatic = false) :
    fieldCells e all allv n t k (.arr xs) msize pos = encElems e t xs (writtenCount all k xs.length) pos := by
  cases k <;> first | rfl | exact (Bool.false_ne_true hk.symm).elim

theorem fieldCells_dynlike_bytes (e : Endian) (all : List Member) (allv : List Val) (n : String) (t : Ty) (k : MKind)
    (b : Bytes) (msize pos : Nat) (hk : k.isStatic = false) :
    fieldCells e all allv n t k (.bytes b) msize pos = written (b.take (writtenCount all k b.length)) := by
  cases k <;> first | rfl | exact (Bool.false_ne_true hk.symm).elim | simp [fieldCells, writtenCount]

theorem fieldLen_of_fixed (e : Endian) (all : List Member) (allv : List Val) (n : String) (t : Ty) (k : MKind) (v : Val)
    (pos : Nat) (hT : TyOk t) (hopt : k = .optional → max 4 (cppAlign t) = max 4 (Spec.alignTy t))
    (ho : objField k t v = true) (hc : v.isCounter = isSizer n all) (hs : CounterLen_p16 e all allv n t)
    (hk0 : (PL.nodeTy t).kind = 0) : FieldLen e all allv n t k v pos := by
  have hf := PL.fixed_of_kind_ok t hT.ok hk0
  cases hst : k.isStatic with
  | true =>
    have hL := (fieldFix e v k t ho).1 all allv n pos hT hf hst hopt hc hs
    have hne : Spec.endsBlock (.mk n t k) = false :=
      Spec.endsBlock_of_fixed n t k [] ((Spec.fixedMs_cons n t k []).2 ⟨hst, hf, rfl⟩)
    refine ⟨⟨fun _ => hL, (fun he => by rw [hne] at he; cases he)⟩, ?_, ?_⟩
    · rw [hL]; simp [hk0, bszInc, hst]
    · intro _ _; rw [hL]; simp [hk0, bszInc, hst]
  | false =>
    have hinc : bszInc t k v (decide ((PL.nodeTy t).kind = 0)) (mslot (.mk n t k))
        = ((v.len * Spec.sizeTy t : Nat) : Int) := by
      simp [hk0, bszInc, hst, PL.nodeTy_size_fixed t hf]
    have hcl := writtenCount_le all k v.len
    refine FieldLen.dynlike e all allv n t k v pos (writtenCount all k v.len * Spec.sizeTy t) _ hst ?_ hinc
      (Nat.dvd_trans (Spec.alignTy_dvd_sizeTy t) (Nat.dvd_mul_left _ _))
      (by exact_mod_cast Nat.mul_le_mul_right (Spec.sizeTy t) hcl)
      (fun h _ => by rw [writtenCount_fit all k v h])
    rcases objField_dynlike k t v hst ho with ⟨xs, rfl, hel⟩ | ⟨rfl, b, rfl⟩
    · have hcl' : writtenCount all k xs.length ≤ xs.length := hcl
      rw [fieldCells_dynlike_arr e all allv n t k xs _ pos hst,
        elemsFix e xs t (writtenCount all k xs.length) pos hT hf hel, Nat.min_eq_left hcl']
      rfl
    · rw [fieldCells_dynlike_bytes e all allv n .byte k b _ pos hst]
      have : writtenCount all k b.length ≤ b.length := hcl
      simp only [written_length, List.length_take, Spec.sizeTy, Val.len]
      omega


/-- `FieldLen` in every struct at every position, and `TyLen` of a plain value.  The typing of the member stands INSIDE the
    motive (unlike `FieldFix`): `ObjCases` hands a case the typing of the parts only, `fieldLen_of_fixed` needs the whole's -/
def FieldLenAll (e : Endian) (k : MKind) (t : Ty) (v : Val) : Prop :=
  objField k t v = true →
    (∀ (all : List Member) (allv : List Val) (n : String) (pos : Nat), TyOk t → MemberOk t k →
      (k = .optional → max 4 (cppAlign t) = max 4 (Spec.alignTy t)) → v.isCounter = isSizer n all →
      CounterLen_p16 e all allv n t → Spec.alignMember (.mk n t k) ∣ pos → FieldLen e all allv n t k v pos) ∧
    (k = .plain → v.isCounter = false → TyOk t → ∀ pos, Spec.alignTy t ∣ pos → TyLen e t v pos)

/-- `off`: where the encoder stands in front of `ms`; `cur`: get_byte_size's running `acc + bytes` there, never behind the
    encoder, ahead of it once a bound array was longer than its counter says -/
def MsLen (e : Endian) (all ms : List Member) (vs : List Val) : Prop :=
  ∀ (allv : List Val) (S : Nat) (ad : Bool) (off0 bs A base off : Nat), IsAl S → S ∣ base →
    (∀ n t k, Member.mk n t k ∈ all → CounterLen_p16 e all allv n t) → (∀ m ∈ ms, m ∈ all) → MsOk all ms →
    LayInv S (Spec.dynMs all) ms ad off0 bs A → off = alignUp off0 (aN S ad ms) →
    S ∣ off + (encMs e all allv ms vs (lay S (Spec.dynMs all) ms ad bs) (base + off)).length ∧
    ∀ cur : Int, (off : Int) ≤ cur →
      ((off + (encMs e all allv ms vs (lay S (Spec.dynMs all) ms ad bs) (base + off)).length : Nat) : Int)
          ≤ bsz ms vs (lay S (Spec.dynMs all) ms ad bs) cur ∧
        (fitMs all ms vs = true → cur = (off : Int) →
          bsz ms vs (lay S (Spec.dynMs all) ms ad bs) cur
            = ((off + (encMs e all allv ms vs (lay S (Spec.dynMs all) ms ad bs) (base + off)).length : Nat) : Int))

/-- elements of a type of dynamic size (`kind ≠ 0`; else `ElemsFix`); equality needs every element written (`xs.length ≤ cnt`) -/
def ElemsLen (e : Endian) (t : Ty) (xs : List Val) : Prop :=
  ∀ (cnt pos : Nat), TyOk t → (PL.nodeTy t).kind ≠ 0 → Spec.alignTy t ∣ pos →
    Spec.alignTy t ∣ (encElems e t xs cnt pos).length ∧
      ((encElems e t xs cnt pos).length : Int) ≤ byteSizeElems t xs ∧
      (fitElems t xs = true → xs.length ≤ cnt → ((encElems e t xs cnt pos).length : Int) = byteSizeElems t xs)

theorem TyLen.of_fixed (e : Endian) (t : Ty) (v : Val) (pos : Nat) (hT : TyOk t) (hf : Spec.fixedTy t = true)
    (ho : objField .plain t v = true) (hnc : v.isCounter = false)
    (hns : ∀ nm ms vs, ¬ (t = .struct nm ms ∧ v = .struct vs)) : TyLen e t v pos := by
  have hL := (fieldFix e v .plain t ho).2 rfl hnc hT hf pos
  unfold TyLen
  rw [hL, byteSizeTy_other t v hns, PL.nodeTy_size_fixed t hf]
  exact ⟨Spec.alignTy_dvd_sizeTy t, Int.le_refl _, fun _ => rfl⟩

/-- `hk`: in any struct a member of this shape has a type of kind 0; its third argument (`isSizer → prim`) serves the
    `sizer` case alone -/
theorem FieldLenAll.of_k0 {e : Endian} {k : MKind} {t : Ty} {v : Val}
    (hk : ∀ (all : List Member) (n : String), MemberOk t k → v.isCounter = isSizer n all →
      (isSizer n all = true → ∃ p, t = .prim p) → (PL.nodeTy t).kind = 0)
    (hty : objField k t v = true → k = .plain → v.isCounter = false → TyOk t → ∀ pos, TyLen e t v pos) :
    FieldLenAll e k t v :=
  fun ho => ⟨fun all allv n pos hT hMO hopt hc hs _ =>
      fieldLen_of_fixed e all allv n t k v pos hT hopt ho hc hs
        (hk all n hMO hc (fun h => by obtain ⟨p, hp, _⟩ := hs h; exact ⟨p, hp⟩)),
    fun hk' hnc hT pos _ => hty ho hk' hnc hT pos⟩

theorem FieldLenAll.struct (e : Endian) (nm : String) (ms : List Member) (vs : List Val)
    (hom : objMs ms ms vs = true) (ih : MsLen e ms ms vs) : FieldLenAll e .plain (.struct nm ms) (.struct vs) := by
  intro ho
  have hty : TyOk (.struct nm ms) → ∀ pos, Spec.alignTy (.struct nm ms) ∣ pos →
      TyLen e (.struct nm ms) (.struct vs) pos := by
    intro hT pos hpos
    obtain ⟨hu, hM⟩ := hT.struct
    have H := ih vs (Spec.alignMs ms) false 0 0 (Spec.alignMs ms) pos 0 (Spec.alignMs_isAl ms) hpos
      (counterLen e ms vs hu hM.wf hom) (fun m hm => hm) hM (LayInv.init ms) (by simp [alignUp, padTo_zero])
    simp only [Nat.zero_add, Nat.add_zero] at H
    obtain ⟨hdv, hb⟩ := H
    obtain ⟨hle, heq⟩ := hb 0 (by simp)
    unfold TyLen
    rw [encTy_struct e nm ms vs pos hM, byteSizeTy_struct, structMembers_eq_lay ms hM.ok, byteSizeMs_eq_bsz]
    exact ⟨hdv, hle, fun hfit => (heq (by rw [← fitTy_struct nm]; exact hfit) (by simp)).symm⟩
  refine ⟨fun all allv n pos hT hMO hopt hc hs hpos => ?_, fun _ _ hT pos hpos => hty hT pos hpos⟩
  by_cases hk0 : (PL.nodeTy (.struct nm ms)).kind = 0
  · exact fieldLen_of_fixed e all allv n _ _ _ pos hT hopt ho hc hs hk0
  · -- a dynamic struct: the member statement is `do_encode` of the value
    have hns : isSizer n all = false := hc.symm
    have ht := hty hT pos hpos
    have hcells : fieldCells e all allv n (.struct nm ms) .plain (.struct vs)
        (mslot (.mk n (.struct nm ms) .plain)) pos = encTy e (.struct nm ms) (.struct vs) pos := by
      rw [fieldCells_plain e all allv n _ _ _ pos hns, encVal_dyn e _ _ pos hk0]
    have hinc : bszInc (.struct nm ms) .plain (.struct vs) (decide ((PL.nodeTy (.struct nm ms)).kind = 0))
        (mslot (.mk n (.struct nm ms) .plain)) = byteSizeTy (.struct nm ms) (.struct vs) := by
      simp [hk0, bszInc, MKind.isStatic]
    have hend : Spec.endsBlock (.mk n (.struct nm ms) .plain) = true := by
      show Spec.dynTy (.struct nm ms) = true
      rw [← PL.kind_ne_zero_ok _ hT.ok]
      simpa using hk0
    refine ⟨⟨(fun he => by rw [hend] at he; cases he), fun _ => ⟨?_, ?_⟩⟩, ?_, ?_⟩
    · rw [hcells]; exact ht.1
    · show Spec.alignTy (.struct nm ms) ∣ (PL.nodeTy (.struct nm ms)).size
      rw [PL.nodeTy_size_ok _ hT.ok]
      exact Spec.alignTy_dvd_sizeTy _
    · rw [hcells, hinc]; exact ht.2.1
    · intro _ hfit; rw [hcells, hinc]; exact ht.2.2 hfit

theorem FieldLenAll.arr (e : Endian) (k : MKind) (t : Ty) (xs : List Val) (hl : objLen k xs.length = true)
    (ih : ElemsLen e t xs) : FieldLenAll e k t (.arr xs) := by
  intro ho
  refine ⟨fun all allv n pos hT hMO hopt hc hs hpos => ?_, fun h => absurd h (objLen_kind k _ hl).1⟩
  by_cases hk0 : (PL.nodeTy t).kind = 0
  · exact fieldLen_of_fixed e all allv n t k _ pos hT hopt ho hc hs hk0
  · -- an array of dynamic structs: the elements one after the other
    have hst : k.isStatic = false := by
      cases k with
      | plain => exact (Bool.false_ne_true hl).elim
      | optional => exact (Bool.false_ne_true hl).elim
      | fixed c => exact absurd (hMO.sized rfl) hk0
      | limited s c => exact absurd (hMO.sized rfl) hk0
      | dyn s sh => rfl
      | greedy => rfl
    have hposT : Spec.alignTy t ∣ pos := by rw [← (Spec.endsBlock_dynlike n t k hst).2]; exact hpos
    obtain ⟨hd, hle, heq⟩ := ih (writtenCount all k xs.length) pos hT hk0 hposT
    have hinc : bszInc t k (.arr xs) (decide ((PL.nodeTy t).kind = 0)) (mslot (.mk n t k)) = byteSizeElems t xs := by
      simp [hk0, bszInc, hst]
    refine FieldLen.dynlike e all allv n t k _ pos _ _ hst
      (by rw [fieldCells_dynlike_arr e all allv n t k xs _ pos hst]) hinc hd hle (fun hfk hfit => ?_)
    refine heq (by rw [← fitTy_arr]; exact hfit) ?_
    have := writtenCount_fit all k (.arr xs) hfk
    simp only [Val.len] at this
    omega

theorem MsLen.cons (e : Endian) (all : List Member) (n : String) (t : Ty) (k : MKind) (r : List Member) (v : Val)
    (vs : List Val) (hcnt : v.isCounter = isSizer n all) (hf : objField k t v = true)
    (ihf : FieldLenAll e k t v) (ihm : MsLen e all r vs) :
    MsLen e all (.mk n t k :: r) (v :: vs) := by
  intro allv S ad off0 bs A base off hS hb cf hsub hM inv hoff
  obtain ⟨hT, hfx, _, hopt, hMr⟩ := hM.cons
  have hMO := MemberOk.of_okMs hM.ok
  have hmem : Member.mk n t k ∈ all := hsub _ (List.mem_cons_self ..)
  have hsz := cf n t k hmem
  have hpos : Spec.alignMember (.mk n t k) ∣ base + off := by rw [hoff]; exact inv.dvd_pos hS hb
  have FL := (ihf hf).1 all allv n (base + off) hT hMO hopt hcnt hsz hpos
  have hL := FL.lenok
  have hle := FL.le
  have heq := FL.eq
  generalize hcells : fieldCells e all allv n t k v (mslot (.mk n t k)) (base + off) = cells at hL hle heq
  -- the padding statement twice: at the encoder's position (`base + ..`) and for the running size (from 0)
  obtain ⟨hpadb, A', inv'⟩ := inv.step hS hL
  have hpad := hpadb base hb
  have hpad0 := hpadb 0 (Nat.dvd_zero _)
  have hzero := inv.padOf_ends hS hL
  rw [← hoff] at hpad hpad0
  simp only [Nat.zero_add] at hpad0
  have hz : (decide ((PL.nodeTy t).kind = 0) && k.isStatic) = false →
      0 ≤ padOf S (Spec.dynMs all) (.mk n t k) r (bs + mslot (.mk n t k)) →
      padOf S (Spec.dynMs all) (.mk n t k) r (bs + mslot (.mk n t k)) = 0 :=
    fun h0 hnn => hzero (endsBlock_of_not_static0 n t k hMO h0) hnn
  rw [lay_cons, encMs_cons, hcells, hpad]
  have hposeq : base + off + cells.length + padTo (off + cells.length) (aN S (Spec.endsBlock (.mk n t k)) r)
      = base + alignUp (off + cells.length) (aN S (Spec.endsBlock (.mk n t k)) r) := by
    simp only [alignUp]; omega
  rw [hposeq]
  simp only [List.length_append, skip_length, bsz_cons]
  have hlen : ∀ x : Nat, off + (cells.length + padTo (off + cells.length) (aN S (Spec.endsBlock (.mk n t k)) r) + x)
      = alignUp (off + cells.length) (aN S (Spec.endsBlock (.mk n t k)) r) + x := by
    intro x; simp only [alignUp]; omega
  rw [hlen]
  rw [← hoff] at inv'
  obtain ⟨ihd, ihb⟩ := ihm allv S (Spec.endsBlock (.mk n t k)) (off + cells.length)
    (alignUp (bs + mslot (.mk n t k)) (aN S (Spec.endsBlock (.mk n t k)) r)) A' base
    (alignUp (off + cells.length) (aN S (Spec.endsBlock (.mk n t k)) r)) hS hb cf
    (fun m hm => hsub m (List.mem_cons_of_mem _ hm)) hMr inv' rfl
  refine ⟨ihd, fun cur hab => ?_⟩
  have hge := bszStep_ge off cells.length cur _ _ _ hab hle hz
  rw [hpad0] at hge
  obtain ⟨ihle, iheq⟩ := ihb _ hge
  refine ⟨ihle, fun hfit hcur => ?_⟩
  obtain ⟨hfk, hft, hfr⟩ := (fitMs_cons all n t k r v vs).1 hfit
  refine iheq hfr ?_
  rw [hcur, ← heq hfk hft, bszStep_eq off cells.length _ _ hz, hpad0]
  rfl

theorem ElemsLen.cons (e : Endian) (t : Ty) (x : Val) (xs : List Val) (hc : x.isCounter = false)
    (hox : objField .plain t x = true) (ihx : FieldLenAll e .plain t x) (ihs : ElemsLen e t xs) :
    ElemsLen e t (x :: xs) := by
  intro cnt pos hT hk0 hpos
  obtain ⟨hd, hxle, hxeq⟩ := (ihx hox).2 rfl hc hT pos hpos
  cases cnt with
  | zero =>
    obtain ⟨_, hxs, _⟩ := ihs 0 pos hT hk0 hpos
    rw [encElems_zero] at hxs ⊢
    rw [byteSizeElems_cons]
    simp only [List.length_nil, Nat.dvd_zero, true_and] at hxs ⊢
    refine ⟨by omega, fun _ h => by simp at h⟩
  | succ c =>
    obtain ⟨ihd, ihle, iheq⟩ := ihs c (pos + (encTy e t x pos).length) hT hk0 (Nat.dvd_add hpos hd)
    rw [encElems_cons, encVal_dyn e t x pos hk0, byteSizeElems_cons, List.length_append]
    refine ⟨Nat.dvd_add hd ihd, by omega, fun hfit hlen => ?_⟩
    rw [fitElems_cons, Bool.and_eq_true] at hfit
    have h1 := hxeq hfit.1
    have h2 := iheq hfit.2 (by simp only [List.length_cons] at hlen; omega)
    omega

theorem len_cases (e : Endian) : ObjCases (FieldLenAll e) (MsLen e) (ElemsLen e) where
  sizer := fun t => FieldLenAll.of_k0
    (fun all n _ hc hs => by obtain ⟨p, rfl⟩ := hs hc.symm; rfl) (fun _ _ h => by cases h)
  prim := fun p i _ => FieldLenAll.of_k0 (fun _ _ _ _ _ => rfl)
    (fun ho _ hnc hT pos => TyLen.of_fixed e _ _ pos hT rfl ho hnc (fun _ _ _ h => by cases h.1))
  byte := fun i _ => FieldLenAll.of_k0 (fun _ _ _ _ _ => rfl)
    (fun ho _ hnc hT pos => TyLen.of_fixed e _ _ pos hT rfl ho hnc (fun _ _ _ h => by cases h.1))
  enum := fun nm es i _ => FieldLenAll.of_k0 (fun _ _ _ _ _ => rfl)
    (fun ho _ hnc hT pos => TyLen.of_fixed e _ _ pos hT rfl ho hnc (fun _ _ _ h => by cases h.1))
  struct := FieldLenAll.struct e
  union := fun nm arms idx an d t x _ _ _ _ => FieldLenAll.of_k0 (fun _ _ _ _ _ => rfl)
    (fun ho _ hnc hT pos => TyLen.of_fixed e _ _ pos hT hT.union_fixed ho hnc (fun _ _ _ h => by cases h.1))
  absent := fun t => FieldLenAll.of_k0 (fun _ _ hMO _ _ => hMO.opt rfl) (fun _ h => by cases h)
  present := fun t x _ _ _ => FieldLenAll.of_k0 (fun _ _ hMO _ _ => hMO.opt rfl) (fun _ h => by cases h)
  bytes := fun k b hl => FieldLenAll.of_k0 (fun _ _ _ _ _ => rfl) (fun _ h => absurd h (objLen_kind k _ hl).1)
  arr := fun k t xs _ hl _ ih => FieldLenAll.arr e k t xs hl ih
  nil := fun all allv S ad off0 bs A base off hS _ _ _ _ _ hoff => by
    have hd : S ∣ off := by rw [hoff]; exact dvd_alignUp _ _ hS.pos
    simp only [encMs, List.length_nil, Nat.add_zero, bsz]
    exact ⟨hd, fun cur hab => ⟨hab, fun _ h => h⟩⟩
  cons := fun all n t k r v vs hcnt hf _ ihf ihm => MsLen.cons e all n t k r v vs hcnt hf ihf ihm
  enil := fun t cnt pos _ _ _ => by simp [encElems_nil, byteSizeElems_nil]
  econs := fun t x xs hc hox _ ihx ihs => ElemsLen.cons e t x xs hc hox ihx ihs

theorem elems_len_p16 (e : Endian) : (xs : List Val) → ∀ (t : Ty) (cnt pos : Nat), TyOk t →
      (PL.nodeTy t).kind ≠ 0 → objElems t xs = true → Spec.alignTy t ∣ pos →
      Spec.alignTy t ∣ (encElems e t xs cnt pos).length ∧
        ((encElems e t xs cnt pos).length : Int) ≤ byteSizeElems t xs ∧
        (fitElems t xs = true → xs.length ≤ cnt → ((encElems e t xs cnt pos).length : Int) = byteSizeElems t xs) :=
  fun xs t cnt pos hT hk0 ho hpos => (obj_induct (len_cases e)).2.2 xs t ho cnt pos hT hk0 hpos


/-- the pointer encoder advances by at most `get_byte_size()` (before its conversion to `size_t`), and by
    exactly that much when no bound array is longer than its counter can say -/
theorem encodePtr_len (t : Ty) (v : Val) (e : Endian) (hT : TyOk t) (ho : objOk t v = true) :
    ((encodePtr t v e).length : Int) ≤ byteSizeTy t v ∧
      (countsFit t v = true → ((encodePtr t v e).length : Int) = byteSizeTy t v) := by
  have ho' : (!v.isCounter && objField .plain t v) = true := ho
  simp only [Bool.and_eq_true, Bool.not_eq_true'] at ho'
  exact (((obj_induct (len_cases e)).1 v .plain t ho'.2 ho'.2).2 rfl ho'.1 hT 0 (Nat.dvd_zero _)).2


theorem enum_range (es : List (String × Nat)) (i : Int) (hw : es.all (fun en => decide (en.2 < 2 ^ 32)) = true)
    (h : es.any (fun e => (e.2 : Int) == i) = true) : -(2 ^ 31 : Int) ≤ i ∧ i < 2 ^ 32 := by
  obtain ⟨en, hen, heq⟩ := List.any_eq_true.1 h
  have h1 := List.all_eq_true.1 hw en hen
  simp only [decide_eq_true_eq] at h1
  have h2 : (en.2 : Int) = i := by simpa using heq
  omega

theorem objLen_of_lenFits (all : List Member) (k : MKind) (n : Nat) (h : lenFits all k n = true) :
    objLen k n = true := by
  cases k <;> first | rfl | exact h

theorem wfMs_of_wfTy {nm : String} {ms : List Member} (h : wfTy (.struct nm ms) = true) : wfMs ms ms = true := by
  have h' : (uniq (ms.map (·.name)) && wfMs ms ms) = true := h
  rw [Bool.and_eq_true] at h'
  exact h'.2

theorem wfArms_of_wfTy {nm : String} {arms : List Arm} (h : wfTy (.union nm arms) = true) : wfArms arms = true := by
  have h' : (arms.all (fun a => decide (a.disc < 2 ^ 32)) && wfArms arms) = true := h
  rw [Bool.and_eq_true] at h'
  exact h'.2

theorem fitK_of_hasField (all : List Member) (k : MKind) (t : Ty) (v : Val)
    (hsz : ∀ s, k.sizer? = some s → sizerOk all s = true) (hf : hasField all k t v = true) : fitK all k v = true := by
  cases k with
  | dyn s sh =>
    have hlen := hasField_len all (.dyn s sh) t v s rfl hf
    exact decide_eq_true (lt_of_sizerOk all s (hsz s rfl) v.len (by simp only [MKind.shift] at hlen; omega))
  | _ => rfl

theorem objFit_cases :
    WtCases (fun _ k t v => wfTy t = true → objField k t v = true ∧ fitTy t v = true)
      (fun all ms vs => wfMs all ms = true → objMs all ms vs = true ∧ fitMs all ms vs = true)
      (fun t xs => wfTy t = true → objElems t xs = true ∧ fitElems t xs = true) where
  sizer := fun _ t _ => ⟨(objField_sizer .plain t).2 rfl, by cases t <;> rfl⟩
  prim := fun _ p i hr _ => ⟨(Bool.true_and _).trans hr, rfl⟩
  byte := fun _ i hr _ => ⟨(Bool.true_and _).trans hr, rfl⟩
  enum := fun _ nm es i hr hw => ⟨(Bool.true_and _).trans (decide_eq_true (enum_range es i hw hr)), rfl⟩
  struct := fun _ nm ms vs _ ih hw => ⟨(Bool.true_and _).trans (ih (wfMs_of_wfTy hw)).1, (ih (wfMs_of_wfTy hw)).2⟩
  union := fun _ nm arms idx an d t x ha hc _ ih hw => by
    obtain ⟨h1, h2⟩ := ih (WF.wfArms_get arms (wfArms_of_wfTy hw) idx _ ha).1
    have e : fitTy (.union nm arms) (.union idx x)
        = (match arms[idx]? with | some (.mk _ _ t) => fitTy t x | none => true) := rfl
    rw [e, ha]
    exact ⟨(objField_union_iff .plain nm arms idx x an d t ha).2 ⟨rfl, hc, h1⟩, h2⟩
  absent := fun _ t _ => ⟨(objField_absent .optional t).2 rfl, by cases t <;> rfl⟩
  present := fun _ t x hc _ ih hw => by
    rw [fitTy_present]
    exact ⟨(objField_present .optional t x).2 ⟨rfl, hc, (ih hw).1⟩, (ih hw).2⟩
  bytes := fun all k b hl _ => ⟨(objField_bytes_iff k .byte b).2 ⟨rfl, objLen_of_lenFits all k _ hl⟩, rfl⟩
  arr := fun all k t xs hb hl _ ih hw => by
    rw [fitTy_arr]
    exact ⟨(objField_arr_iff k t xs).2 ⟨hb, objLen_of_lenFits all k _ hl, (ih hw).1⟩, (ih hw).2⟩
  nil := fun _ _ => ⟨rfl, rfl⟩
  cons := fun all n t k r v vs hcnt hf _ ihf ihm hw => by
    obtain ⟨hwt, _, hsz, _, hwr⟩ := (wfMs_cons all n t k r).1 hw
    exact ⟨(objMs_cons all n t k r v vs).2 ⟨hcnt, (ihf hwt).1, (ihm hwr).1⟩,
      (fitMs_cons all n t k r v vs).2 ⟨fitK_of_hasField all k t v hsz hf, (ihf hwt).2, (ihm hwr).2⟩⟩
  enil := fun t _ => ⟨objElems_nil t, by cases t <;> rfl⟩
  econs := fun t x xs hc _ _ ihx ihs hw => by
    rw [fitElems_cons, (ihx hw).2, (ihs hw).2]
    exact ⟨(objElems_cons t x xs).2 ⟨hc, (ihx hw).1, (ihs hw).1⟩, rfl⟩

theorem obj_of_hasField (v : Val) (all : List Member) (k : MKind) (t : Ty) (hw : wfTy t = true)
    (h : hasField all k t v = true) : objField k t v = true :=
  ((wt_induct objFit_cases).1 v all k t h hw).1

theorem obj_of_hasMs_p16 : (vs : List Val) → ∀ (all ms : List Member), wfMs all ms = true →
      hasMs all ms vs = true → objMs all ms vs = true :=
  fun vs all ms hw h => ((wt_induct objFit_cases).2.1 vs all ms h hw).1

theorem obj_of_hasElems_p16 : (xs : List Val) → ∀ (t : Ty), wfTy t = true → hasElems t xs = true →
      objElems t xs = true :=
  fun xs t hw h => ((wt_induct objFit_cases).2.2 xs t h hw).1

theorem fit_of_hasField (v : Val) (all : List Member) (k : MKind) (t : Ty) (hw : wfTy t = true)
    (h : hasField all k t v = true) : fitTy t v = true :=
  ((wt_induct objFit_cases).1 v all k t h hw).2

theorem fit_of_hasMs_p16 : (vs : List Val) → ∀ (all ms : List Member), wfMs all ms = true →
      hasMs all ms vs = true → fitMs all ms vs = true :=
  fun vs all ms hw h => ((wt_induct objFit_cases).2.1 vs all ms h hw).2

theorem fit_of_hasElems_p16 : (xs : List Val) → ∀ (t : Ty), wfTy t = true → hasElems t xs = true →
      fitElems t xs = true :=
  fun xs t hw h => ((wt_induct objFit_cases).2.2 xs t h hw).2

/-- `objOk` is weaker than `hasType`: the theorems above cover every value of `Cpp.encodeVec_canonical` -/
theorem objOk_of_hasType (t : Ty) (v : Val) (hw : WF.wfTy t = true) (hv : hasType t v = true) :
    objOk t v = true ∧ countsFit t v = true := by
  simp only [hasType, Bool.and_eq_true] at hv
  simp only [objOk, countsFit, Bool.and_eq_true]
  exact ⟨⟨hv.1, obj_of_hasField v [] .plain t hw hv.2⟩, fit_of_hasField v [] .plain t hw hv.2⟩

end Cpp
end Prophy
