/-
  The host languages' reading of expression text that prophyc pastes into generated code, as executable definitions:
  the parser of `Expr.lean` with the operator table as a parameter (`parseWith`) and the table of Python 3 / C++
  (`hostInfo`); their evaluators (`evalPy`, `evalCpp` in `int` arithmetic) and the conditions under which they agree
  with calc (`precSafe`, `int32Safe`); the texts prophyc refuses (`unwritable` = model.py's UNWRITABLE_TEXT);
  `hasLeadingZero`: the texts on which the two lexers differ (D63, not refused): a predicate of the model, no source to
  read it from; translation phase 3 of a C++ compiler on calc's alphabet (`cppLex`).
  The driver runs `parseWith hostInfo`, `evalPy`, `evalCpp`, `precSafe`, `int32Safe` against the real interpreter and
  g++; `unwritable` and `cppLex` are written by reading the regular expression and [lex.phases]; they and
  `hasLeadingZero` are run by nothing.  Theorems: Lemmas/ExprParse, ExprLex, ExprCppLex, ExprHostTree, ExprHost.
-/
import ProphyModel.Expr
namespace Prophy
namespace Expr

mutual
  def parseAtomW (info : Tok → Option (Nat × Bool × BinOp)) : Nat → List Tok → Option (Ast × List Tok)
    | 0, _ => none
    | _ + 1, .num n :: r => some (.num n, r)
    | _ + 1, .ident s :: r => some (.name s, r)
    | fuel + 1, .minus :: r =>
      match parseAtomW info fuel r with
      | some (e, r') => some (.neg e, r')
      | none => none
    | fuel + 1, .lpar :: r =>
      match parseExprW info fuel 0 r with
      | some (e, .rpar :: r') => some (e, r')
      | _ => none
    | _ + 1, _ => none
  def parseExprW (info : Tok → Option (Nat × Bool × BinOp)) : Nat → Nat → List Tok → Option (Ast × List Tok)
    | 0, _, _ => none
    | fuel + 1, minLevel, toks =>
      match parseAtomW info fuel toks with
      | some (lhs, r) => parseLoopW info fuel minLevel lhs r
      | none => none
  def parseLoopW (info : Tok → Option (Nat × Bool × BinOp)) : Nat → Nat → Ast → List Tok → Option (Ast × List Tok)
    | 0, _, _, _ => none
    | fuel + 1, minLevel, lhs, toks =>
      match toks with
      | [] => some (lhs, [])
      | t :: r =>
        match info t with
        | some (lvl, rightAssoc, op) =>
          if lvl < minLevel then some (lhs, t :: r)
          else
            match parseExprW info fuel (if rightAssoc then lvl else lvl + 1) r with
            | some (rhs, r') => parseLoopW info fuel minLevel (.bin op lhs rhs) r'
            | none => none
        | none => some (lhs, t :: r)
end

/-- `Expr.parse` with the operator table as a parameter: at calc's table it IS `Expr.parse` (`parseWith_binInfo`,
    Lemmas/ExprParse) -/
def parseWith (info : Tok → Option (Nat × Bool × BinOp)) (toks : List Tok) : Option Ast :=
  match parseExprW info (4 * toks.length + 4) 0 toks with
  | some (e, []) => some e
  | _ => none

/-- the operator table of Python 3 and of C++ (restricted to calc's operators): `|` below `<< >>` below `+ -` below
    `* /`, all left-associative -/
def hostInfo : Tok → Option (Nat × Bool × BinOp)
  | .bar => some (0, false, .bor)
  | .shl => some (1, false, .shl)
  | .shr => some (1, false, .shr)
  | .plus => some (2, false, .add)
  | .minus => some (2, false, .sub)
  | .star => some (3, false, .mul)
  | .slash => some (3, false, .div)
  | _ => none

def isArith : BinOp → Bool
  | .add => true | .sub => true | .mul => true | .div => true
  | _ => false

/-- child `c` (left or right operand of `op`) is printed WITHOUT parentheses by calc's minimal
    printer `toks` although the host grammar needs them:
    * a shift directly under `+ - * /` (calc: shifts bind tightest; Python / C++: loosest but `|`),
    * a `|` as the right operand of a `|` (calc's `|` is right-associative, the hosts' is left). -/
def childBad (op : BinOp) (right : Bool) (c : Ast) : Bool :=
  match c with
  | .bin op' _ _ => (isArith op && isShift op') || (right && op == .bor && op' == .bor)
  | _ => false

def precSafe : Ast → Bool
  | .num _ => true
  | .name _ => true
  | .neg e => precSafe e
  | .bin op x y => !childBad op false x && !childBad op true y && precSafe x && precSafe y

/-- Python 3 on the pasted text (`/` written `//`): unbounded integers, floor division, no range
    diagnostics; division by zero and a negative shift count raise -/
def evalPy (env : String → Option Int) : Ast → Except EvalErr Int
  | .num n => .ok n
  | .name s => match env s with
    | some v => .ok v
    | none => .error (.unknown s)
  | .neg e => do
    let v ← evalPy env e
    pure (-v)
  | .bin op a b => do
    let x ← evalPy env a
    let y ← evalPy env b
    rawBinop op x y

def int32 (v : Int) : Bool := -2147483648 ≤ v && v < 2147483648

def chk32 (v : Int) : Except EvalErr Int := if int32 v then .ok v else .error .outOfRange

/-- C++ on `int` operands.  `.outOfRange` stands for "not computed in `int`": the result (or a
    literal) does not fit `int` - signed overflow is undefined, a wider literal changes the type of
    the whole expression -, a shift count above 31 or a left shift of a negative value (undefined
    before C++20).  `/` truncates toward zero.  `>>` of a negative value is the arithmetic shift
    (what C++20 prescribes and every supported compiler does). -/
def cppBinop (op : BinOp) (a b : Int) : Except EvalErr Int :=
  match op with
  | .add => chk32 (a + b)
  | .sub => chk32 (a - b)
  | .mul => chk32 (a * b)
  | .div => if b = 0 then .error .divZero else chk32 (a.tdiv b)
  | .shl =>
    if b < 0 then .error .negShift
    else if 31 < b || a < 0 then .error .outOfRange
    else chk32 (a * (2 ^ b.toNat : Nat))
  | .shr =>
    if b < 0 then .error .negShift
    else if 31 < b then .error .outOfRange
    else chk32 (a.fdiv (2 ^ b.toNat : Nat))
  | .bor => chk32 (lor a b)

def evalCpp (env : String → Option Int) : Ast → Except EvalErr Int
  | .num n => chk32 n
  | .name s => match env s with
    | some v => chk32 v
    | none => .error (.unknown s)
  | .neg e => do
    let v ← evalCpp env e
    chk32 (-v)
  | .bin op a b => do
    let x ← evalCpp env a
    let y ← evalCpp env b
    cppBinop op x y

/-- floor division and truncating division give the same quotient: the division is exact, or the
    operands have the same sign -/
def divAgree (a b : Int) : Bool := a % b == 0 || (0 ≤ a && 0 < b) || (a < 0 && b < 0)

/-- what the operands of one node must satisfy for `int` arithmetic to agree with calc's -/
def opSafe (op : BinOp) (x y : Int) : Bool :=
  match op with
  | .div => divAgree x y
  | .shl => decide (0 ≤ x) && decide (y ≤ 31)
  | .shr => decide (y ≤ 31)
  | _ => true

/-- calc's value of the (sub)tree exists and fits `int` -/
def val32 (env : String → Option Int) (a : Ast) : Bool :=
  match eval env a with
  | .ok v => int32 v
  | .error _ => false

/-- every subtree's value fits `int` (so does every literal and every named constant), every
    division is exact or has operands of the same sign, shift counts are at most 31 and the left
    operand of `<<` is not negative -/
def int32Safe (env : String → Option Int) : Ast → Bool
  | .num n => val32 env (.num n)
  | .name s => val32 env (.name s)
  | .neg e => int32Safe env e && val32 env (.neg e)
  | .bin op a b =>
    int32Safe env a && int32Safe env b && val32 env (.bin op a b) &&
      (match eval env a, eval env b with
       | .ok x, .ok y => opSafe op x y
       | _, _ => false)

/-- a hexadecimal digit (the predicate `lex` writes as `fun d => (hexVal? d).isSome`) -/
def isHexC (c : Char) : Bool := (hexVal? c).isSome

/-- `hlz prev cs`: somewhere in `cs` there is a `'0'` followed by a decimal digit and not preceded by an
    identifier character; `prev` says whether the character before `cs` is an identifier character -/
def hlz : Bool → List Char → Bool
  | _, [] => false
  | prev, c :: r =>
    (!prev && c == '0' && (match r with
      | d :: _ => d.isDigit
      | [] => false)) || hlz (isIdChar c) r

/-- the regular expression `(?<![A-Za-z0-9_])0[0-9]` matches somewhere in the text -/
def hasLeadingZero (cs : List Char) : Bool := hlz false cs

def nextIs (x : Char) : List Char → Bool
  | d :: _ => d == x
  | [] => false

def isSignC (c : Char) : Bool := c == '+' || c == '-'

/-- after `0x`: `[0-9a-fA-F]*[eE][-+]` matches a prefix.  A sign is not a hex digit, so the only way to match is:
    the maximal run of hex digits ends in `e`/`E` (flag `lastE`) and the next character is a sign. -/
def hexE : Bool → List Char → Bool
  | _, [] => false
  | lastE, c :: r => if isHexC c then hexE (c == 'e' || c == 'E') r else lastE && isSignC c

/-- UNWRITABLE_TEXT matches at this position (`c` the character here, `r` the text after it, `prev` = the
    character before is an identifier character: the look-behind `(?<![A-Za-z0-9_])` of the hex clause) -/
def unwAt (prev : Bool) (c : Char) (r : List Char) : Bool :=
  decide (c.toNat < 32 ∧ c ≠ '\t') || (c == '-' && nextIs '-' r) || (c == '+' && nextIs '+' r) ||
  (!prev && c == '0' && (nextIs 'x' r || nextIs 'X' r) && hexE false r.tail)

/-- the scan for a match; `prev` = the character before is an identifier character (as in `hlz`) -/
def unw : Bool → List Char → Bool
  | _, [] => false
  | prev, c :: r => unwAt prev c r || unw (isIdChar c) r

/-- `re.search(UNWRITABLE_TEXT, text)` finds a match -/
def unwritable (cs : List Char) : Bool := unw false cs

/-- the C++ tokens that can start on calc's alphabet (a comment opener counts as a token) -/
inductive CTok
  | ppnum (cs : List Char) | ident (cs : List Char)
  | plus | minus | star | slash | bar | lpar | rpar | lt | gt | shl | shr
  | plusplus | minusminus | arrow | arrowStar | barbar | lineComment | blockComment
  deriving DecidableEq, Repr, Inhabited

/-- `e E p P`: the letters after which a sign continues a pp-number -/
def isExpLetter (c : Char) : Bool := c == 'e' || c == 'E' || c == 'p' || c == 'P'

/-- the continuation of a pp-number: digits, letters, `_`, `.`, a sign directly after `e E p P`, and `'`
    followed by a digit, letter or `_`; `prevE` says the previous character is one of `e E p P`.
    Result: (the run, what is left). -/
def ppSpan : Bool → List Char → List Char × List Char
  | _, [] => ([], [])
  | prevE, c :: r =>
    if isIdChar c || c == '.' then (c :: (ppSpan (isExpLetter c) r).1, (ppSpan (isExpLetter c) r).2)
    else if prevE && isSignC c then (c :: (ppSpan false r).1, (ppSpan false r).2)
    else if c == '\'' && (match r with
        | d :: _ => isIdChar d
        | [] => false) then (c :: (ppSpan false r).1, (ppSpan false r).2)
    else ([], c :: r)

/-- the text after the `*/` that closes a block comment (everything is comment when it is not closed) -/
def skipBlock : List Char → List Char
  | [] => []
  | c :: r => if c == '*' && nextIs '/' r then r.tail else skipBlock r

/-- one step of phase 3 on `c :: r`: `none` = a character outside calc's alphabet; `some (none, rest)` = blank;
    `some (some t, rest)` = the LONGEST token that starts here -/
def cppHead (c : Char) (r : List Char) : Option (Option CTok × List Char) :=
    if c == ' ' || c == '\t' then some (none, r)
    else if c == '+' then
      if nextIs '+' r then some (some .plusplus, r.tail) else some (some .plus, r)
    else if c == '-' then
      if nextIs '-' r then some (some .minusminus, r.tail)
      else if nextIs '>' r then
        if nextIs '*' r.tail then some (some .arrowStar, r.tail.tail) else some (some .arrow, r.tail)
      else some (some .minus, r)
    else if c == '*' then some (some .star, r)
    else if c == '/' then
      if nextIs '/' r then some (some .lineComment, [])
      else if nextIs '*' r then some (some .blockComment, skipBlock r.tail)
      else some (some .slash, r)
    else if c == '|' then
      if nextIs '|' r then some (some .barbar, r.tail) else some (some .bar, r)
    else if c == '(' then some (some .lpar, r)
    else if c == ')' then some (some .rpar, r)
    else if c == '<' then
      if nextIs '<' r then some (some .shl, r.tail) else some (some .lt, r)
    else if c == '>' then
      if nextIs '>' r then some (some .shr, r.tail) else some (some .gt, r)
    else if c.isDigit then some (some (.ppnum (c :: (ppSpan false r).1)), (ppSpan false r).2)
    else if isIdStart c then
      let (cs, rest) := takeWhileAcc isIdChar (c :: r) []
      some (some (.ident cs), rest)
    else none

/-- fuel: one unit per step, `cs.length + 1` suffices; a line comment swallows the rest of the text -/
def cppLex : Nat → List Char → Option (List CTok)
  | 0, _ => none
  | _, [] => some []
  | fuel + 1, c :: r =>
    match cppHead c r with
    | none => none
    | some (none, rest) => cppLex fuel rest
    | some (some t, rest) => (cppLex fuel rest).map (t :: ·)

/-- the value of a pp-number that is an integer literal calc also has: `0`, a decimal literal without leading
    zero, `0x` + hex digits.  Everything else (`012` octal, `0X1`, `1u`, `0b1`, `1'000`, `0xE+1`, `12ab`): `none`. -/
def ppValue : List Char → Option Nat
  | [] => none
  | c :: r =>
    if c == '0' then
      match r with
      | [] => some 0
      | d :: hs => if d == 'x' && !hs.isEmpty && hs.all isHexC then some (digitsVal 16 hs) else none
    else if (c :: r).all Char.isDigit then some (digitsVal 10 (c :: r)) else none

/-- the calc token a C++ token is; `none` for a C++ token calc does not have -/
def ofCTok : CTok → Option Tok
  | .ppnum cs => (ppValue cs).map Tok.num
  | .ident cs => some (.ident (String.ofList cs))
  | .plus => some .plus
  | .minus => some .minus
  | .star => some .star
  | .slash => some .slash
  | .bar => some .bar
  | .lpar => some .lpar
  | .rpar => some .rpar
  | .shl => some .shl
  | .shr => some .shr
  | _ => none

end Expr
end Prophy
