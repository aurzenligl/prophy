/- C14 audited together: the evaluators (C14), the hosts' reading of pasted expression text (C14Host), the lexers of
   prophyc (C14Lex) and of C++ (C14CppLex), the source texts of the regular expressions (TablesTexts), the rendering of
   lone literals by the C++ generators (C14Literal) -/
import ProphyModel.Properties.C14
import ProphyModel.Properties.Tables   -- audited here: `constOk_is_source`, `legality_ranges_are_source`
import ProphyModel.Properties.C14Host
import ProphyModel.Properties.C14Lex
import ProphyModel.Properties.C14CppLex
import ProphyModel.Properties.TablesTexts
import ProphyModel.Properties.C14Literal
