/-
  C10 - Python message API keeps every reachable message state valid.

  The reference model `Api` is executable; the implementation is compared with it operation by
  operation.  The theorems are about the reference model, for every schema, state and operation.
-/
import ProphyModel.Api
import ProphyModel.Lemmas.ApiTyped
import ProphyModel.Lemmas.PyEncode
import ProphyModel.Lemmas.WFAccept
namespace Prophy.C10
open Prophy Prophy.Api

/-- a rejected operation leaves the message unchanged -/
theorem C10_rejected_unchanged (t : Ty) (v : Val) (op : Op) (e : Py.Exc)
    (h : (step t v op).2 = some e) : (step t v op).1 = v := by
  unfold step at h ⊢
  split
  · rename_i h'; simp [h'] at h
  · rfl

/-- whole histories: the outcome list has one entry per operation -/
theorem C10_one_outcome_per_operation (t : Ty) (ops : List Op) (v : Val) (acc : List (Option Py.Exc)) :
    (run t ops v acc).2.length = ops.length + acc.length := by
  induction ops generalizing v acc with
  | nil => simp [run]
  | cons op r ih =>
    simp only [run, List.length_cons]
    rw [ih]; simp; omega

/-- Python index normalisation never yields an index outside the list -/
theorem C10_normIndex_in_bounds (i : Int) (len j : Nat) (h : normIndex i len = .ok j) : j < len :=
  Api.normIndex_lt i len j h

/-- slice bounds are inside the list and ordered -/
theorem C10_normSlice_ordered (lo hi : Option Int) (len : Nat) :
    (normSlice lo hi len).1 ≤ (normSlice lo hi len).2 ∧ (normSlice lo hi len).2 ≤ len :=
  Api.normSlice_le lo hi len

/-- appending within the limit keeps an array within its limit; beyond it the operation is rejected -/
theorem C10_append_respects_limit (all : List Member) (n : String) (t : Ty) (k : MKind) (xs ys : List Val)
    (p : List Step) (i : Nat) (a : Arg)
    (h : arrayOp all (.mk n t k) xs (.append p i a) = .ok ys) : overLimit all k ys.length = false := by
  unfold arrayOp at h
  obtain ⟨_, h⟩ := guard_ok h
  obtain ⟨v, _, h⟩ := bind_ok h
  obtain ⟨hl, h⟩ := guard_ok h
  rw [← pure_ok h, List.length_append]
  exact Bool.not_eq_true _ ▸ hl

/-- the freshly constructed message of every accepted schema is well-typed -/
theorem C10_default_typed (t : Ty) (hf : Accept.front t = true) (hp : Accept.pyRt t = true) :
    hasType t (defaultTy t) = true := Api.default_typed t hf hp

/-- state validity: every state reachable from the constructor by ANY finite
    history of operations with arbitrary arguments is well-typed - integers in range, enum values
    enumerators, fixed arrays of their length, limited arrays within their limit, bound arrays within
    what their sizer counts, only the discriminated arm.  `opFits`: the message OBJECTS handed to
    `extend` of a composite array are themselves well-typed messages of their class (they are
    reachable states of other message objects; the model represents them by their state). -/
theorem C10_reachable_typed (t : Ty) (ops : List Op)
    (hf : Accept.front t = true) (hp : Accept.pyRt t = true) (hfit : ∀ op ∈ ops, opFits t op = true) :
    hasType t (run t ops (defaultTy t) []).1 = true := Api.run_typed t ops hf hp hfit

theorem C10_step_typed (t : Ty) (v : Val) (op : Op)
    (hf : Accept.front t = true) (hp : Accept.pyRt t = true) (hfit : opFits t op = true)
    (hv : hasType t v = true) : hasType t (step t v op).1 = true := Api.step_typed t v op hf hp hfit hv

/-- every reachable state can be encoded: the one encode-time refusal is unequal lengths of arrays sharing a sizer -/
theorem C10_reachable_encodes (t : Ty) (ops : List Op) (e : Endian)
    (hf : Accept.front t = true) (hp : Accept.pyRt t = true) (hfit : ∀ op ∈ ops, opFits t op = true)
    (ha : WF.agreeTy t (run t ops (defaultTy t) []).1 = true) :
    Py.encode t (run t ops (defaultTy t) []).1 e = .ok (Spec.enc t (run t ops (defaultTy t) []).1 e) :=
  Py.encode_canonical t _ e (Accept.wf_of_accept t hf hp) (Api.run_typed t ops hf hp hfit) ha

/-- without `opFits` the model's `extend` would store an arbitrary state: the premise is needed -/
theorem C10_unfit_argument_breaks_typing :
    ¬ (∀ (t : Ty) (v : Val) (op : Op), Accept.front t = true → Accept.pyRt t = true → hasType t v = true →
        hasType t (step t v op).1 = true) := Api.step_typed_unrestricted_false

end Prophy.C10
