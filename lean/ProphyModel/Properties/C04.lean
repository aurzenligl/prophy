/-
  C04 - prophyc's computed layout equals the wire rules and both runtimes' statics.
-/
import ProphyModel.Properties.Tables
import ProphyModel.Properties.DocExamples
import ProphyModel.Lemmas.LengthByPaddings
import ProphyModel.Lemmas.PyStatics
namespace Prophy.C04
open Prophy

/-- the Python runtime's `_ALIGNMENT` is the documented alignment, for every type -/
theorem C04_py_alignment (t : Ty) : (Py.stTy t).align = Spec.alignTy t := Py.stTy_align t

/-- `_SIZE` of every generated class of a fixed type (any nesting of structs, unions, optionals,
    fixed and limited arrays, any field order) is the documented static size: the padding loop of
    struct_generator.add_attributes (pad after each field up to the next field's alignment)
    reaches exactly the offset the document's rule (pad before each field; composite size is a
    multiple of its alignment; optionals are not) assigns -/
theorem C04_py_size_fixed (t : Ty) (h : Spec.fixedTy t = true) : (Py.stTy t).size = Spec.sizeTy t :=
  Py.stTy_size_fixed t h

/-- a fixed type is never classified dynamic by the documented rules -/
theorem C04_fixed_not_dynamic (t : Ty) (h : Spec.fixedTy t = true) : Spec.dynTy t = false :=
  Spec.dynTy_of_fixed t h

/-- non-vacuity: the `Nested`/`X` struct of encoding.rst "Composite padding" is fixed, its size is 32 -/
example : Spec.fixedTy DocExamples.Nested3 = true ∧ (Py.stTy (.struct "X" [DocExamples.plain "x" DocExamples.u64,
    DocExamples.plain "y" DocExamples.u32, DocExamples.plain "z" DocExamples.u8, DocExamples.plain "n" DocExamples.Nested3])).size = 32 := by
  decide


/-- FULL STATEMENT for prophyc: for every schema prophyc accepts, the alignment, the stiffness
    kind and the byte size it computes for every type are the documented ones -/
theorem C04_prophyc_layout (t : Ty) (hf : Accept.front t = true) :
    (PL.nodeTy t).align = Spec.alignTy t ∧
    (PL.nodeTy t).kind = (if Spec.unlTy t then 2 else if Spec.dynTy t then 1 else 0) ∧
    (PL.nodeTy t).size = Spec.sizeTy t :=
  ⟨PL.nodeTy_align t hf, PL.nodeTy_kind t hf, PL.nodeTy_size t hf⟩

/-- the signed per-member paddings prophyc hands to the C++ generators (>= 0: that many bytes,
    < 0: align to |p|) reproduce the canonical length of every value of every accepted struct -/
theorem C04_paddings_give_canonical_length (n : String) (ms : List Member) (vs : List Val)
    (hf : Accept.front (.struct n ms) = true) (hv : hasType (.struct n ms) (.struct vs) = true) :
    PL.lengthByPaddings (Spec.memberLens ms vs ms vs) ((PL.structMembers ms).map (·.2.2)) 0
      = Spec.clen (Spec.chunksTy (.struct n ms) (.struct vs)) :=
  PL.lengthByPaddings_spec n ms vs hf hv

end Prophy.C04
