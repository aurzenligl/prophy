/-
  C13 (and C14, the meaning of a NAME in a constant expression): the two `while` loops with a `seen` set of prophyc's
  evaluator terminate, and mean what they should.

  `Resolve.loop` / `Resolve.resolve` model `calc.p_expression_name`; `Resolve.lastInChain` models
  `model._collect_constants.get_last_in_chain` (`ProphyModel/Resolve.lean`).  The models carry fuel; the theorems here say
  that the fuel `fuelOf vars = vars.length + 2` is never used up and that more fuel changes nothing, so the model's answer
  is THE answer of the loop, and the Python loops terminate on every dictionary.  The reason: `seen` holds distinct KEYS of
  `vars` (names found by `lookup`), so it never has more than `vars.length` elements (pigeonhole over `vars.map (·.1)`;
  duplicate keys in the list only make the bound slack), and every iteration adds one.

  On `A -> B -> B` the answer is `selfDefined`: a name visited BEFORE is reached, not only the start name (with a
  `seen` set that holds the start name only, prophyc hangs there).
-/
import ProphyModel.Resolve
import ProphyModel.Lemmas.ResolveLemmas
namespace Prophy.C13
open Prophy Prophy.Resolve

theorem C13_resolve_never_out_of_fuel (vars : Vars) (name : String) : resolve vars name ≠ .error .fuel :=
  loop_ne_fuel vars (fuelOf vars) [] name (SeenIn.nil _) (by simp [fuelOf])

/-- a sharper form: already `vars.length + 1` iterations are enough -/
theorem C13_loop_never_out_of_fuel (vars : Vars) (n : Nat) (name : String) (h : vars.length + 1 ≤ n) :
    loop vars n [] name ≠ .error .fuel :=
  loop_ne_fuel vars n [] name (SeenIn.nil _) (by simpa using h)

theorem C13_loop_fuel_independent (vars : Vars) (n m : Nat) (name : String)
    (hn : fuelOf vars ≤ n) (hm : fuelOf vars ≤ m) : loop vars n [] name = loop vars m [] name :=
  loop_eq_of_ne_fuel vars n m [] name
    (C13_loop_never_out_of_fuel vars n name (by simp only [fuelOf] at hn; omega))
    (C13_loop_never_out_of_fuel vars m name (by simp only [fuelOf] at hm; omega))

theorem C13_resolve_eq_loop (vars : Vars) (n : Nat) (name : String) (hn : fuelOf vars ≤ n) :
    loop vars n [] name = resolve vars name :=
  C13_loop_fuel_independent vars n (fuelOf vars) name hn (Nat.le_refl _)

/-! `Chain vars a path b` (`Lemmas/ResolveLemmas.lean`): the walk along NAME entries from `a` visits `path` and arrives at `b`;
`path ++ [b]` is the list of all names the walk has seen when it stands at `b`. -/

/-- the walk from `n` reaches, without repeating a name, a name whose entry is the integer `v` -/
def ReachesInt (vars : Vars) (n : String) (v : Int) : Prop :=
  ∃ path b, Chain vars n path b ∧ (path ++ [b]).Nodup ∧ vars.lookup b = some (.int v)

/-- the walk from `n` reaches a name it has visited before (the names before it being distinct: it is the FIRST repetition) -/
def ReachesVisited (vars : Vars) (n : String) : Prop :=
  ∃ path b, Chain vars n path b ∧ path.Nodup ∧ b ∈ path

/-- the walk from `n` reaches, without repeating a name, a name that is no key or whose entry is `None` -/
def ReachesMissing (vars : Vars) (n : String) : Prop :=
  ∃ path b, Chain vars n path b ∧ (path ++ [b]).Nodup ∧ (vars.lookup b = Option.none ∨ vars.lookup b = some .none)

/-- any run of the loop that does not end for lack of fuel gives the answer of `resolve`, whatever its fuel -/
private theorem resolve_of_loop (vars : Vars) (n : String) (fuel : Nat) (r : Except Err Int)
    (h : loop vars fuel [] n = r) (hr : r ≠ .error .fuel) : resolve vars n = r := by
  subst h
  exact (loop_eq_of_ne_fuel vars fuel (fuelOf vars) [] n hr (C13_resolve_never_out_of_fuel vars n)).symm

/-- what `resolve` answers, and when: `r` is its answer iff the walk from `n` along distinct names ends at a name visited
    before and `r` is `selfDefined`, or at a new terminal name whose entry decides `r` -/
private theorem resolve_eq_iff (vars : Vars) (n : String) (r : Except Err Int) :
    resolve vars n = r ↔ ∃ path b, Chain vars n path b ∧ path.Nodup ∧
      ((b ∈ path ∧ r = .error .selfDefined) ∨ (¬ b ∈ path ∧ Terminal vars b ∧ r = endAnswer (vars.lookup b))) := by
  constructor
  · rintro rfl
    obtain ⟨path, b, hch, hnd, _, _, hb⟩ := loop_sound vars _ [] n (C13_resolve_never_out_of_fuel vars n)
    refine ⟨path, b, hch, hnd, ?_⟩
    rcases hb with ⟨hb, he⟩ | ⟨hb, _, ht, he⟩
    · exact .inl ⟨hb.resolve_right fun h => (nomatch h), he⟩
    · exact .inr ⟨hb, ht, he⟩
  · rintro ⟨path, b, hch, hnd, hb⟩
    have hc := loop_complete hch (path.length + 1) [] hnd (fun _ _ h => nomatch h) (Nat.le_refl _)
    rcases hb with ⟨hb, rfl⟩ | ⟨hb, ht, rfl⟩
    · exact resolve_of_loop vars n _ _ (hc.1 (.inl hb)) (fun h => nomatch h)
    · exact resolve_of_loop vars n _ _ (hc.2 hb (fun h => nomatch h) ht) (endAnswer_ne_fuel _)

theorem C13_resolve_ok_iff (vars : Vars) (n : String) (v : Int) :
    resolve vars n = .ok v ↔ ReachesInt vars n v := by
  rw [resolve_eq_iff]
  constructor
  · rintro ⟨path, b, hch, hnd, ⟨_, he⟩ | ⟨hb, _, he⟩⟩
    · cases he
    · exact ⟨path, b, hch, nodup_snoc.mpr ⟨hnd, hb⟩, endAnswer_eq_ok.mp he.symm⟩
  · rintro ⟨path, b, hch, hnd, hb⟩
    exact ⟨path, b, hch, (nodup_snoc.mp hnd).1, .inr ⟨(nodup_snoc.mp hnd).2, .of_int hb, (endAnswer_eq_ok.mpr hb).symm⟩⟩

theorem C13_resolve_selfDefined_iff (vars : Vars) (n : String) :
    resolve vars n = .error .selfDefined ↔ ReachesVisited vars n := by
  rw [resolve_eq_iff]
  constructor
  · rintro ⟨path, b, hch, hnd, ⟨hb, _⟩ | ⟨_, _, he⟩⟩
    · exact ⟨path, b, hch, hnd, hb⟩
    · exact absurd he.symm (endAnswer_ne_selfDefined _)
  · rintro ⟨path, b, hch, hnd, hb⟩
    exact ⟨path, b, hch, hnd, .inl ⟨hb, rfl⟩⟩

theorem C13_resolve_notFound_iff (vars : Vars) (n : String) :
    resolve vars n = .error .notFound ↔ ReachesMissing vars n := by
  rw [resolve_eq_iff]
  constructor
  · rintro ⟨path, b, hch, hnd, ⟨_, he⟩ | ⟨hb, ht, he⟩⟩
    · cases he
    · exact ⟨path, b, hch, nodup_snoc.mpr ⟨hnd, hb⟩, (endAnswer_eq_notFound ht).mp he.symm⟩
  · rintro ⟨path, b, hch, hnd, hb⟩
    have ht : Terminal vars b := .of_missing hb
    exact ⟨path, b, hch, (nodup_snoc.mp hnd).1, .inr ⟨(nodup_snoc.mp hnd).2, ht, ((endAnswer_eq_notFound ht).mpr hb).symm⟩⟩

/-- "without repeating a name" is automatic for the two terminal outcomes: a walk that repeats a name goes round for ever
    and reaches no integer / missing name.  So the side condition may be dropped on the right. -/
theorem C13_resolve_ok_iff' (vars : Vars) (n : String) (v : Int) :
    resolve vars n = .ok v ↔ ∃ path b, Chain vars n path b ∧ vars.lookup b = some (.int v) := by
  rw [C13_resolve_ok_iff]
  constructor
  · rintro ⟨path, b, hch, _, hb⟩; exact ⟨path, b, hch, hb⟩
  · rintro ⟨path, b, hch, hb⟩
    exact ⟨path, b, hch, chain_terminal_nodup hch (.of_int hb), hb⟩

theorem C13_resolve_notFound_iff' (vars : Vars) (n : String) :
    resolve vars n = .error .notFound ↔
      ∃ path b, Chain vars n path b ∧ (vars.lookup b = Option.none ∨ vars.lookup b = some .none) := by
  rw [C13_resolve_notFound_iff]
  constructor
  · rintro ⟨path, b, hch, _, hb⟩; exact ⟨path, b, hch, hb⟩
  · rintro ⟨path, b, hch, hb⟩
    exact ⟨path, b, hch, chain_terminal_nodup hch (.of_missing hb), hb⟩

/-- the three outcomes are exhaustive (`C13_resolve_never_out_of_fuel`) -/
theorem C13_resolve_trichotomy (vars : Vars) (n : String) :
    (∃ v, resolve vars n = .ok v) ∨ resolve vars n = .error .selfDefined ∨ resolve vars n = .error .notFound := by
  have h := C13_resolve_never_out_of_fuel vars n
  cases hr : resolve vars n with
  | ok v => exact Or.inl ⟨v, rfl⟩
  | error e =>
    cases e with
    | selfDefined => exact Or.inr (Or.inl rfl)
    | notFound => exact Or.inr (Or.inr rfl)
    | fuel => exact absurd hr h

/-- likewise "first repetition" may be dropped: the walk comes back to a name it has visited, somewhere -/
theorem C13_resolve_selfDefined_iff' (vars : Vars) (n : String) :
    resolve vars n = .error .selfDefined ↔ ∃ path b, Chain vars n path b ∧ b ∈ path := by
  constructor
  · intro h
    obtain ⟨path, b, hch, _, hb⟩ := (C13_resolve_selfDefined_iff vars n).mp h
    exact ⟨path, b, hch, hb⟩
  · rintro ⟨path, b, hch, hb⟩
    rcases C13_resolve_trichotomy vars n with ⟨v, h⟩ | h | h
    · obtain ⟨q, t, hq, ht⟩ := (C13_resolve_ok_iff' vars n v).mp h
      exact (chain_cycle_no_terminal hch hb hq (.of_int ht)).elim
    · exact h
    · obtain ⟨q, t, hq, ht⟩ := (C13_resolve_notFound_iff' vars n).mp h
      exact (chain_cycle_no_terminal hch hb hq (.of_missing ht)).elim

/-- the three descriptions of the walk are exhaustive: every walk ends in one of the three ways -/
theorem C13_walk_exhaustive (vars : Vars) (n : String) :
    (∃ v, ReachesInt vars n v) ∨ ReachesVisited vars n ∨ ReachesMissing vars n := by
  rcases C13_resolve_trichotomy vars n with ⟨v, h⟩ | h | h
  · exact Or.inl ⟨v, (C13_resolve_ok_iff vars n v).mp h⟩
  · exact Or.inr (Or.inl ((C13_resolve_selfDefined_iff vars n).mp h))
  · exact Or.inr (Or.inr ((C13_resolve_notFound_iff vars n).mp h))

/-- and exclusive: the integer is unique, and no two of the three descriptions hold together -/
theorem C13_walk_exclusive (vars : Vars) (n : String) :
    (∀ v w, ReachesInt vars n v → ReachesInt vars n w → v = w) ∧
    (∀ v, ReachesInt vars n v → ¬ ReachesVisited vars n) ∧
    (∀ v, ReachesInt vars n v → ¬ ReachesMissing vars n) ∧
    (ReachesVisited vars n → ¬ ReachesMissing vars n) := by
  refine ⟨?_, ?_, ?_, ?_⟩
  · intro v w hv hw
    have h1 := (C13_resolve_ok_iff vars n v).mpr hv
    have h2 := (C13_resolve_ok_iff vars n w).mpr hw
    rw [h1] at h2
    cases h2; rfl
  · intro v hv hs
    have h1 := (C13_resolve_ok_iff vars n v).mpr hv
    have h2 := (C13_resolve_selfDefined_iff vars n).mpr hs
    rw [h1] at h2; cases h2
  · intro v hv hs
    have h1 := (C13_resolve_ok_iff vars n v).mpr hv
    have h2 := (C13_resolve_notFound_iff vars n).mpr hs
    rw [h1] at h2; cases h2
  · intro hv hs
    have h1 := (C13_resolve_selfDefined_iff vars n).mpr hv
    have h2 := (C13_resolve_notFound_iff vars n).mpr hs
    rw [h1] at h2; cases h2

/-! `get_last_in_chain`.  `KChain`, `KStop` (`Lemmas/ResolveLemmas.lean`): the walk along entries that do not map a key to itself;
`b` is no key (in particular an int or `None`) or maps to itself - the loop's condition `constants.get(key, key) != key` fails. -/

theorem C13_lastInChain_fuel_independent (vars : Vars) (n m : Nat) (key : Key)
    (hn : vars.length + 2 ≤ n) (hm : vars.length + 2 ≤ m) :
    lastInChain vars n [] key = lastInChain vars m [] key := by
  have base : ∀ k, vars.length + 2 ≤ k → lastInChain vars k [] key = lastInChain vars (vars.length + 2) [] key := by
    intro k hk
    obtain ⟨d, rfl⟩ : ∃ d, k = vars.length + 2 + d := ⟨k - (vars.length + 2), by omega⟩
    exact lastInChain_mono vars (vars.length + 2) [] key d (SeenIn.nil _) (by simp)
  rw [base n hn, base m hm]

/-- what the answer is: a key reachable from the start by steps of the dictionary along distinct keys, at which the loop's
    own conditions stop it: it was visited before, or it is no key / maps to itself. -/
theorem C13_lastInChain_spec (vars : Vars) (n : Nat) (key : Key) (hn : vars.length + 2 ≤ n) :
    ∃ path, KChain vars key path (lastInChain vars n [] key) ∧ path.Nodup ∧
      (lastInChain vars n [] key ∈ path ∨ KStop vars (lastInChain vars n [] key)) := by
  obtain ⟨path, hch, hnd, _, hb⟩ :=
    lastInChain_sound vars n [] key (SeenIn.nil _) (by simp only [List.length_nil]; omega)
  exact ⟨path, hch, hnd, by simpa using hb⟩

/-- and this determines the answer: the characterisation is an equivalence -/
theorem C13_lastInChain_iff (vars : Vars) (n : Nat) (key b : Key) (hn : vars.length + 2 ≤ n) :
    lastInChain vars n [] key = b ↔ ∃ path, KChain vars key path b ∧ path.Nodup ∧ (b ∈ path ∨ KStop vars b) := by
  constructor
  · intro h
    rw [← h]
    exact C13_lastInChain_spec vars n key hn
  · rintro ⟨path, hch, hnd, hb⟩
    have hb' : b ∈ path ∨ b ∈ ([] : List Key) ∨ KStop vars b := by
      rcases hb with hb | hb
      · exact Or.inl hb
      · exact Or.inr (Or.inr hb)
    by_cases hlen : path.length + 1 ≤ n
    · exact lastInChain_complete hch n [] hnd (by simp) hb' hlen
    · have h1 := lastInChain_complete hch (path.length + 1) [] hnd (by simp) hb' (Nat.le_refl _)
      rw [← h1]
      exact C13_lastInChain_fuel_independent vars n (path.length + 1) key hn (by omega)

instance decEqResult_p26 : DecidableEq (Except Err Int)
  | .ok a, .ok b => if h : a = b then isTrue (by rw [h]) else isFalse (by intro e; cases e; exact h rfl)
  | .error a, .error b => if h : a = b then isTrue (by rw [h]) else isFalse (by intro e; cases e; exact h rfl)
  | .ok _, .error _ => isFalse (by intro e; cases e)
  | .error _, .ok _ => isFalse (by intro e; cases e)

-- `A -> B -> 5` resolves to 5
example : resolve [("A", .name "B"), ("B", .int 5)] "A" = .ok 5 := by decide
-- `A -> B -> B`: defined by itself
example : resolve [("A", .name "B"), ("B", .name "B")] "A" = .error .selfDefined := by decide
-- `A -> A`
example : resolve [("A", .name "A")] "A" = .error .selfDefined := by decide
-- a longer cycle entered from outside: `A -> B -> C -> B`
example : resolve [("A", .name "B"), ("B", .name "C"), ("C", .name "B")] "A" = .error .selfDefined := by decide
-- `A -> B`, `B` missing
example : resolve [("A", .name "B")] "A" = .error .notFound := by decide
-- `A -> None`
example : resolve [("A", .none)] "A" = .error .notFound := by decide
-- the name itself is missing
example : resolve [] "A" = .error .notFound := by decide
-- a dictionary with a duplicate key: the first entry counts, the list is longer than the set of keys
example : resolve [("A", .name "B"), ("A", .name "A"), ("B", .int 7), ("B", .name "A")] "A" = .ok 7 := by decide
example : resolve [("A", .name "A"), ("A", .int 1)] "A" = .error .selfDefined := by decide
-- with too little fuel the model says so (and `fuelOf` is never too little)
example : loop [("A", .name "B"), ("B", .name "C"), ("C", .int 1)] 2 [] "A" = .error .fuel := by decide

-- `get_last_in_chain`: typedef chains
example : lastInChain [("A", .name "B"), ("B", .name "u32")] 4 [] (.name "A") = .name "u32" := by decide
example : lastInChain [("A", .name "B"), ("B", .name "A")] 4 [] (.name "A") = .name "A" := by decide
example : lastInChain [("A", .name "B"), ("B", .name "B")] 4 [] (.name "A") = .name "B" := by decide
example : lastInChain [("A", .name "B"), ("B", .name "C"), ("C", .name "B")] 5 [] (.name "A") = .name "B" := by decide
-- a chain that ends in a constant gives its VALUE (an int, or `None`), which is no key
example : lastInChain [("A", .name "N"), ("N", .int 3)] 4 [] (.name "A") = .int 3 := by decide
example : lastInChain [("A", .name "N"), ("N", .none)] 4 [] (.name "A") = .none := by decide

end Prophy.C13

#print axioms Prophy.C13.C13_resolve_never_out_of_fuel
#print axioms Prophy.C13.C13_loop_fuel_independent
#print axioms Prophy.C13.C13_resolve_ok_iff
#print axioms Prophy.C13.C13_resolve_selfDefined_iff
#print axioms Prophy.C13.C13_resolve_notFound_iff
#print axioms Prophy.C13.C13_resolve_ok_iff'
#print axioms Prophy.C13.C13_resolve_notFound_iff'
#print axioms Prophy.C13.C13_resolve_selfDefined_iff'
#print axioms Prophy.C13.C13_resolve_trichotomy
#print axioms Prophy.C13.C13_walk_exhaustive
#print axioms Prophy.C13.C13_walk_exclusive
#print axioms Prophy.C13.C13_lastInChain_fuel_independent
#print axioms Prophy.C13.C13_lastInChain_spec
#print axioms Prophy.C13.C13_lastInChain_iff
