/-
  C07 - C++ full decode is memory-safe and exact on arbitrary bytes.

  The property, informally (`CppFullOk`: the hypotheses the theorems below spell out): ∀ bs e, Cpp.decode t bs e ≠ .fault;
  CppFullOk t → Cpp.decode t bs e = .accepted v _ → `v` is a value of `t` whose encoding is `bs`.
-/
import ProphyModel.Lemmas.CppDecodeExact
namespace Prophy.C07
open Prophy Prophy.Cpp

/-- `decode` returns true only when exactly the whole input was consumed -/
theorem C07_accept_consumes_all (t : Ty) (data : Bytes) (e : Endian) (v : Val) (rs : List Nat)
    (h : decode t data e = .accepted v rs) :
    ∃ rs', (decTy e t data 0 []).1 = .ok v data.length rs' := by
  unfold decode at h
  split at h
  · rename_i v' pos rs' heq
    split at h
    · rename_i hp
      injection h with h1 h2; subst h1; subst h2; subst hp
      exact ⟨_, heq⟩
    · cases h
  all_goals cases h

/-- the scalar kernel of memory safety: while the cursor is inside the buffer
    (`pos ≤ size`), a scalar decode never reads outside it, whatever the bytes, and leaves
    the cursor inside the buffer -/
theorem C07_scalar_safe (e : Endian) (k : Nat) (signed : Bool) (data : Bytes) (pos : Nat) (rs : List Nat)
    (hpos : pos ≤ data.length) :
    decScalar e k signed data pos rs ≠ .fault ∧
      ∀ i pos' rs', decScalar e k signed data pos rs = .ok i pos' rs' → pos' ≤ data.length := by
  have h := decScalar_goodB (fun _ => True) e k signed data pos rs hpos
  exact ⟨fun hf => by rw [hf] at h; exact h, fun i pos' rs' hok => by rw [hok] at h; exact h.2.1⟩

/-- `do_decode_advance` (a padding statement, the skip over an unset optional) is bounds-checked: it fails or
    leaves the cursor inside the buffer -/
theorem C07_advance_safe (n size pos : Nat) (rs : List Nat) (hpos : pos ≤ size) :
    ∀ pos' rs', advance n size pos rs = .ok () pos' rs' → pos' ≤ size :=
  fun _ _ h => (advance_eq_ok hpos h).2.1

/-- and so is `do_decode_align` -/
theorem C07_align_safe (a size pos : Nat) (rs : List Nat) :
    ∀ pos' rs', alignStep a size pos rs = .ok () pos' rs' → pos' ≤ size := by
  intro pos' rs' h
  rw [alignStep_eq] at h
  obtain ⟨hc, _, hq, _⟩ := ite_ok_eq_ok h
  omega

/-- memory safety: for EVERY schema tree and EVERY byte string the generated
    decoder never reads outside `[data, data + size)` -/
theorem C07_decode_no_fault (t : Ty) (data : Bytes) (e : Endian) : decode t data e ≠ .fault :=
  Cpp.decode_no_fault t data e

/-- the same from any position inside the input; where it succeeds, it stops inside the input -/
theorem C07_decTy_safe (e : Endian) (t : Ty) (data : Bytes) (pos : Nat) (rs : List Nat) (hpos : pos ≤ data.length) :
    (decTy e t data pos rs).1 ≠ .fault ∧
    ∀ v pos' rs', (decTy e t data pos rs).1 = .ok v pos' rs' → pos' ≤ data.length :=
  Cpp.decTy_safe e t data pos rs hpos

/-- no allocation disproportionate to the input: every `resize(n)` the decoder requests has
    `n ≤ size` of the input, and `n ≤ resizeLimit` unless the run ends in the allocation exception -/
theorem C07_resizes_bounded (t : Ty) (data : Bytes) (e : Endian) :
    ∀ n ∈ (decode t data e).resizes,
      n ≤ data.length ∧ ((decode t data e).isException = false → n ≤ resizeLimit) :=
  Cpp.decode_resizes_bounded t data e

/-- no allocation disproportionate to the input, in BYTES: every `resize(n)` the decoder requests fits the input at the
    fixed wire size of some array element type of the schema (`resizeElems t`: `codec_traits<T>::size`, or 1 for
    elements of dynamic size): `n * el ≤ size` (decoder.hpp do_decode_resize; greedy `n = (end - pos) / size`) -/
theorem C07_resizes_fit (t : Ty) (data : Bytes) (e : Endian) :
    ∀ n ∈ (decode t data e).resizes, ∃ el ∈ Cpp.resizeElems t, n * el ≤ data.length :=
  Cpp.decode_resizes_fit t data e

/-- the request of one sizer-driven `do_decode_resize` that lets decoding continue fits the bytes behind the counter at
    the element size of that very array: `cnt * resizeElem n all ≤ size - pos` -/
theorem C07_sizer_resize_fits (e : Endian) (all : List Member) (n : String) (t : Ty) (r : List Member) (msize a : Nat)
    (padding : Int) (ls : List (Nat × Nat × Int)) (data : Bytes) (pos : Nat) (rs : List Nat) (lens : List (String × Nat))
    (hs : isSizer n all = true) (hpos : pos ≤ data.length) (vs : List Val) (pos' : Nat) (rs' : List Nat) (p : Nat)
    (h : decMs e all (.mk n t .plain :: r) ((msize, a, padding) :: ls) data pos rs lens = (.ok vs pos' rs', p)) :
    ∃ cnt pos1 later, rs' = later ++ cnt :: rs ∧ pos ≤ pos1 ∧ pos1 ≤ pos' ∧ pos' ≤ data.length ∧
      cnt * Cpp.resizeElem n all ≤ data.length - pos1 ∧ cnt ≤ resizeLimit :=
  Cpp.decMs_sizer_ok_fits e all n t r msize a padding ls data pos rs lens hs hpos vs pos' rs' p h

/-- exactness: whatever byte string the decoder accepts, it consumed it exactly -
    the decoded object re-encodes to as many bytes as were read (`get_byte_size() = size`); schemas
    accepted by prophyc, without shifted counters, without the D4 shape (`optMisaligned`) and with `limFirst`
    (the arrays sharing a counter with a limited array start with it - always so for schemas the C++ generator
    accepts, which allows one externally sized array per counter) -/
theorem C07_accepted_is_exact (t : Ty) (data : Bytes) (e : Endian) (v : Val) (rs : List Nat)
    (hf : Accept.front t = true) (hns : Accept.noShift t = true) (hm : Cpp.optMisaligned t = false)
    (hlf : Cpp.limFirst t = true) (hlen : data.length < 2 ^ 64)
    (h : decode t data e = .accepted v rs) : getByteSize t v = data.length :=
  Cpp.decode_accepted_exact t data e v rs hf hns hm hlf hlen h

/-- ... and the object it built is a valid, coherent value of the type - except that C++ keeps
    whatever 32-bit integer an enum field held (`hasTypeW`: the Python decoder checks enumerators,
    the C++ decoder does not; witness `Cpp.decode_accepted_hasType_false`) -/
theorem C07_accepted_is_typed (t : Ty) (data : Bytes) (e : Endian) (v : Val) (rs : List Nat)
    (hf : Accept.front t = true) (hns : Accept.noShift t = true) (hm : Cpp.optMisaligned t = false)
    (hlf : Cpp.limFirst t = true) (h : decode t data e = .accepted v rs) :
    Cpp.hasTypeW t v = true ∧ WF.agreeTy t v = true :=
  Cpp.decode_accepted_typed t data e v rs hf hns hm hlf h

end Prophy.C07
