/-
  C12, the names of an expression: what `check_cpp_names` (prophyc/generators/base.py) reads out of a size or
  discriminator expression with

      re.findall(r"(?<![0-9A-Za-z_])[A-Za-z_]\w*", text)

  (`NameScan.scan`, ProphyModel/NameScan.lean) against what the evaluator calc resolves: the identifier tokens of
  `Expr.lex false` (`NameScan.identsOf`).

  Result (`C12_scan_is_calc_names`): on a text calc lexes and PARSES the two lists are
  equal, in order.  Nothing further is needed (no ASCII hypothesis: calc lexes ASCII only; no leading-zero
  hypothesis: `007` holds no name for either reader).

  What the proof uses of "calc parses the tokens" is only `Expr.okSeq` (operands and operators alternate,
  `Expr.okSeq_of_parse`), and of that only: a number is not directly followed by a name.  That is the one place
  where the readings differ: `10abc` is number 10 and name `abc` for calc's lexer, and holds no name for the scan
  (the look-behind sees the `0`); `0x1G` likewise (number 1, name `G`).  No parsable text has that shape.

  The model is the walk of `re.findall` with fuel (`scanF`); `C12_scan_structural` says it is the structural
  function `scanGo`: a name starts where a letter or `_` follows a character that is no letter, digit or `_` (or
  the start of the text), and is the maximal run of letters, digits and `_` from there.
-/
import ProphyModel.Expr
import ProphyModel.NameScan
import ProphyModel.Lemmas.ExprLex
import ProphyModel.Lemmas.NameScanLemmas
namespace Prophy.C12
open Prophy Prophy.Expr Prophy.NameScan

/-- the walk of `re.findall` is the structural scan -/
theorem C12_scan_structural (cs : List Char) : scan cs = scanGo false cs := scan_eq_scanGo cs

/-- the fuel of the walk does not matter once it exceeds the length -/
theorem C12_scan_fuel (cs : List Char) (n : Nat) (hn : cs.length < n) : scanF n false cs = scan cs := by
  rw [scan_eq_scanGo]
  exact scanF_eq_scanGo n false cs hn

/-- from the hypothesis the proof uses: the tokens alternate -/
theorem C12_scan_is_calc_names_of_alternating (cs : List Char) (ts : List Tok) (n : Nat) (st : Bool)
    (hl : lex false n cs = some ts) (hs : okSeq st ts = true) :
    scan cs = identsOf ts := by
  rw [scan_eq_scanGo]
  exact scanGo_is_idents hl st hs

set_option linter.unusedVariables false in   -- `hn` is not needed
/-- on a text the evaluator reads (lexes and parses), the name check sees exactly the names the evaluator resolves,
in the same order: no name is missed (a member of that name would capture it in the C++ class) and nothing that is not a
name is reported (a piece of a hexadecimal literal) -/
theorem C12_scan_is_calc_names (cs : List Char) (ts : List Tok) (n : Nat) (hn : cs.length < n)
    (hl : lex false n cs = some ts) (hp : (parse ts).isSome) :
    scan cs = identsOf ts :=
  C12_scan_is_calc_names_of_alternating cs ts n true hl (okSeq_of_parse ts hp)

/-- on texts: a name is a member of the scan iff calc has an identifier token of that name -/
theorem C12_scan_mem_iff (s : String) (ts : List Tok) (a : Ast) (hl : tokenize false s = some ts)
    (hp : parse ts = some a) (name : String) :
    name ∈ scan s.toList ↔ Tok.ident name ∈ ts := by
  rw [C12_scan_is_calc_names s.toList ts (s.length + 1) (by rw [String.length_toList]; omega) hl (by rw [hp]; rfl)]
  clear hl hp
  induction ts with
  | nil => simp [identsOf]
  | cons t ts ih =>
    cases t <;> simp [identsOf, ih]

-- the look-behind: no name out of a hexadecimal literal
example : scan "0x10".toList = [] := by decide +kernel
example : scan "LEN_0x10 + x10".toList = ["LEN_0x10", "x10"] := by decide +kernel
example : scan "(K+1)*shift_2".toList = ["K", "shift_2"] := by decide +kernel
-- without "calc parses the tokens" the statement is false: calc's LEXER reads number 10 and name abc, the scan reads no name; no such text parses
example : scan "10abc".toList = [] ∧ (lex false 10 "10abc".toList).map identsOf = some ["abc"] ∧
    (lex false 10 "10abc".toList).bind parse = none := by decide +kernel
example : scan "0x1G".toList = [] ∧ (lex false 10 "0x1G".toList).map identsOf = some ["G"] ∧
    (lex false 10 "0x1G".toList).bind parse = none := by decide +kernel
-- the theorem applied
example : scan "(K+1)*shift_2".toList = identsOf [.lpar, .ident "K", .plus, .num 1, .rpar, .star, .ident "shift_2"] :=
  C12_scan_is_calc_names _ _ 14 (by decide) (by decide +kernel) (by decide +kernel)

end Prophy.C12

#print axioms Prophy.C12.C12_scan_structural
#print axioms Prophy.C12.C12_scan_fuel
#print axioms Prophy.C12.C12_scan_is_calc_names
#print axioms Prophy.C12.C12_scan_is_calc_names_of_alternating
#print axioms Prophy.C12.C12_scan_mem_iff
