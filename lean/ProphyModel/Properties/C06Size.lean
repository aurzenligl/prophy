/-
  C06 (size) - what Python decode returns is no larger than its input.

  TARGET STATEMENT (as given; FALSE in the model in both conjuncts, see the counterexamples below):
    theorem C06_py_decoded_weight_le_input (t : Ty) (data : Bytes) (e : Endian) (v : Val) (n : Nat)
        (h : Py.decode t data e = .ok (v, n)) :
        v.weight ≤ n ∧ n ≤ data.length

  * `n ≤ data.length` is false also for accepted schemas: the reported size includes the padding after the last
    member, which is not checked against the input (`cx_n_padding`), and an absent optional is skipped by its static
    size without a check (`cx_n_optional`: 4 bytes in, 24 reported).  What holds instead, and what the property is
    about, is `v.weight ≤ data.length`; for `n` itself the true bound is `n ≤ data.length + Py.slackTy t` with a
    constant of the schema (paddings and the static sizes of optional members), for every schema (`C06_py_reported_size`).
  * `v.weight ≤ n` is false without a schema hypothesis: a union reports its static `_SIZE` whatever its arm read, so
    an arm with a greedy / dynamic array is read again by the members that follow (`cx_weight_arm`).  The hypothesis
    `Py.tightTy t` (union arms are of fixed types, counters are scalars) is what the proof needs; it follows from
    `WF.wfTy t`, hence from `Accept.front t` and `Accept.pyRt t`.  `Accept.pyRt t` alone does not suffice
    (`cx_weight_pyRt_only`: members sharing the name of a counter are all read as counters).
-/
import ProphyModel.Lemmas.PyDecodeSize
namespace Prophy.C06
open Prophy

/-- With the weakest hypothesis: whatever bytes are given, the decoded message holds at most as many scalars and payload
    bytes as decode reports consumed, and at most as many as the input has -/
theorem C06_py_decoded_weight_le_input_tight (t : Ty) (data : Bytes) (e : Endian) (v : Val) (n : Nat)
    (ht : Py.tightTy t = true)
    (h : Py.decode t data e = .ok (v, n)) :
    v.weight ≤ n ∧ v.weight ≤ data.length :=
  Py.decode_weight t data e v n ht h

/-- the same for well-formed schemas -/
theorem C06_py_decoded_weight_le_input_wf (t : Ty) (data : Bytes) (e : Endian) (v : Val) (n : Nat)
    (hw : WF.wfTy t = true)
    (h : Py.decode t data e = .ok (v, n)) :
    v.weight ≤ n ∧ v.weight ≤ data.length :=
  Py.decode_weight t data e v n (Py.tight_of_wf t hw) h

/-- the same for every schema prophyc accepts and the runtime imports -/
theorem C06_py_decoded_weight_le_input (t : Ty) (data : Bytes) (e : Endian) (v : Val) (n : Nat)
    (hf : Accept.front t = true) (hp : Accept.pyRt t = true)
    (h : Py.decode t data e = .ok (v, n)) :
    v.weight ≤ n ∧ v.weight ≤ data.length :=
  Py.decode_weight t data e v n (Py.tight_of_wf t (Accept.wf_of_accept t hf hp)) h

theorem C06_weight_struct (vs : List Val) : (Val.struct vs).weight = (vs.map Val.weight).sum := Val.weights_eq_sum vs
theorem C06_weight_arr (vs : List Val) : (Val.arr vs).weight = (vs.map Val.weight).sum := Val.weights_eq_sum vs

/-- the true bound on the reported size, for EVERY schema and input: it exceeds the input length by at most a constant
    of the schema (`Py.slackTy`: the alignments a struct pads to, plus the static sizes of its optional members, plus
    the same of the member types - independent of the input and of the element counts) -/
theorem C06_py_reported_size (t : Ty) (data : Bytes) (e : Endian) (v : Val) (n : Nat)
    (h : Py.decode t data e = .ok (v, n)) : n ≤ data.length + Py.slackTy t :=
  Py.decode_end_p28 t data e v n h

/-- all clauses: content bounded by the reported size and by the input, reported size bounded by the input plus
    the constant of the schema -/
theorem C06_py_decoded_size (t : Ty) (data : Bytes) (e : Endian) (v : Val) (n : Nat)
    (hf : Accept.front t = true) (hp : Accept.pyRt t = true)
    (h : Py.decode t data e = .ok (v, n)) :
    v.weight ≤ n ∧ v.weight ≤ data.length ∧ n ≤ data.length + Py.slackTy t :=
  ⟨(C06_py_decoded_weight_le_input t data e v n hf hp h).1, (C06_py_decoded_weight_le_input t data e v n hf hp h).2,
   C06_py_reported_size t data e v n h⟩

/-- beyond the end of the input only members without bytes decode: a successful decode of a message starting after
    the last byte reports size 0 -/
theorem C06_py_beyond_end (e : Endian) (t : Ty) (data : Bytes) (pos : Nat) (term : Bool) (v : Val) (sz : Nat)
    (h : Py.decTy e t data pos term = .ok (v, sz)) (hb : data.length < pos) : sz = 0 :=
  (Py.ty_beyond e t data pos term v sz h hb).1

/-- `n ≤ data.length` fails by trailing padding: `struct S { u32 a; u8 b; }`, 5 bytes in, 8 reported (accepted schema) -/
def cxPad : Ty := .struct "S" [.mk "a" (.prim .u32) .plain, .mk "b" (.prim .u8) .plain]
theorem cx_n_padding :
    Accept.front cxPad = true ∧ Accept.pyRt cxPad = true ∧
    Py.decode cxPad [1, 0, 0, 0, 2] .little = .ok (.struct [.int 1, .int 2], 8) := ⟨by decide +kernel, by decide +kernel, by rfl⟩

/-- nor is the excess one padding at most (`n ≤ data.length + 7` fails as well): an absent optional is skipped by its static size.
    `struct X { u64 a; u64 b; }; struct O { X* x; }`, 4 bytes in, 24 reported (accepted schema) -/
def cxOptX : Ty := .struct "X" [.mk "a" (.prim .u64) .plain, .mk "b" (.prim .u64) .plain]
def cxOpt : Ty := .struct "O" [.mk "x" cxOptX .optional]
theorem cx_n_optional :
    Accept.front cxOpt = true ∧ Accept.pyRt cxOpt = true ∧
    Py.decode cxOpt [0, 0, 0, 0] .little = .ok (.struct [.absent], 24) := ⟨by decide +kernel, by decide +kernel, by rfl⟩

/-- `v.weight ≤ n` fails without a hypothesis: a union arm holding a greedy bytes field, followed by a greedy bytes
    field: the last 4 of the 8 bytes are returned twice (weight 9, n = 8 = the input length) -/
def cxArmG : Ty := .struct "G" [.mk "x" .byte .greedy]
def cxArmU : Ty := .union "U" [.mk "a" 1 cxArmG]
def cxArm : Ty := .struct "T" [.mk "u" cxArmU .plain, .mk "rest" .byte .greedy]
def cxArmV : Val := .struct [.union 0 (.struct [.bytes [9, 9, 9, 9]]), .bytes [9, 9, 9, 9]]
theorem cx_weight_arm :
    Py.decode cxArm [1, 0, 0, 0, 9, 9, 9, 9] .little = .ok (cxArmV, 8) ∧ cxArmV.weight = 9 ∧
    Py.tightTy cxArm = false ∧ Accept.pyRt cxArm = false := ⟨by rfl, by decide +kernel, by decide +kernel, by decide +kernel⟩

/-- `Accept.pyRt` alone is not enough: members that share the name of a counter are all read as counters (4 bytes each)
    while the statics count their own `_SIZE` (0 for an empty struct); the front-end rejects the duplicate names -/
def cxDupE : Ty := .struct "E" []
def cxDupS : Ty := .struct "S" [.mk "n" (.prim .u8) .plain, .mk "n" cxDupE .plain, .mk "n" cxDupE .plain,
  .mk "n" cxDupE .plain, .mk "n" cxDupE .plain, .mk "n" cxDupE .plain, .mk "n" cxDupE .plain,
  .mk "x" .byte (.limited "n" 1)]
def cxDupU : Ty := .union "U" [.mk "a" 1 cxDupS]
def cxDup : Ty := .struct "T" [.mk "u" cxDupU .plain, .mk "rest" .byte .greedy]
def cxDupD : Bytes := [1,0,0,0, 0, 0,0,0,0, 0,0,0,0, 0,0,0,0, 0,0,0,0, 0,0,0,0, 1,0,0,0, 5, 5, 5]
theorem cx_weight_pyRt_only :
    Accept.pyRt cxDup = true ∧ Accept.front cxDup = false ∧ Py.tightTy cxDup = false ∧
    (match Py.decode cxDup cxDupD .little with
     | .ok (v, n) => decide (v.weight = 33 ∧ n = 32 ∧ cxDupD.length = 32)
     | _ => false) = true := ⟨by decide +kernel, by decide +kernel, by decide +kernel, by rfl⟩

/-- the constant of the two schemas above (a coarse bound: 5 bytes in, 8 reported; 4 bytes in, 24 reported) -/
example : Py.slackTy cxPad = 14 ∧ Py.slackTy cxOpt = 80 := by decide +kernel

/-- a counted array and a bytes field: `struct M { u16 x<>; bytes b<...>; }` -/
def exM : Ty := .struct "M" [.mk "num_of_x" (.prim .u32) .plain, .mk "x" (.prim .u16) (.dyn "num_of_x" 0),
  .mk "b" .byte .greedy]
def exD : Bytes := [2, 0, 0, 0, 1, 0, 2, 0, 7, 7, 7, 7]
def exV : Val := .struct [.sizer, .arr [.int 1, .int 2], .bytes [7, 7, 7, 7]]
example : Accept.front exM = true ∧ Accept.pyRt exM = true ∧ Py.tightTy exM = true := by decide +kernel
example : Py.decode exM exD .little = .ok (exV, 12) := by rfl
example : exV.weight = 7 ∧ exD.length = 12 ∧ Py.slackTy exM = 20 := by decide +kernel
example : exV.weight ≤ 12 ∧ exV.weight ≤ exD.length :=
  C06_py_decoded_weight_le_input exM exD .little exV 12 (by decide +kernel) (by decide +kernel) (by rfl)

end Prophy.C06

#print axioms Prophy.C06.C06_py_decoded_weight_le_input_tight
#print axioms Prophy.C06.C06_py_decoded_weight_le_input_wf
#print axioms Prophy.C06.C06_py_decoded_weight_le_input
#print axioms Prophy.C06.C06_py_reported_size
#print axioms Prophy.C06.C06_py_decoded_size
#print axioms Prophy.C06.C06_py_beyond_end
