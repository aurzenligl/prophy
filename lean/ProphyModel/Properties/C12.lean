/-
  C12 - Whatever prophyc accepts, every back-end can realise; rule breakers are rejected.

  `front t → pyRt t` is false in the model (`C12_shift_needs_the_runtime_check`: a shifted counter); it holds for
  every tree without shifted counters (`C12_accepted_realisable`), which is all prophyc emits.  Whether g++ accepts the generated translation units is
  outside the model: decided by correspondence only - compile of all generated sources.
-/
import ProphyModel.Accept
import ProphyModel.Lemmas.WFAccept
import ProphyModel.Lemmas.AcceptImplies
import ProphyModel.Lemmas.ModelAccept
import ProphyModel.Properties.Tables
import ProphyModel.Properties.TablesTexts
namespace Prophy.C12
open Prophy Prophy.Accept

/-- enums: the front-end and the Python runtime accept exactly the same enumerator lists
    (unique names, values below 2^32, at least one) -/
theorem C12_enum_agree (n : String) (es : List (String × Nat)) : front (.enum n es) = pyRt (.enum n es) := by
  simp [front, pyRt]

/-- documented rule breakers are rejected by the front-end, whatever the rest of the struct is:
    an optional field of a dynamic type -/
theorem C12_optional_dynamic_rejected (all before r : List Member) (n : String) (t : Ty)
    (h : (PL.nodeTy t).kind ≠ 0) : frontMs all (.mk n t .optional :: r) before = false := by
  simp [frontMs, isOptional, h]

/-- a fixed or limited array of a dynamic type -/
theorem C12_sized_array_dynamic_rejected (all before r : List Member) (n s : String) (t : Ty) (c : Nat)
    (h : (PL.nodeTy t).kind ≠ 0) :
    frontMs all (.mk n t (.fixed c) :: r) before = false ∧ frontMs all (.mk n t (.limited s c) :: r) before = false := by
  simp [frontMs, sizeOf?, h]

/-- any array of an unlimited type -/
theorem C12_array_unlimited_rejected (all before r : List Member) (n s : String) (t : Ty)
    (h : (PL.nodeTy t).kind = 2) :
    frontMs all (.mk n t (.dyn s sh) :: r) before = false ∧ frontMs all (.mk n t .greedy :: r) before = false := by
  simp [frontMs, isArrayKind, sizeOf?, isOptional, h]

/-- a greedy array or an unlimited struct that is not the last field -/
theorem C12_unlimited_not_last_rejected (all before : List Member) (n : String) (t : Ty) (m : Member) (r : List Member) :
    frontMs all (.mk n t .greedy :: m :: r) before = false := by
  simp [frontMs, isGreedy]

/-- an array as the first member: no sizer precedes it -/
theorem C12_sizer_missing_rejected (all r : List Member) (n s : String) (t : Ty) :
    frontMs all (.mk n t (.dyn s sh) :: r) [] = false := by
  simp [frontMs, MKind.sizer?]

/-- a zero array size -/
theorem C12_zero_size_rejected (all before r : List Member) (n : String) (t : Ty) :
    frontMs all (.mk n t (.fixed 0) :: r) before = false := by
  simp [frontMs, sizeOf?]

/-- duplicate field names (then: duplicate, out-of-range discriminators; out-of-range enumerators) -/
theorem C12_duplicate_field_rejected (sn n : String) (t1 t2 : Ty) (k1 k2 : MKind) :
    front (.struct sn [.mk n t1 k1, .mk n t2 k2]) = false := by
  simp [front, uniq, Member.name]

theorem C12_duplicate_discriminator_rejected (un a b : String) (d : Nat) (t1 t2 : Ty) :
    front (.union un [.mk a d t1, .mk b d t2]) = false := by
  simp [front, uniq, Arm.disc]

theorem C12_discriminator_out_of_range_rejected (un a : String) (d : Nat) (t : Ty) (h : 2 ^ 32 ≤ d) :
    front (.union un [.mk a d t]) = false := by
  have : ¬ d < 4294967296 := by omega
  simp [front, Arm.disc, this]

theorem C12_enumerator_out_of_range_rejected (n a : String) (v : Nat) (h : 2 ^ 32 ≤ v) :
    front (.enum n [(a, v)]) = false := by
  have : ¬ v < 4294967296 := by omega
  simp [front, this]

/-- a schema that the prophy front-end accepts and whose generated module the Python runtime
    imports satisfies every composability rule the codec theorems (C01, C19) assume -/
theorem C12_accepted_is_wellformed (t : Ty) (hf : front t = true) (hp : pyRt t = true) : WF.wfTy t = true :=
  Accept.wf_of_accept t hf hp

/-- the Python runtime never accepts a dynamic type where a fixed one is required: what it lets
    through as optional / fixed / limited element / union arm has one size on the wire -/
theorem C12_runtime_fixed (t : Ty) (hp : pyRt t = true) (hd : (Py.stTy t).dyn = false) : Spec.fixedTy t = true :=
  Accept.fixed_of_pyRt t hp hd


/-- FULL STATEMENT (model level): whatever the prophy front-end accepts, the Python runtime imports.
    `noShift`: prophyc never emits a shifted counter (`shift=` exists only in hand-written Python
    descriptors, which `front` does not judge); without it the implication fails, see below -/
theorem C12_accepted_realisable (t : Ty) (hf : front t = true) (hns : Accept.noShift t = true) : pyRt t = true :=
  Accept.pyRt_of_front t hf hns

/-- on accepted schemas the runtime's checks reduce to its two checks on shifts -/
theorem C12_runtime_checks_beyond_front (t : Ty) (hf : front t = true) : pyRt t = true ↔ Accept.shiftsOk t = true :=
  Accept.pyRt_iff_shiftsOk t hf

theorem C12_shift_needs_the_runtime_check : ¬ (∀ t : Ty, front t = true → pyRt t = true) := Accept.pyRt_of_front_false

/-- prophyc's and the runtime's notions of stiffness coincide on accepted schemas -/
theorem C12_stiffness_bridge (t : Ty) (ht : front t = true) :
    ((PL.nodeTy t).kind = 0 ↔ (Py.stTy t).dyn = false) ∧ ((PL.nodeTy t).kind = 2 ↔ (Py.stTy t).unl = true) ∧ (PL.nodeTy t).kind ≤ 2 :=
  Accept.stTy_kind t ht

/-- EVERY FRONT-END: the validation `model.evaluate_model` applies to the nodes of any front-end and patch (`Accept.model`)
    refuses nothing the prophy parser accepts -/
theorem C12_model_validation_accepts_what_the_parser_accepts (t : Ty) (h : front t = true) : Accept.model t = true :=
  Accept.model_of_front t h

/-- `Accept.model` is as strict as the parser on everything the language can express (`Accept.grammar`: containers have members,
    `byte` only as array element): a rule breaker is refused whether it comes from prophy text, isar XML or a patch -/
theorem C12_model_validation_is_as_strict_as_the_parser (t : Ty) (hm : Accept.model t = true) (hg : Accept.grammar t = true) :
    front t = true :=
  Accept.front_of_model t hm hg

theorem C12_front_is_model_and_grammar (t : Ty) : front t = (Accept.model t && Accept.grammar t) :=
  Accept.front_eq_model_and_grammar t

/-- hence whatever ANY front-end lets through (and the language can express) the Python runtime can realise -/
theorem C12_any_front_end_realisable (t : Ty) (hm : Accept.model t = true) (hg : Accept.grammar t = true)
    (hns : Accept.noShift t = true) : pyRt t = true :=
  C12_accepted_realisable t (Accept.front_of_model t hm hg) hns

/-- non-vacuity and the difference between the two: a struct without members passes the model validation (finding D56),
    the grammar cannot write it -/
example : Accept.model (.struct "E" []) = true ∧ front (.struct "E" []) = false := by decide


end Prophy.C12
