/-
  C02 - Python decode inverts encode and consumes exactly the message.

  FULL STATEMENT (target):
    theorem C02_py_roundtrip (t : Ty) (v : Val) (e : Endian) (bs : Bytes) :
      WF t → HasType t v → Spec.galTy t v = true →
      Py.encode t v e = .ok bs → Py.decode t bs e = .ok (v, bs.length)

  Proved below with `Accept.front t ∧ Accept.pyRt t` for `WF t` and two more hypotheses on the value: `WF.agreeTy t v`
  (otherwise encode raises) and `WF.guardTy t v` (counters within the decoder's guard, finding D49).
-/
import ProphyModel.Properties.Tables
import ProphyModel.Lemmas.Scalars
import ProphyModel.Lemmas.PyRoundTrip
import ProphyModel.Properties.C01
namespace Prophy.C02
open Prophy

/-- scalar kernel of the round trip: what `struct.pack` writes, the guarded `struct.unpack`
    reads back, for every scalar type, every in-range value and both byte orders, at any
    position of any buffer -/
theorem C02_scalar_roundtrip (e : Endian) (p : Prim) (i : Int) (pre post bs : Bytes)
    (h : Py.pack e p i = .ok bs) (hf : p.isFloat = false) :
    Py.decScalar e p (pre ++ bs ++ post) pre.length = .ok (i, p.size) := by
  have hp : Py.pack e p i = if (primRange p).1 ≤ i ∧ i ≤ (primRange p).2
      then .ok (scalarBytes e p.size (toUnsigned p.size i)) else .error .structError := rfl
  rw [hp] at h
  split at h
  · rename_i hin
    injection h with h
    subst h
    exact Py.decScalar_at e p i _ pre post pre.length (List.append_assoc ..) rfl (by simp [inRange, hin.1, hin.2])
  · cases h

/-- FULL STATEMENT: for every schema prophyc accepts and the runtime imports, every value of the
    type whose arrays sharing a counter agree, whose greedy tail (if any) ends on the alignment
    boundary (`Spec.galTy`: the documented exception) and whose counters respect the decoder's
    guard (`WF.guardTy`: beyond it is known finding D49), in both byte orders: decoding the
    canonical encoding succeeds, yields field for field the same value and reports exactly the
    length of the input. -/
theorem C02_py_decode_encode (t : Ty) (v : Val) (e : Endian)
    (hf : Accept.front t = true) (hp : Accept.pyRt t = true)
    (hv : hasType t v = true) (ha : WF.agreeTy t v = true)
    (hg : Spec.galTy t v = true) (hG : WF.guardTy t v = true) :
    Py.decode t (Spec.enc t v e) e = .ok (v, (Spec.enc t v e).length) :=
  Py.decode_encode t v e hf hp hv ha hg hG

/-- the same through the model of the codec on both sides: decode (encode v) = v, and re-encoding
    the decoded value reproduces the bytes -/
theorem C02_py_roundtrip (t : Ty) (v : Val) (e : Endian) (b : Bytes)
    (hf : Accept.front t = true) (hp : Accept.pyRt t = true)
    (hv : hasType t v = true) (ha : WF.agreeTy t v = true)
    (hg : Spec.galTy t v = true) (hG : WF.guardTy t v = true)
    (he : Py.encode t v e = .ok b) :
    Py.decode t b e = .ok (v, b.length) ∧ Py.encode t v e = .ok b := by
  have hc := Py.encode_canonical t v e (Accept.wf_of_accept t hf hp) hv ha
  rw [hc] at he; injection he with he; subst he
  exact ⟨Py.decode_encode t v e hf hp hv ha hg hG, hc⟩

/-- the wire format is unambiguous: two values of one type with the same canonical encoding are the
    same value (decode is a function) -/
theorem C02_encoding_injective (t : Ty) (v v' : Val) (e : Endian)
    (hf : Accept.front t = true) (hp : Accept.pyRt t = true)
    (hv : hasType t v = true) (ha : WF.agreeTy t v = true) (hg : Spec.galTy t v = true) (hG : WF.guardTy t v = true)
    (hv' : hasType t v' = true) (ha' : WF.agreeTy t v' = true) (hg' : Spec.galTy t v' = true) (hG' : WF.guardTy t v' = true)
    (h : Spec.enc t v e = Spec.enc t v' e) : v = v' := by
  have h1 := Py.decode_encode t v e hf hp hv ha hg hG
  have h2 := Py.decode_encode t v' e hf hp hv' ha' hg' hG'
  rw [h] at h1
  rw [h1] at h2
  injection h2 with h2
  injection h2 with h2 _

/-- non-vacuity: the example of C01 (shared shifted counter, nested dynamic struct, optional,
    limited array, union) satisfies every hypothesis -/
example : Accept.front C01.exT = true ∧ Accept.pyRt C01.exT = true ∧ hasType C01.exT C01.exV = true ∧
    WF.agreeTy C01.exT C01.exV = true ∧ Spec.galTy C01.exT C01.exV = true ∧ WF.guardTy C01.exT C01.exV = true := by decide +kernel

end Prophy.C02
