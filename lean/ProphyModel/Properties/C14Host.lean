/-
  C14 - "that same integer is what every back-end uses": where pasting expression TEXT into the
  generated Python module / C++ header is safe.

  prophyc (isar front-end, patch rules) keeps expressions as text, evaluates them with calc
  (`Expr.parse` = `parseWith binInfo`, `Expr.eval`) and pastes the text.  The hosts read it with
  their own grammar (`hostInfo`: `|` < `<< >>` < `+ -` < `* /`, all left-associative, unary minus
  above) and their own arithmetic (`evalPy`: unbounded, floor division; `evalCpp`: `int`, truncating
  division).

  Everything here is about TOKEN LISTS and TREES.  Lexing is outside: a decimal literal with a
  leading zero is decimal for calc and octal for C++ (finding D63, first half) - a matter of
  `tokenize`, not of these theorems.
-/
import ProphyModel.Expr
import ProphyModel.Lemmas.ExprPrint
import ProphyModel.Lemmas.ExprHost
namespace Prophy.C14
open Prophy Prophy.Expr

theorem C14_parseWith_calc : parseWith binInfo = parse := parseWith_binInfo

/-- the host table as data: levels `|` 0, `<< >>` 1, `+ -` 2, `* /` 3, nothing right-associative -/
theorem C14_hostInfo_table :
    hostInfo .bar = some (0, false, .bor) ∧ hostInfo .shl = some (1, false, .shl) ∧
    hostInfo .shr = some (1, false, .shr) ∧ hostInfo .plus = some (2, false, .add) ∧
    hostInfo .minus = some (2, false, .sub) ∧ hostInfo .star = some (3, false, .mul) ∧
    hostInfo .slash = some (3, false, .div) := ⟨rfl, rfl, rfl, rfl, rfl, rfl, rfl⟩

/-- the language of the host parser, as `parse_iff_rep` for calc's -/
theorem C14_host_parser_language (t : List Tok) (a : Ast) :
    parseWith hostInfo t = some a ↔ RepT hostT 0 a t := parseHost_iff t a

/-- `toksFull` puts parentheses around every compound operand (of a binary operator and of unary
    minus): both grammars read it as the tree it was printed from -/
theorem C14_full_parens_same_tree (a : Ast) :
    parseWith hostInfo (toksFull a) = some a ∧ parse (toksFull a) = some a := by
  refine ⟨?_, parse_toksFull a⟩
  rw [← hostT_info]; exact parseWith_toksFull hostT_wf a

/-- and so does any parser driven by a well-formed table -/
theorem C14_full_parens_any_table (T : Table) (hT : T.WF) (a : Ast) :
    parseWith T.info (toksFull a) = some a := parseWith_toksFull hT a

theorem C14_host_reads_same_tree (a : Ast) (h : precSafe a = true) :
    parseWith hostInfo (toks a) = some a := (host_reads_same_tree_iff a).mpr h

/-- `precSafe` is exact: where it fails, the hosts read another tree (or none) -/
theorem C14_host_reads_same_tree_iff (a : Ast) :
    parseWith hostInfo (toks a) = some a ↔ precSafe a = true := host_reads_same_tree_iff a

def env0 : String → Option Int := fun _ => none

/-- calc's tree of `1 << 2 + 1` -/
def d27b : Ast := .bin .add (.bin .shl (.num 1) (.num 2)) (.num 1)
/-- the hosts' tree of `1 << 2 + 1` -/
def d27bHost : Ast := .bin .shl (.num 1) (.bin .add (.num 2) (.num 1))

-- D27b: `1 << 2 + 1`
example : parse [.num 1, .shl, .num 2, .plus, .num 1] = some d27b := by decide +kernel
example : toks d27b = [.num 1, .shl, .num 2, .plus, .num 1] := by decide +kernel
example : precSafe d27b = false := by decide +kernel
example : parseWith hostInfo (toks d27b) = some d27bHost := by decide +kernel
example : d27bHost ≠ d27b := by decide +kernel
example : eval env0 d27b = .ok 5 := by rfl
example : evalPy env0 d27bHost = .ok 8 := by rfl
example : evalCpp env0 d27bHost = .ok 8 := by rfl
-- with the parentheses calc's grouping implies, the hosts agree
example : parseWith hostInfo (toksFull d27b) = some d27b := by decide +kernel
example : toksFull d27b = [.lpar, .num 1, .shl, .num 2, .rpar, .plus, .num 1] := by decide +kernel

-- the second clause of `precSafe`: `1 | 2 | 3` - calc `1 | (2 | 3)`, hosts `(1 | 2) | 3`;
-- no shift anywhere, another tree, the same value
example : parse [.num 1, .bar, .num 2, .bar, .num 3]
    = some (.bin .bor (.num 1) (.bin .bor (.num 2) (.num 3))) := by decide +kernel
example : parseWith hostInfo [.num 1, .bar, .num 2, .bar, .num 3]
    = some (.bin .bor (.bin .bor (.num 1) (.num 2)) (.num 3)) := by decide +kernel
example : precSafe (.bin .bor (.num 1) (.bin .bor (.num 2) (.num 3))) = false := by decide +kernel
example : eval env0 (.bin .bor (.num 1) (.bin .bor (.num 2) (.num 3))) = .ok 3 := by rfl
example : evalPy env0 (.bin .bor (.bin .bor (.num 1) (.num 2)) (.num 3)) = .ok 3 := by rfl

/-- calc reads the text of `c` as `c.ast` iff `c`'s grouping is calc's -/
theorem C14_text_calc_iff (c : Cst) : parse c.toks = some c.ast ↔ c.okT calcT 0 = true := by
  rw [← parseWith_binInfo, ← calcT_info]; exact c.parseWith_iff calcT_wf

/-- the hosts read the text of `c` as `c.ast` iff `c`'s grouping is the hosts' -/
theorem C14_text_host_iff (c : Cst) : parseWith hostInfo c.toks = some c.ast ↔ c.okT hostT 0 = true := by
  rw [← hostT_info]; exact c.parseWith_iff hostT_wf

/-- every text calc accepts has a concrete tree, which decides whether the hosts read the same
    abstract tree -/
theorem C14_text_same_tree_iff (t : List Tok) (a : Ast) (h : parse t = some a) :
    ∃ c : Cst, c.toks = t ∧ c.ast = a ∧ c.okT calcT 0 = true ∧
      (parseWith hostInfo t = some a ↔ c.okT hostT 0 = true) := text_same_tree_iff t a h

/-- when both accept: the trees are equal iff the concrete tree is grouped as the hosts group -/
theorem C14_text_trees_equal_iff (t : List Tok) (a b : Ast) (ha : parse t = some a)
    (hb : parseWith hostInfo t = some b) :
    ∃ c : Cst, c.toks = t ∧ c.ast = a ∧ c.okT calcT 0 = true ∧ (a = b ↔ c.okT hostT 0 = true) := by
  obtain ⟨c, h1, h2, h3, h4⟩ := text_same_tree_iff t a ha
  refine ⟨c, h1, h2, h3, ?_⟩
  rw [← h4, hb]
  constructor
  · intro h; rw [h]
  · intro h; injection h with h; exact h.symm

/-- readable sufficient condition: every shift written next to `+ - * /` and every `|` written as
    an operand of `|` is in parentheses.
    (Parentheses around the shifts alone are NOT sufficient against left-associative `|`: `1 | 2 | 3` above.) -/
theorem C14_text_mixfree_same_tree (c : Cst) (hc : c.okT calcT 0 = true) (hm : c.mixFree = true) :
    parse c.toks = some c.ast ∧ parseWith hostInfo c.toks = some c.ast :=
  ⟨(C14_text_calc_iff c).2 hc, (C14_text_host_iff c).2 (c.okHost_of_mixFree 0 0 hc hm fun _ _ _ _ => Nat.zero_le _)⟩

/-- whatever calc accepts, Python computes the same integer from the same tree -/
theorem C14_python_value (env : String → Option Int) (a : Ast) (v : Int) (h : eval env a = .ok v) :
    evalPy env a = .ok v := evalPy_of_eval env a v h

/-- on the `int32Safe` subset C++ `int` arithmetic computes calc's integer from the same tree -/
theorem C14_cpp_value_int32 (env : String → Option Int) (a : Ast) (v : Int) (h : eval env a = .ok v)
    (hs : int32Safe env a = true) : evalCpp env a = .ok v := evalCpp_of_eval env a v h hs

/-- the division clause of `int32Safe` is exact: floor and truncating quotient agree iff the
    division is exact or the operands have the same sign -/
theorem C14_div_agree_iff (a b : Int) (hb : b ≠ 0) : divAgree a b = true ↔ a.fdiv b = a.tdiv b :=
  divAgree_iff a b hb

-- D63: `(0-7)/2` is -4 for calc (floor) and -3 in C++ (truncation)
def d63a : Ast := .bin .div (.bin .sub (.num 0) (.num 7)) (.num 2)
example : eval env0 d63a = .ok (-4) := by rfl
example : evalPy env0 d63a = .ok (-4) := by rfl
example : evalCpp env0 d63a = .ok (-3) := by rfl
example : int32Safe env0 d63a = false := by decide +kernel
-- D63: `65536 * 65536` is 4294967296 for calc, not computed in `int` by C++
def d63b : Ast := .bin .mul (.num 65536) (.num 65536)
example : eval env0 d63b = .ok 4294967296 := by rfl
example : evalCpp env0 d63b = .error .outOfRange := by rfl
example : int32Safe env0 d63b = false := by decide +kernel
-- inside the subset
example : int32Safe env0 (.bin .div (.bin .shl (.num 1) (.num 10)) (.num 3)) = true := by decide +kernel

/-- Python's `|` on unbounded integers (the model's `lor`) is associative -/
theorem C14_lor_assoc (a b c : Int) : lor (lor a b) c = lor a (lor b c) := lor_assoc a b c

/-- if no shift is a direct operand of `+ - * /`, the hosts read calc's minimal printing as
    `hostTree a`: the same tree but for `|` chains, grouped to the left -/
theorem C14_host_tree_bor_chains (a : Ast) (h : shiftSafe a = true) :
    parseWith hostInfo (toks a) = some (hostTree a) := host_reads_hostTree a h

/-- re-grouping the `|` chains changes neither the value nor the error Python reports -/
theorem C14_host_tree_same_python_value (env : String → Option Int) (a : Ast) :
    evalPy env (hostTree a) = evalPy env a := (evalPy_hostTree env a).1

theorem C14_host_tree_precSafe (a : Ast) (h : precSafe a = true) : hostTree a = a := by
  have h1 := host_reads_hostTree a (shiftSafe_of_precSafe a h)
  rw [C14_host_reads_same_tree a h] at h1
  injection h1 with h1
  exact h1.symm

theorem C14_pasted_text_value_python (env : String → Option Int) (a : Ast) (v : Int)
    (h : eval env a = .ok v) (hs : shiftSafe a = true) :
    ∃ b, parseWith hostInfo (toks a) = some b ∧ evalPy env b = .ok v :=
  ⟨hostTree a, host_reads_hostTree a hs, by rw [(evalPy_hostTree env a).1]; exact evalPy_of_eval env a v h⟩

/-- for C++ the range condition is asked of the tree C++ reads -/
theorem C14_pasted_text_value_cpp (env : String → Option Int) (a : Ast) (v : Int)
    (h : eval env a = .ok v) (hs : shiftSafe a = true) (h32 : int32Safe env (hostTree a) = true) :
    parseWith hostInfo (toks a) = some (hostTree a) ∧ evalCpp env (hostTree a) = .ok v := by
  refine ⟨host_reads_hostTree a hs, ?_⟩
  have hv := val32_of_int32Safe env _ h32
  unfold val32 at hv
  cases he : eval env (hostTree a) with
  | error e => rw [he] at hv; cases hv
  | ok v' =>
    -- calc's value `v'` of the re-grouped tree is `v`: Python computes both, and computes the same from both trees
    have h1 := evalPy_of_eval env _ v' he
    rw [(evalPy_hostTree env a).1, evalPy_of_eval env a v h] at h1
    injection h1 with h1
    subst h1
    exact evalCpp_of_eval env _ _ he h32

-- `1 | 2 | 4 << 1`
def flags : Ast := .bin .bor (.num 1) (.bin .bor (.num 2) (.bin .shl (.num 4) (.num 1)))
example : precSafe flags = false := by decide +kernel
example : shiftSafe flags = true := by decide +kernel
example : hostTree flags = .bin .bor (.bin .bor (.num 1) (.num 2)) (.bin .shl (.num 4) (.num 1)) := by decide +kernel
example : parseWith hostInfo (toks flags) = some (hostTree flags) := by decide +kernel
example : eval env0 flags = .ok 11 := by rfl
example : evalCpp env0 (hostTree flags) = .ok 11 := by rfl
-- D27b is outside `shiftSafe`
example : shiftSafe d27b = false := by decide +kernel

/-- a tree calc evaluates to `v`, printed by calc's minimal printer, pasted: if `precSafe` and
    `int32Safe` hold, Python and C++ read the text as the same tree and compute `v` -/
theorem C14_pasted_text_safe (env : String → Option Int) (a : Ast) (v : Int)
    (h : eval env a = .ok v) (hp : precSafe a = true) (hs : int32Safe env a = true) :
    parse (toks a) = some a ∧ parseWith hostInfo (toks a) = some a ∧
      evalPy env a = .ok v ∧ evalCpp env a = .ok v :=
  ⟨parse_toks a, C14_host_reads_same_tree a hp, evalPy_of_eval env a v h, evalCpp_of_eval env a v h hs⟩

/-- for Python alone `precSafe` suffices (no range condition) -/
theorem C14_pasted_text_safe_python (env : String → Option Int) (a : Ast) (v : Int)
    (h : eval env a = .ok v) (hp : precSafe a = true) :
    parseWith hostInfo (toks a) = some a ∧ evalPy env a = .ok v :=
  ⟨C14_host_reads_same_tree a hp, evalPy_of_eval env a v h⟩

/-- and with full parentheses no grouping condition is needed at all -/
theorem C14_pasted_full_parens_safe (env : String → Option Int) (a : Ast) (v : Int)
    (h : eval env a = .ok v) (hs : int32Safe env a = true) :
    parseWith hostInfo (toksFull a) = some a ∧ evalPy env a = .ok v ∧ evalCpp env a = .ok v :=
  ⟨(C14_full_parens_same_tree a).1, evalPy_of_eval env a v h, evalCpp_of_eval env a v h hs⟩

end Prophy.C14

#print axioms Prophy.C14.C14_parseWith_calc
#print axioms Prophy.C14.C14_full_parens_same_tree
#print axioms Prophy.C14.C14_host_reads_same_tree
#print axioms Prophy.C14.C14_host_reads_same_tree_iff
#print axioms Prophy.C14.C14_text_calc_iff
#print axioms Prophy.C14.C14_text_host_iff
#print axioms Prophy.C14.C14_text_same_tree_iff
#print axioms Prophy.C14.C14_text_trees_equal_iff
#print axioms Prophy.C14.C14_text_mixfree_same_tree
#print axioms Prophy.C14.C14_python_value
#print axioms Prophy.C14.C14_cpp_value_int32
#print axioms Prophy.C14.C14_div_agree_iff
#print axioms Prophy.C14.C14_pasted_text_safe
#print axioms Prophy.C14.C14_pasted_text_safe_python
#print axioms Prophy.C14.C14_pasted_full_parens_safe
#print axioms Prophy.C14.C14_lor_assoc
#print axioms Prophy.C14.C14_host_tree_bor_chains
#print axioms Prophy.C14.C14_host_tree_same_python_value
#print axioms Prophy.C14.C14_host_tree_precSafe
#print axioms Prophy.C14.C14_pasted_text_value_python
#print axioms Prophy.C14.C14_pasted_text_value_cpp
