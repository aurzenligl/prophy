/-
  C19 - Byte order changes only the bytes inside scalars; padding is always zero.

  The canonical encoding is `render e (chunksTy t v)`: byte order `e` enters only
  through `Chunk.render` of a scalar chunk.  The theorems below state the relation
  between the two renderings of *any* chunk list, hence of every message of every
  schema.  That the Python codec emits exactly `Spec.enc` is C01; the corollaries
  at the end transport the relation to `Py.encode`.
-/
import ProphyModel.Lemmas.CppEncodeBounds
import ProphyModel.Lemmas.PyEncode
namespace Prophy.C19
open Prophy Prophy.Spec

/-- reverse, in place, the bytes of every scalar chunk of an encoding laid out as `cs` -/
def mirror : List Chunk → Bytes → Bytes
  | [], bs => bs
  | .scalar k _ :: r, bs => (bs.take k).reverse ++ mirror r (bs.drop k)
  | .pad n :: r, bs => bs.take n ++ mirror r (bs.drop n)
  | .raw b :: r, bs => bs.take b.length ++ mirror r (bs.drop b.length)

/-- every byte that lies in a padding chunk is zero -/
def padsZero : List Chunk → Bytes → Prop
  | [], _ => True
  | .scalar k _ :: r, bs => padsZero r (bs.drop k)
  | .pad n :: r, bs => bs.take n = zeros n ∧ padsZero r (bs.drop n)
  | .raw b :: r, bs => padsZero r (bs.drop b.length)

/-- the two encodings have the same length -/
theorem C19_same_length (t : Ty) (v : Val) :
    (enc t v .big).length = (enc t v .little).length := by
  simp [enc, render_length]

theorem mirror_render (e e' : Endian) (h : e ≠ e') (cs : List Chunk) :
    render e' cs = mirror cs (render e cs) := by
  induction cs with
  | nil => rfl
  | cons c r ih =>
    cases c with
    | scalar k n =>
      simp only [render, Chunk.render, mirror]
      have hl : (scalarBytes e k n).length = k := scalarBytes_length _ _ _
      rw [List.take_left' hl, List.drop_left' hl, ← ih]
      cases e <;> cases e' <;> first | exact absurd rfl h | simp [scalarBytes]
    | pad n =>
      simp only [render, Chunk.render, mirror]
      have hl : (zeros n).length = n := zeros_length n
      rw [List.take_left' hl, List.drop_left' hl, ← ih]
    | raw b =>
      simp only [render, Chunk.render, mirror]
      rw [List.take_left' rfl, List.drop_left' rfl, ← ih]

/-- the big-endian encoding is the little-endian one with every scalar reversed in place -/
theorem C19_mirror (t : Ty) (v : Val) :
    enc t v .big = mirror (chunksTy t v) (enc t v .little) :=
  mirror_render .little .big (by decide) _

/-- and it is an involution on the layout: mirroring twice gives the encoding back -/
theorem C19_mirror_back (t : Ty) (v : Val) :
    enc t v .little = mirror (chunksTy t v) (enc t v .big) :=
  mirror_render .big .little (by decide) _

/-- every padding byte is zero, in both byte orders -/
theorem C19_padding_zero (t : Ty) (v : Val) (e : Endian) :
    padsZero (chunksTy t v) (enc t v e) := by
  unfold enc
  generalize chunksTy t v = cs
  induction cs with
  | nil => trivial
  | cons c r ih =>
    cases c with
    | scalar k n =>
      simp only [render, Chunk.render, padsZero]
      rw [List.drop_left' (scalarBytes_length _ _ _)]; exact ih
    | pad n =>
      simp only [render, Chunk.render, padsZero]
      rw [List.take_left' (zeros_length n), List.drop_left' (zeros_length n)]
      exact ⟨rfl, ih⟩
    | raw b =>
      simp only [render, Chunk.render, padsZero]
      rw [List.drop_left' rfl]; exact ih

/-- transported to the Python runtime (through C01): what `encode('>')` returns is what
    `encode('<')` returns with every scalar reversed in place, of the same length, and every
    padding byte of both is zero -/
theorem C19_py_encode (t : Ty) (v : Val) (bl bb : Bytes)
    (hw : WF.wfTy t = true) (hv : hasType t v = true) (ha : WF.agreeTy t v = true)
    (hl : Py.encode t v .little = .ok bl) (hb : Py.encode t v .big = .ok bb) :
    bb = mirror (chunksTy t v) bl ∧ bl = mirror (chunksTy t v) bb ∧ bb.length = bl.length ∧
    padsZero (chunksTy t v) bl ∧ padsZero (chunksTy t v) bb := by
  rw [Py.encode_canonical t v .little hw hv ha] at hl
  rw [Py.encode_canonical t v .big hw hv ha] at hb
  injection hl with hl; injection hb with hb
  subst hl; subst hb
  exact ⟨C19_mirror t v, C19_mirror_back t v, C19_same_length t v, C19_padding_zero t v .little, C19_padding_zero t v .big⟩


/-- the same for the C++ full codec's vector encoders (through C03): `encode<big>()` is
    `encode<little>()` with every scalar reversed in place, equally long, paddings zero -/
theorem C19_cpp_encode (t : Ty) (v : Val) (bl bb : Bytes)
    (hf : Accept.front t = true) (hns : Accept.noShift t = true) (hm : Cpp.optMisaligned t = false)
    (hv : hasType t v = true) (ha : WF.agreeTy t v = true)
    (hlen : (Spec.enc t v .little).length < 2 ^ 64)
    (hl : Cpp.encodeVec t v .little = .ok bl) (hb : Cpp.encodeVec t v .big = .ok bb) :
    bb = mirror (chunksTy t v) bl ∧ bb.length = bl.length ∧ padsZero (chunksTy t v) bl ∧ padsZero (chunksTy t v) bb := by
  have hlen' : (Spec.enc t v .big).length < 2 ^ 64 := by rw [C19_same_length]; exact hlen
  rw [Cpp.encodeVec_canonical t v .little hf hns hm hv ha hlen] at hl
  rw [Cpp.encodeVec_canonical t v .big hf hns hm hv ha hlen'] at hb
  injection hl with hl; injection hb with hb
  subst hl; subst hb
  exact ⟨C19_mirror t v, C19_same_length t v, C19_padding_zero t v .little, C19_padding_zero t v .big⟩

/-- encoding.rst "Integer padding", in both orders -/
def exT : Ty := .struct "X" [.mk "a" (.prim .u8) .plain, .mk "b" (.prim .u16) .plain]
def exV : Val := .struct [.int 1, .int 2]
example : enc exT exV .little = [1, 0, 2, 0] := by decide +kernel
example : enc exT exV .big = [1, 0, 0, 2] := by decide +kernel
example : mirror (chunksTy exT exV) [1, 0, 2, 0] = [1, 0, 0, 2] := by decide +kernel

end Prophy.C19
