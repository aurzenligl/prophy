/-
  C09: the generated prophy::swap on whole messages (proofs in Lemmas/RawSwap*.lean).
-/
import ProphyModel.Properties.C09
import ProphyModel.Lemmas.RawSwap
namespace Prophy.C09
open Prophy

/-- FULL STATEMENT: for every accepted schema whose generated struct is well-formed C++ and free of
    the known defect D23 (`Raw.partsOk`: the generated members of every struct have distinct names,
    no shifted counters, and no part whose alignment exceeds the next part's unless its data always
    ends on it), every well-typed coherent value of a type without a greedy tail, and ANY bytes
    after the message: the generated `prophy::swap` rewrites the foreign-endian (big) encoding in place
    into the native (little) one, leaves every byte after the message untouched, and returns the
    address one past the aligned end.  Dynamic arrays of dynamic structs, optionals, unions, limited
    and fixed arrays, bytes, any nesting.  (`depthTy ≤ 256`: the model's recursion fuel; the C++ code
    has no such limit.) -/
theorem C09_swap_whole_message (t : Ty) (v : Val) (tail : Bytes)
    (hf : Accept.front t = true) (hp : Accept.pyRt t = true) (hd : Raw.partsOk t = true)
    (hv : hasType t v = true) (ha : WF.agreeTy t v = true) (hu : Spec.unlTy t = false)
    (hdepth : Raw.depthTy t ≤ 256) :
    Raw.swap t (Spec.enc t v .big ++ tail) = some (Spec.enc t v .little ++ tail, (Spec.enc t v .little).length) :=
  Raw.swap_spec t v tail hf hp hd hv ha hu hdepth

/-- at any aligned position inside any buffer (array elements, nested structs) -/
theorem C09_swap_in_place (t : Ty) (v : Val) (pre post : Bytes) (fuel pos : Nat)
    (hf : Accept.front t = true) (hp : Accept.pyRt t = true) (hd : Raw.partsOk t = true)
    (hv : hasType t v = true) (ha : WF.agreeTy t v = true) (hu : Spec.unlTy t = false)
    (hpre : pre.length = pos) (hal : Spec.alignTy t ∣ pos) (hfuel : Raw.needTy t v ≤ fuel) :
    Raw.swapTy fuel t (pre ++ Spec.enc t v .big ++ post) pos
      = some (pre ++ Spec.enc t v .little ++ post, pos + (Spec.enc t v .little).length) :=
  Raw.swapTy_spec t v pre post fuel pos hf hp hd hv ha hu hpre hal hfuel

/-- messages with a greedy tail: everything before the unlimited member is swapped, the member is
    left as it is, and the returned address is its aligned start -/
theorem C09_swap_unlimited_prefix (t : Ty) (v : Val) (tail : Bytes)
    (hf : Accept.front t = true) (hp : Accept.pyRt t = true) (hd : Raw.partsOk t = true)
    (hv : hasType t v = true) (ha : WF.agreeTy t v = true) (hu : Spec.unlTy t = true)
    (hdepth : Raw.depthTy t ≤ 256) :
    Raw.swap t (Spec.enc t v .big ++ tail) =
      some ((Spec.enc t v .little).take (Raw.unlStart t v) ++ (Spec.enc t v .big).drop (Raw.unlStart t v) ++ tail,
            alignUp (Raw.unlStart t v) (Spec.alignTy t)) :=
  Raw.swap_unl_spec t v tail hf hp hd hv ha hu hdepth

end Prophy.C09
