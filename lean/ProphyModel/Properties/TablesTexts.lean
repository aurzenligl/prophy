/-
  Obligations about the texts and limits that translator T1 copies from /repo's sources on every run
  (Generated/Texts.lean): the regular expression of expression text prophyc refuses to paste, the include
  depth limit, the names reserved for the generated C++.  A source edit that changes one of them re-runs
  these proofs against the new value; when they break, the model definitions that mirror the old value
  (`Expr.unwritable`, `FilesL.depthLimit`) no longer speak about the code.
-/
import ProphyModel.Generated.Texts
import ProphyModel.FilesL
namespace Prophy.Tables

/-- `Expr.unwritable` (ExprHosts.lean; `C14.C14_unwritable_is_regex`, Properties/C14CppLex.lean) is the scan of exactly this regular
    expression: control characters other than TAB, `--`, `++`, a hexadecimal literal (not inside a name) ending in e/E before a sign -/
theorem unwritable_regex_is_source :
    Generated.unwritableRegex = "[\\x00-\\x08\\x0a-\\x1f]|--|\\+\\+|(?<![A-Za-z0-9_])0[xX][0-9a-fA-F]*[eE][-+]" := rfl

/-- the depth limit of the file processor model is the one of the code -/
theorem include_depth_limit_is_source : FilesL.depthLimit = Generated.includeDepthLimit := by decide

/-- every name the generated C++ uses unqualified inside its classes and function bodies is refused as a schema name
    by both C++ generators (defects D114, D155, D173: the fixed-width integer types, `encoded_byte_size` in every class;
    `native` / `little` / `big` / `indent` of the printer and the codec are in the full codec's list: D202) -/
theorem cpp_runtime_names_cover :
    ["encoded_byte_size", "size_t", "prophy", "std",
     "int8_t", "int16_t", "int32_t", "int64_t", "uint8_t", "uint16_t", "uint32_t", "uint64_t"].all
      (fun n => Generated.cppRuntimeNames.contains n) = true := by decide +kernel

/-- the nested names of the raw C++ header (blocks `part2`, `part3`, ..., the union's `_discriminator`) are refused by `--cpp_out` -/
theorem cpp_raw_generated_names_is_source :
    Generated.cppRawGeneratedNames = "(part([2-9]|[1-9][0-9]+)|_discriminator)\\Z" := rfl

/-- the names of `prophy::detail` and of the generated classes that the full codec's sources use unqualified are refused by
`--cpp_full_out` (D195); `array` and `optional` also as member names -/
theorem cpp_full_runtime_names_cover :
    ["array", "optional", "message", "message_impl", "encoder", "decoder", "printer", "align", "align_ptr", "alignment", "nearest",
     "byte_size", "int2type", "codec_traits", "print_traits", "do_encode", "do_decode", "do_print", "endianness", "detail",
     "generated", "swap", "discriminator", "encode", "decode", "print", "get_byte_size", "native", "little", "big", "indent",
     "do_decode_advance", "do_decode_align", "do_decode_greedy", "do_decode_in_place", "do_decode_resize", "encode_int", "decode_int",
     "print_byte", "indent_t", "is_class_or_union", "decoder_greedy", "heap_value", "optional_detail", "to_literal"].all
      (fun n => Generated.cppFullRuntimeNames.contains n) = true ∧
    ["array", "optional", "encode", "get_byte_size"].all (fun n => Generated.cppFullMemberNames.contains n) = true := by decide +kernel

/-- the names of the raw codec's runtime that its generated sources use unqualified are refused by `--cpp_out` (D195) -/
theorem cpp_raw_runtime_names_cover :
    ["swap", "cast", "bool_t", "detail", "align", "align_ptr", "alignment", "swap_n_fixed", "swap_n_dynamic", "discriminator"].all
      (fun n => Generated.cppRawRuntimeNames.contains n) = true := by decide +kernel

end Prophy.Tables
