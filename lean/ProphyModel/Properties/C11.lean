/-
  C11 - copy_from yields an equal, fully independent message.
-/
import ProphyModel.Copy
import ProphyModel.Lemmas.CopyEqns
namespace Prophy.C11
open Prophy Prophy.Copy

/- for every member kind, type and value of the type's shape (any nesting depth): the copy equals
   the source and shares no mutable object (message, array) with it -/
mutual
  theorem copyField_spec : (v : Val) → ∀ (k : MKind) (t : Ty), shapeField t v = true →
      copyField k t v = (v, false)
    | .sizer, k, t, _ => copyField_sizer k t
    | .absent, k, t, _ => copyField_absent k t
    | .present x, k, t, h => by
      rw [shapeField_present] at h
      rw [copyField_present, copyField_spec x .plain t h]
    | .bytes b, k, t, _ => copyField_bytes k t b
    | .arr xs, k, t, h => by
      rw [shapeField_arr] at h
      rw [copyField_arr, copyElems_spec xs t h]
    | .int i, k, t, _ => copyField_int k t i
    | .struct fs, k, t, h => by
      obtain ⟨n, ms, rfl, h⟩ := shapeField_struct t fs h
      rw [copyField_struct, copyMs_spec fs ms h]
    | .union idx v, k, t, h => by
      obtain ⟨n, arms, an, ad, at_, rfl, harm, h⟩ := shapeField_union t idx v h
      rw [copyField_union, harm]
      show (Val.union idx (copyField .plain at_ v).1, (copyField .plain at_ v).2) = _
      rw [copyField_spec v .plain at_ h]
  theorem copyMs_spec : (vs : List Val) → ∀ (ms : List Member), shapeMs ms vs = true →
      copyMs ms vs = (vs, false)
    | [], [], _ => rfl
    | [], .mk _ _ _ :: _, h => by cases h
    | _ :: _, [], h => by cases h
    | v :: vs, .mk n t k :: r, h => by
      rw [shapeMs_cons, Bool.and_eq_true] at h
      rw [copyMs_cons, copyField_spec v k t h.1, copyMs_spec vs r h.2]
      rfl
  theorem copyElems_spec : (vs : List Val) → ∀ (t : Ty), shapeElems t vs = true →
      copyElems t vs = (vs, false)
    | [], t, _ => rfl
    | v :: vs, t, h => by
      rw [shapeElems_cons, Bool.and_eq_true] at h
      rw [copyElems_cons, copyField_spec v .plain t h.1, copyElems_spec vs t h.2]
      rfl
end

/-- after `b.copy_from(a)` (whatever `b` held before) `b` equals `a` -/
theorem C11_copy_equal (t : Ty) (a : Val) (h : shapeField t a = true) : (copyFrom t a).1 = a := by
  unfold copyFrom; rw [copyField_spec a .plain t h]

/-- and no mutable object of `a` is reachable from `b`: a later mutation of either message, at any
    nesting depth, cannot be seen through the other -/
theorem C11_separation (t : Ty) (a : Val) (h : shapeField t a = true) : (copyFrom t a).2 = false := by
  unfold copyFrom; rw [copyField_spec a .plain t h]

/-- the same holds for the elements copied into a composite array by `extend()` -/
theorem C11_extend_elements (t : Ty) (xs : List Val) (h : shapeElems t xs = true) :
    copyElems t xs = (xs, false) := copyElems_spec xs t h

/-- non-vacuity: a struct with a set optional struct, a limited array of structs and a union -/
example : shapeField
    (.struct "S" [.mk "o" (.struct "I" [.mk "a" (.prim .u8) .plain]) .optional,
                  .mk "k" (.prim .u32) .plain,
                  .mk "cs" (.struct "I" [.mk "a" (.prim .u8) .plain]) (.limited "k" 2),
                  .mk "u" (.union "U" [.mk "x" 1 (.prim .u32)]) .plain])
    (.struct [.present (.struct [.int 5]), .sizer, .arr [.struct [.int 1]], .union 0 (.int 9)]) = true := by decide

end Prophy.C11
