/- C13: the sort / evaluator / include / patch termination theorems (Properties/C13.lean, C16.lean, C17.lean) and the
   name-resolution loops of the evaluator (Properties/C13Resolve.lean) audited together -/
import ProphyModel.Properties.C13
import ProphyModel.Properties.C16
import ProphyModel.Properties.C17
import ProphyModel.Properties.C13Resolve
