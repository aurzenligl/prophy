/-
  C16 - Multi-file schemas with includes equal their single-file concatenation.
  C20 - (shares the model) prophyc output is a deterministic function of its inputs.
-/
import ProphyModel.Files
import ProphyModel.Lemmas.FilesOrder
namespace Prophy.C16
open Prophy Prophy.Files

/-- a file that is being processed (cycle marker in the cache) is reported as a cyclic include,
    whatever the file system, search path and fuel -/
theorem C16_cycle_is_error (fs : List File) (fuel : Nat) (dirs : List String) (cache : Cache) (f : FileId)
    (h : cache.lookup f = some none) : processFile fs fuel dirs cache f = .error (.cyclic f) := by
  cases fuel with
  | zero => rfl
  | succ n => rw [processFile_succ, h]

/-- an include that is found in none of the search directories is an error, never dropped -/
theorem C16_missing_is_error (fs : List File) (fuel : Nat) (dirs : List String) (cache : Cache)
    (leaf : String) (rest : List String) (h : findLeaf fs leaf dirs = none) :
    processIncludes fs fuel dirs cache (leaf :: rest) = .error (.notFound leaf) := by
  cases fuel with
  | zero => rfl
  | succ n => rw [processIncludes_succ, h]

/-- a file already processed is not parsed again and exports exactly what it exported the first time -/
theorem C16_cached_not_reparsed (fs : List File) (fuel : Nat) (dirs : List String) (cache : Cache) (f : FileId)
    (r : Result) (h : cache.lookup f = some (some r)) :
    processFile fs (fuel + 1) dirs cache f = .ok ({ r with parsed := [] }, cache) := by
  rw [processFile_succ, h]

/-- the names visible in a file are its direct includes' definitions, in include order, followed
    by its own: what the concatenation of the included files followed by the file defines -/
theorem C16_visible_is_concatenation (fs : List File) (fuel : Nat) (dirs : List String) (cache cache' : Cache)
    (f : FileId) (file : File) (r : Result)
    (hc : cache.lookup f = none) (hf : lookupFile fs f = some file)
    (h : processFile fs (fuel + 1) dirs cache f = .ok (r, cache')) :
    ∃ vis parsed c1, processIncludes fs fuel dirs ((f, none) :: cache) file.includes = .ok (vis, parsed, c1)
      ∧ r.visible = vis ++ file.defines ∧ r.exports = file.defines := by
  rw [processFile_succ, hc] at h
  simp only [hf] at h
  split at h
  · cases h
  · rename_i vis parsed c1 hi
    cases h
    exact ⟨vis, parsed, c1, hi, rfl, rfl⟩

/-- non-vacuity: a diamond (main includes a and b, both include base) over two directories -/
def exFs : List File := [
  ⟨⟨"/p", "main"⟩, ["a", "b"], ["M"]⟩, ⟨⟨"/p/i1", "a"⟩, ["base"], ["A"]⟩,
  ⟨⟨"/p/i2", "b"⟩, ["base"], ["B"]⟩, ⟨⟨"/p/i2", "base"⟩, [], ["K"]⟩]
example : (match processMains exFs ["/p/i1", "/p/i2"] [⟨"/p", "main"⟩] [] with
    | .ok [(_, r)] => r.visible == ["A", "B", "M"] && r.parsed.map (·.leaf) == ["main", "a", "base", "b"]
    | _ => false) = true := by decide


/-- In one prophyc run no file is parsed twice, whatever the include
    graph and the inputs (diamonds, repeated includes, files that are both inputs and includes) -/
theorem C16_parsed_once (fs : List File) (inc : List String) (ms : List FileId) (cache : Cache)
    (rs : List (FileId × Result)) (h : processMains fs inc ms cache = .ok rs) :
    (rs.flatMap (·.2.parsed)).Nodup := by
  rw [← FilesL.filesMainsN_eq_l] at h
  obtain ⟨_, hp⟩ := filesMainsN_parsedInv fs _ inc ms cache rs h
  exact hp.nodup

/-- what a file exports and sees does not depend on what was processed before it: with any cache
    whose finished entries are correct, the result is that of a fresh run -/
theorem C16_cache_irrelevant (fs : List File) (inc : List String) (cache : Cache) (f : FileId) (n n0 : Nat)
    (r r0 : Result) (c' c0 : Cache) (hs : Cache.sound_p15 fs inc cache)
    (h : processFile fs n (f.dir :: inc) cache f = .ok (r, c'))
    (h0 : processFile fs n0 (f.dir :: inc) [] f = .ok (r0, c0)) :
    r.exports = r0.exports ∧ r.visible = r0.visible :=
  let ⟨a, b, _, _⟩ := processFile_cache_irrelevant_p15 hs h h0; ⟨a, b⟩

/-- every acyclic include graph whose includes all resolve compiles (the rank is weighted by the
    position of the include: the model spends fuel per include as well as per level; the real code
    has no such bound) -/
theorem C16_acyclic_succeeds (fs : List File) (inc : List String) (R : FileId → Prop) (rank : FileId → Nat)
    (hR : Ranked_p15 fs inc R rank) (ms : List FileId)
    (hms : ∀ f ∈ ms, R f ∧ rank f < 4 * fs.length + 4) : ∃ rs, processMains fs inc ms [] = .ok rs :=
  processMains_success_p15 fs inc R rank hR ms hms

/-- C20 (determinism, model level): for two runs over the same files whose input lists are
    permutations of each other, every input file gets the same exports and the same visible names -
    the order of the command line does not matter -/
theorem C20_order_independent (fs : List File) (inc : List String) (ms ms' : List FileId)
    (rs rs' : List (FileId × Result))
    (h : processMains fs inc ms [] = .ok rs) (h' : processMains fs inc ms' [] = .ok rs') (hperm : ms.Perm ms') :
    ∀ f r r', (f, r) ∈ rs → (f, r') ∈ rs' → r.exports = r'.exports ∧ r.visible = r'.visible :=
  order_independent_p15 fs inc ms ms' rs rs' h h' hperm

end Prophy.C16
