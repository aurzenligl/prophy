/-
  C13 - prophyc always terminates with outputs or a designed diagnostic.

  The Lean side covers the stages whose logic can hang or leak an exception: the dependency sort
  (rotation bound), include processing (cycle marker, missing files), expression evaluation
  (division by zero, negative shifts, unknown names) and patch scripts.  All model functions are
  total; what is proved is that their failure outcomes are the designed ones and that the bounds
  the code relies on are exactly the ones modelled.  PLY, ElementTree and argparse are trusted
  (exercised by the differential run only): the claim level is partial.
-/
import ProphyModel.Properties.C14   -- for `C14_eval_total` (C13_expr_total)
import ProphyModel.Lemmas.TopoComplete
namespace Prophy.C13
open Prophy

/-- the loop at one position is bounded: with no rotation left it reports a cycle, whatever the nodes are
    (`sortFrom` allows `len(nodes) + 1` rotations; that this bound never cuts a loop short that would end is
    `C13_rotation_bound_exact`) -/
theorem C13_sort_rotation_bound (known available : List String) (s : List Topo.TNode) :
    Topo.settle known available 0 s = none := rfl

/-- a definition that depends on itself is reported (cycle), never sorted forever -/
theorem C13_self_reference_reported : Topo.sort [⟨"A", ["A"], false⟩] = none := by decide

/-- the two-definition cycle `A -> B -> A` is reported -/
theorem C13_two_cycle_reported : Topo.sort [⟨"A", ["B"], false⟩, ⟨"B", ["A"], false⟩] = none := by decide

/-- the expression evaluator is total: a value or one of three designed errors -/
theorem C13_expr_total (env : String → Option Int) (e : Expr.Ast) :
    (∃ v, Expr.eval env e = .ok v) ∨ (∃ x, Expr.eval env e = .error x) := C14.C14_eval_total env e

/-- division by zero, negative shift counts and values beyond 64 bits are designed errors -/
theorem C13_div_zero_is_error (a : Int) : Expr.binop .div a 0 = .error .divZero := by
  simp [Expr.binop, Expr.rawBinop, Expr.isShift]
theorem C13_neg_shift_is_error (a b : Int) (h : b < 0) :
    Expr.binop .shl a b = .error .negShift ∧ Expr.binop .shr a b = .error .negShift := by
  have h64 : ¬ (b > 64) := by omega
  simp [Expr.binop, Expr.rawBinop, Expr.isShift, h, h64]
theorem C13_huge_shift_is_error (a b : Int) (h : b > 64) : Expr.binop .shl a b = .error .outOfRange := by
  simp [Expr.binop, Expr.isShift, h]


/-- the rotation bound is never hit by an acyclic definition set: a ModelError "cyclic dependency"
    is raised only for sets that do have a cycle.  The list may hold Include nodes anywhere; the
    rank condition is asked of the definitions (non-Include nodes) only -/
theorem C13_sort_succeeds_on_acyclic (g : List Topo.TNode) (rank : String → Nat)
    (hr : ∀ n ∈ g, n.incl = false → ∀ d ∈ n.deps, d ∈ Topo.availableOf g → rank d < rank n.name) :
    Topo.sort g ≠ none := by
  obtain ⟨r, h⟩ := Topo.sort_complete' g rank hr
  rw [h]; simp

/-- the rotation bound is never the REASON of a report: a position that is settled with any number of
    rotations is settled within `len(suffix)` of them, so a larger bound reports the same cycles -/
theorem C13_rotation_bound_exact (known available : List String) (f f' : Nat) (s r : List Topo.TNode)
    (hs : Topo.settle known available f s = some r) (hf : s.length < f') :
    Topo.settle known available f' s = some r :=
  C15.settle_fuel known available f f' s r hs hf

end Prophy.C13

#print axioms Prophy.C13.C13_sort_succeeds_on_acyclic
#print axioms Prophy.C13.C13_sort_rotation_bound
