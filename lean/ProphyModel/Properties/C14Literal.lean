/-
  C14, a lone literal in the C++ headers: `_to_literal` (prophyc/generators/cpp.py, cpp_full.py) renders the text
  of a constant or enumerator value that is a lone literal so that the C++ compiler reads the integer prophyc
  computed.  Model: ProphyModel/CppLit.lean; lemmas: Lemmas/CppLiteral.lean.

  Why the function exists: C++ reads `-` and the digits separately and types the digits alone.
  `-0x80000000` is `-(unsigned int 2147483648)` = +2147483648 (`C14_hex_minus_is_positive`), and
  `-9223372036854775808` is ill-formed (`C14_min_long_ill_formed`).

  `C14_lone_literal_rendered`: for every `rendered` spelling of a
  lone literal (`loneValue cs = some v`: blanks, parentheses before the sign, around the sign or the digits, upper
  or lower case hex) with v in −2^63 … 2^64−1, the text written into the headers is read by the C++ compiler
  (`cppRead`, C++11 typing of literals on LP64) as v.

  `rendered cs` = "the sign is `-`, or the text without its surrounding blanks has no parenthesis and no blank".
  It is exact (`C14_rendered_exact`): for a lone literal, `rendered cs` holds iff `int(value, 0)` succeeds on the
  text `_to_literal` hands to it, and then `int` returns prophyc's value.

  `C14_lone_literal_pasted_nonneg`: the other spellings (`(5)`, `+(5)`, `( 5 )`, `+ 5`) are pasted verbatim and
  are non-negative.
-/
import ProphyModel.CppLit
import ProphyModel.Lemmas.CppLiteral
namespace Prophy.C14
open Prophy Prophy.CppLit

example : toLiteral "(-0x80000000)".toList = "-2147483648".toList := by decide +kernel
example : toLiteral "- 5".toList = "-5".toList := by decide +kernel
example : toLiteral "5".toList = "5u".toList := by decide +kernel
example : toLiteral "0".toList = "0".toList := by decide +kernel
example : toLiteral "-0x8000000000000000".toList = "(-9223372036854775807 - 1)".toList := by decide +kernel
example : toLiteral "0xFFFFFFFF".toList = "0xFFFFFFFFu".toList := by decide +kernel
example : toLiteral "1 + 2".toList = "1 + 2".toList := by decide +kernel
example : toLiteral "(5)".toList = "(5)".toList := by decide +kernel
example : cppRead "-2147483648".toList = some (-2147483648) := by decide +kernel
example : cppRead "-0x80000000".toList = some 2147483648 := by decide +kernel
example : cppRead "0xFFFFFFFFu".toList = some 4294967295 := by decide +kernel
example : cppRead "(-9223372036854775807 - 1)".toList = some (-9223372036854775808) := by decide +kernel
example : loneValue "( - ( 0x10 ) )".toList = some (-16) := by decide +kernel
example : rendered "( - ( 0x10 ) )".toList = true := by decide +kernel
example : rendered " 0x10\t".toList = true := by decide +kernel
example : rendered "(5)".toList = false := by decide +kernel
example : rendered "+ 5".toList = false := by decide +kernel

/-- `-0x80000000`: the digits are an unsigned int and the negation is modulo 2^32, so what the compiler reads is not
    −2147483648 (it is +2147483648: the example above) -/
theorem C14_hex_minus_is_positive : cppRead "-0x80000000".toList ≠ some (-2147483648) := by decide +kernel

/-- `-9223372036854775808`: the digits alone fit no signed type, a decimal literal is never unsigned: ill-formed -/
theorem C14_min_long_ill_formed : cppRead "-9223372036854775808".toList = none := by decide +kernel

/-- whatever the spelling of a lone literal (blanks, parentheses around the sign or the digits, upper or
lower case hex), the text written into the C++ headers is read by the C++ compiler as the integer prophyc
computed, for every value an enum can hold (−2^63 … 2^64−1) -/
theorem C14_lone_literal_rendered (cs : List Char) (v : Int)
    (hv : loneValue cs = some v) (hlo : -(2:Int)^63 ≤ v) (hhi : v < (2:Int)^64)
    (hsimple : rendered cs = true) :
    cppRead (toLiteral cs) = some v := by
  obtain ⟨lit, n, hl, ⟨rfl, hval, _⟩ | ⟨rfl, hval, sg, hsg, hs⟩⟩ := lone_cases hv <;> rw [toLiteral_eq, hval]
  · exact render_neg hl (by omega)
  · exact render_pos hl (by omega) (hs hsimple) hsg

/-- the spellings that are not `rendered` are pasted as they are, and their value is not negative -/
theorem C14_lone_literal_pasted_nonneg (cs : List Char) (v : Int) (hv : loneValue cs = some v)
    (hr : rendered cs = false) :
    toLiteral cs = cs ∧ 0 ≤ v := by
  obtain ⟨lit, n, hl, ⟨_, _, hren⟩ | ⟨rfl, hval, _⟩⟩ := lone_cases hv
  · rw [hr] at hren; cases hren
  · refine ⟨?_, by omega⟩
    rw [toLiteral_eq, hval]
    simp only [renderOf, pyInt0_none_of_not_rendered hr]

/-- `rendered` is exact: for a lone literal it holds iff `int(value, 0)` succeeds on the text `_to_literal` hands to
it (`valueOf cs`: the bare text when the three conditions hold, else the text), and then `int` returns the value
prophyc computed -/
theorem C14_rendered_exact (cs : List Char) (v : Int) (hv : loneValue cs = some v) :
    (rendered cs = true → pyInt0 (valueOf cs) = some v) ∧
    (rendered cs = false → pyInt0 (valueOf cs) = none) := by
  obtain ⟨lit, n, hl, ⟨rfl, hval, hren⟩ | ⟨rfl, hval, sg, hsg, hs⟩⟩ := lone_cases hv <;> rw [hval]
  · exact ⟨fun _ => pyInt0_neg_lit hl, fun hr => by rw [hr] at hren; cases hren⟩
  · exact ⟨fun hr => pyInt0_pos_lit hl (hs hr) hsg, pyInt0_none_of_not_rendered⟩

/-- above 2^64−1 no C++ type holds the digits -/
example : loneValue "18446744073709551616".toList = some 18446744073709551616 ∧
    cppRead (toLiteral "18446744073709551616".toList) = none := by decide +kernel
/-- below −2^63 the decimal digits fit no signed type -/
example : loneValue "-9223372036854775809".toList = some (-9223372036854775809) ∧
    cppRead (toLiteral "-9223372036854775809".toList) = none := by decide +kernel
/-- remark (not a lone literal for `loneValue`: leading zero, D63): when `int()` refuses the bare text, the BARE text
is pasted, not the original; C++ reads an octal literal -/
example : toLiteral "-(012)".toList = "-012".toList ∧ cppRead "-012".toList = some (-10) := by decide +kernel

#print axioms C14_hex_minus_is_positive
#print axioms C14_rendered_exact
#print axioms C14_min_long_ill_formed
#print axioms C14_lone_literal_rendered
#print axioms C14_lone_literal_pasted_nonneg

end Prophy.C14
