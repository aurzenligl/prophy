/-
  C20 (links) - prophyc output is a deterministic function of its inputs, also when files are reached
  through symbolic links: results are cached by the identity of the file (device and inode), and the `_same_includes` check on every cache
  hit makes that sound.  Model: `ProphyModel/FilesL.lean`; proofs: `Lemmas/FilesLinks*.lean`.
-/
import ProphyModel.FilesL
import ProphyModel.Files
import ProphyModel.Lemmas.FilesLinks
import ProphyModel.Lemmas.FilesLinksPlain
import ProphyModel.Lemmas.FilesLinksExec
namespace Prophy.C20L
open Prophy Prophy.FilesL

deriving instance DecidableEq for Except

/-- Cache transparency.  In a run that succeeds every input gets exactly what a fresh processor gives it when it
    is compiled alone (`eval`: no cache at all, every include walked again in the context of the path that reaches it) -
    whatever was cached before it and through whatever paths. -/
theorem C20_links_cache_transparent (fs : FS) (incs : List String) (ms : List Path) (rs : List (Path × Result))
    (h : processMains fs incs ms {} = .ok rs) :
    ∀ m res, (m, res) ∈ rs → ∃ n, eval fs incs n [] m = .ok (res.exports, res.visible, res.shape) :=
  cache_transparent_l fs incs ms rs h

/-- Order independence.  Any two successful runs agree on every input they share (no permutation hypothesis). -/
theorem C20_links_order_independent (fs : FS) (incs : List String) (ms ms' : List Path) (rs rs' : List (Path × Result))
    (h : processMains fs incs ms {} = .ok rs) (h' : processMains fs incs ms' {} = .ok rs') :
    ∀ m r r', (m, r) ∈ rs → (m, r') ∈ rs' → r.exports = r'.exports ∧ r.visible = r'.visible ∧ r.shape = r'.shape :=
  order_independent_l fs incs ms ms' rs rs' h h'

/-- the special case "alone": an input of a successful run gets what it gets when it is the only input -/
theorem C20_links_as_alone (fs : FS) (incs : List String) (ms : List Path) (rs : List (Path × Result))
    (m : Path) (r0 : Result)
    (h : processMains fs incs ms {} = .ok rs) (h0 : processMains fs incs [m] {} = .ok [(m, r0)]) :
    ∀ r, (m, r) ∈ rs → r.exports = r0.exports ∧ r.visible = r0.visible ∧ r.shape = r0.shape :=
  fun r hr => order_independent_l fs incs ms [m] rs [(m, r0)] h h0 m r r0 hr (List.mem_cons_self ..)

/-- the invariant behind cache transparency, for any starting state (not only the empty one): see `Inv_l` in `Lemmas/FilesLinks.lean` -/
theorem C20_links_cache_transparent_from (fs : FS) (incs : List String) (ms : List Path) (st : State)
    (rs : List (Path × Result)) (hI : Inv_l fs incs st.cache st.includesOf st.verified)
    (h : processMains fs incs ms st = .ok rs) :
    ∀ m res, (m, res) ∈ rs → ∃ n, eval fs incs n [] m = .ok (res.exports, res.visible, res.shape) :=
  processMains_transparent fs incs ms st rs hI h

abbrev ofFiles (fs : List Files.File) : FS := FilesL.ofFiles fs
/-- `FilesL.Path` and `Files.FileId` are both (directory, leaf) -/
abbrev toId (p : Path) : Files.FileId := toId_l p
/-- a result of the model with links as a result of the model without links (the include tree is dropped) -/
abbrev toRes (r : Result) : Files.Result := toRes_l r

example (p : Path) : toId p = ⟨p.dir, p.leaf⟩ := rfl
example (r : Result) : toRes r = ⟨r.exports, r.visible, r.parsed.map toId⟩ := rfl
example (fs : List Files.File) :
    (ofFiles fs).entries = fs.map (fun f => ⟨⟨f.id.dir, f.id.leaf⟩, ⟨f.id.dir, f.id.leaf⟩, ⟨f.id.dir, f.id.leaf⟩⟩) ∧
    (ofFiles fs).files = fs.map (fun f => ⟨⟨f.id.dir, f.id.leaf⟩, f.includes, f.defines⟩) := ⟨rfl, rfl⟩

abbrev filesMainsN (fs : List Files.File) (n : Nat) (incs : List String) :=
  filesMainsN_l fs n incs

theorem filesMainsN_eq (fs : List Files.File) (incs : List String) (ms : List Files.FileId) (c : Files.Cache) :
    filesMainsN fs (4 * fs.length + 4) incs ms c = Files.processMains fs incs ms c :=
  filesMainsN_eq_l fs incs ms c

/- With the fuel `4 * fs.length + 4` that `Files.processMains` fixes, the refinement
     `processMains (ofFiles fs) incs ms {} = .ok rs → Files.processMains fs incs (ms.map toId) [] = .ok (rs.map ..)`
   is false.  The model with links starts with `5 * #entries + 5`; walking along an include list costs one unit per
   include in both models, so a file system with few levels and long include lists (or with files that are never
   included: they only add fuel) is within the one fuel and beyond the other, and the model without links reports a
   bogus `cyclic`.  The real code has no fuel. -/

/-- `m` includes the leaf `a` nineteen times, two more files are never used
    (fuel `5 * 4 + 5 = 25` against `4 * 4 + 4 = 20`) -/
def fsNineteen : List Files.File :=
  [⟨⟨"d", "m"⟩, List.replicate 19 "a", ["M"]⟩, ⟨⟨"d", "a"⟩, [], ["A"]⟩, ⟨⟨"d", "u1"⟩, [], []⟩, ⟨⟨"d", "u2"⟩, [], []⟩]

example :
    (match processMains (ofFiles fsNineteen) [] [⟨"d", "m"⟩] {} with | .ok _ => true | .error _ => false) = true ∧
    (match Files.processMains fsNineteen [] [toId ⟨"d", "m"⟩] [] with
      | .error e => e == .cyclic ⟨"d", "a"⟩ | .ok _ => false) = true := by
  -- the run is rewritten into its structurally recursive copy (`Lemmas/FilesLinksExec.lean`) and evaluated by the kernel (no
  -- axiom; plain `decide`'s evaluator does not get through the nested recursion of `sameIncludes` in reasonable time)
  rw [processMainsS_eq_l]
  decide +kernel

/-- a witness where no leaf is included twice by one file and every file is used: a chain `c0 → ... → c5`, each of which
    first includes the nine files `x0 .. x8` (15 files: fuel 80 against 64) -/
def fsChain : List Files.File :=
  let xs := ["x0", "x1", "x2", "x3", "x4", "x5", "x6", "x7", "x8"]
  [⟨⟨"d", "c0"⟩, xs ++ ["c1"], []⟩, ⟨⟨"d", "c1"⟩, xs ++ ["c2"], []⟩, ⟨⟨"d", "c2"⟩, xs ++ ["c3"], []⟩,
   ⟨⟨"d", "c3"⟩, xs ++ ["c4"], []⟩, ⟨⟨"d", "c4"⟩, xs ++ ["c5"], []⟩, ⟨⟨"d", "c5"⟩, xs, []⟩] ++
  xs.map (fun x => ⟨⟨"d", x⟩, [], []⟩)

example :
    (match processMains (ofFiles fsChain) [] [⟨"d", "c0"⟩] {} with | .ok _ => true | .error _ => false) = true ∧
    (match Files.processMains fsChain [] [toId ⟨"d", "c0"⟩] [] with
      | .error e => e == .cyclic ⟨"d", "x7"⟩ | .ok _ => false) = true := by
  rw [processMainsS_eq_l]
  decide +kernel

/-- Refinement with the fuel explicit.  A successful run of the model with
    links over a file system without links is a successful run of the model without links on the same inputs - given the same
    fuel `5 * fs.length + 5`, or any larger one - with, input by input, the same `exports`, `visible` and `parsed`.
    No hypothesis on `fs` is needed (duplicate ids: both models read the first entry). -/
theorem C20_links_refines_files_fuel (fs : List Files.File) (incs : List String) (ms : List Path)
    (rs : List (Path × Result)) (h : processMains (ofFiles fs) incs ms {} = .ok rs) :
    ∀ n, 5 * fs.length + 5 ≤ n →
      filesMainsN fs n incs (ms.map toId) [] = .ok (rs.map fun mr => (toId mr.1, toRes mr.2)) :=
  fun _ hn => Files.filesMainsN_mono fs incs hn _ _ _ (processMains_refines_l fs incs ms {} rs h)

/-- Refinement with the fuel of `Files.processMains`.  Hypothesis `hF`: the model without links does not run out
    of its own, smaller fuel (`Files.processMains` succeeds at all).  Then it returns exactly the results of the model
    with links. -/
theorem C20_links_refines_files (fs : List Files.File) (incs : List String) (ms : List Path)
    (rs : List (Path × Result)) (h : processMains (ofFiles fs) incs ms {} = .ok rs)
    (hF : ∃ rs', Files.processMains fs incs (ms.map toId) [] = .ok rs') :
    Files.processMains fs incs (ms.map toId) [] = .ok (rs.map fun mr => (toId mr.1, toRes mr.2)) := by
  obtain ⟨rs', h'⟩ := hF
  rw [h', processMains_refines_agree_l fs incs ms {} rs rs' h h']

/-- so the theorems of `Properties/C16.lean` keep their meaning; for instance: no file is parsed twice -/
theorem C20_links_parsed_once (fs : List Files.File) (incs : List String) (ms : List Path)
    (rs : List (Path × Result)) (h : processMains (ofFiles fs) incs ms {} = .ok rs) :
    (rs.flatMap (·.2.parsed)).Nodup := by
  obtain ⟨_, h1⟩ := Files.filesMainsN_parsedInv fs _ incs _ _ _ (processMains_refines_l fs incs ms {} rs h)
  have h2 : (rs.map fun mr => (toId mr.1, toRes mr.2)).flatMap (·.2.parsed) =
      (rs.flatMap (·.2.parsed)).map toId := by
    rw [List.flatMap_map, List.map_flatMap]; rfl
  have h1 := h1.nodup
  rw [h2] at h1
  exact List.Pairwise.of_map toId (fun _ _ hab e => hab (congrArg toId e)) h1

/-- without links `processNamed` never refuses: every path is its own real path, so a real path is only ever used under
    its own leaf (`NameInv_l`: every registered name is the leaf of the real path), and `processNamed` goes on to
    `processKnown` in a state that satisfies the invariant again -/
theorem C20_links_processNamed_trivial (fs : List Files.File) (incs : List String) (n : Nat) (st : State) (p r : Path)
    (hI : NameInv_l st) (hr : real (ofFiles fs) p = some r) :
    ∃ st0, NameInv_l st0 ∧ st0.cache = st.cache ∧ st0.includesOf = st.includesOf ∧ st0.verified = st.verified ∧
      st0.names = st.names ∧
      processNamed (ofFiles fs) incs (n + 1) st p r = processKnown (ofFiles fs) incs n st0 p r :=
  processNamed_ofFiles fs incs n st p r hI hr

/-- ... and so no run over a file system without links ends with `TwoNamesError` (the invariant holds initially and in
    every state of the run, also of a run that fails: `run_noTwoNames`) -/
theorem C20_links_no_twoNames (fs : List Files.File) (incs : List String) (ms : List Path) (q : Path) :
    processMains (ofFiles fs) incs ms {} ≠ .error (.twoNames q) :=
  processMains_noTwoNames_l fs incs ms {} NameInv_init q

/-- without links `sameIncludes` always succeeds and changes nothing: a finished file that is reached again was verified
    for the very same (real path, directories) pair when it was parsed (`VerInv_l`, an invariant of every run over
    `ofFiles fs`: `VerInv_init`, `run_verInv`) -/
theorem C20_links_sameIncludes_trivial (fs : List Files.File) (incs : List String) (n : Nat) (st : State) (r p : Path)
    (res : Result) (hI : VerInv_l st) (hr : real (ofFiles fs) p = some r) (hl : st.cache.lookup r = some (some res)) :
    sameIncludes (ofFiles fs) incs (n + 1) st r p = .ok st :=
  sameIncludes_ofFiles_l fs incs n st r p res hI hr hl

theorem C20_links_sameIncludes_trivial_inv (fs : List Files.File) (incs : List String) :
    VerInv_l {} ∧ ∀ n st p res st', processFile (ofFiles fs) incs n st p = .ok (res, st') → VerInv_l st → VerInv_l st' :=
  ⟨VerInv_init, fun n st p res st' h hV => (run_verInv fs incs n st p res st' h hV).1⟩

/-- The converse ("the model without links succeeds ⇒ the model with links succeeds, or fails with `sameName`/`tooDeep`
    only") is false too, again only because of fuel: the model with links spends three units per level
    (`processFile` → `processNamed` → `processKnown`), the other one.  Ten includes of one leaf (fuel 15 against 12): the
    model without links succeeds, the model with links runs out of fuel (reported as `cyclic`).
    So neither fuel dominates the other: `fsNineteen` / `fsChain` above, `fsTen` here. -/
def fsTen : List Files.File := [⟨⟨"d", "m"⟩, List.replicate 10 "a", ["M"]⟩, ⟨⟨"d", "a"⟩, [], ["A"]⟩]

example :
    (match Files.processMains fsTen [] [⟨"d", "m"⟩] [] with | .ok _ => true | .error _ => false) = true ∧
    processMains (ofFiles fsTen) [] [⟨"d", "m"⟩] {} = .error (.cyclic ⟨"d", "a"⟩) := by
  rw [processMainsS_eq_l]
  decide +kernel

/-- two inputs `p/a` and `q/b` include `t`, which is in both directories a link to `real/t`; `real/t` includes `u`, found
    next to the real file from both sides -/
def fsShared : FS :=
  ⟨[⟨⟨"p", "a"⟩, ⟨"p", "a"⟩, ⟨"p", "a"⟩⟩, ⟨⟨"q", "b"⟩, ⟨"q", "b"⟩, ⟨"q", "b"⟩⟩, ⟨⟨"real", "t"⟩, ⟨"real", "t"⟩, ⟨"real", "t"⟩⟩, ⟨⟨"real", "u"⟩, ⟨"real", "u"⟩, ⟨"real", "u"⟩⟩,
    ⟨⟨"p", "t"⟩, ⟨"real", "t"⟩, ⟨"real", "t"⟩⟩, ⟨⟨"q", "t"⟩, ⟨"real", "t"⟩, ⟨"real", "t"⟩⟩],
   [⟨⟨"p", "a"⟩, ["t"], ["A"]⟩, ⟨⟨"q", "b"⟩, ["t"], ["B"]⟩, ⟨⟨"real", "t"⟩, ["u"], ["T"]⟩, ⟨⟨"real", "u"⟩, [], ["U"]⟩]⟩

/-- with links present, one real file reached through two paths (`p/t`, `q/t`), the run succeeds: the hypotheses of
    cache transparency and order independence are satisfiable; the second input finds `real/t` in the cache (nothing parsed for it again) -/
example : processMains fsShared [] [⟨"p", "a"⟩, ⟨"q", "b"⟩] {} = .ok
    [(⟨"p", "a"⟩, ⟨["A"], ["T", "A"], [⟨"p", "a"⟩, ⟨"real", "t"⟩, ⟨"real", "u"⟩],
        [(0, ⟨"p", "a"⟩), (1, ⟨"real", "t"⟩), (2, ⟨"real", "u"⟩)]⟩),
     (⟨"q", "b"⟩, ⟨["B"], ["T", "B"], [⟨"q", "b"⟩],
        [(0, ⟨"q", "b"⟩), (1, ⟨"real", "t"⟩), (2, ⟨"real", "u"⟩)]⟩)] := by
  rw [processMainsS_eq_l]
  decide +kernel

/-- the same in the other order -/
example : (match processMains fsShared [] [⟨"q", "b"⟩, ⟨"p", "a"⟩] {} with
    | .ok [(_, rb), (_, ra)] => rb.shape == [(0, ⟨"q", "b"⟩), (1, ⟨"real", "t"⟩), (2, ⟨"real", "u"⟩)] &&
        ra.shape == [(0, ⟨"p", "a"⟩), (1, ⟨"real", "t"⟩), (2, ⟨"real", "u"⟩)] && ra.parsed == [⟨"p", "a"⟩]
    | _ => false) = true := by
  rw [processMainsS_eq_l]
  decide +kernel

/-- the two-level situation that a comparison of the direct includes misses.
    `real/y` includes `t`; `dirA/t` includes `x`.  `p/a` includes `y` and finds the link `p/y -> real/y`; from there `t` is
    `p/t -> dirA/t` and, from `p/t`, `x` is `p/x`.  `real/b` includes `y` and finds `real/y` itself; from there `t` is
    `inc2/t -> dirA/t` (the SAME real file: the direct includes of `real/y` agree) but, from `inc2/t`, `x` is `inc/x`. -/
def fsTwoLevel : FS :=
  ⟨[⟨⟨"p", "a"⟩, ⟨"p", "a"⟩, ⟨"p", "a"⟩⟩, ⟨⟨"real", "b"⟩, ⟨"real", "b"⟩, ⟨"real", "b"⟩⟩, ⟨⟨"dirA", "t"⟩, ⟨"dirA", "t"⟩, ⟨"dirA", "t"⟩⟩,
    ⟨⟨"real", "y"⟩, ⟨"real", "y"⟩, ⟨"real", "y"⟩⟩, ⟨⟨"p", "y"⟩, ⟨"real", "y"⟩, ⟨"real", "y"⟩⟩, ⟨⟨"p", "t"⟩, ⟨"dirA", "t"⟩, ⟨"dirA", "t"⟩⟩,
    ⟨⟨"inc2", "t"⟩, ⟨"dirA", "t"⟩, ⟨"dirA", "t"⟩⟩, ⟨⟨"p", "x"⟩, ⟨"p", "x"⟩, ⟨"p", "x"⟩⟩, ⟨⟨"inc", "x"⟩, ⟨"inc", "x"⟩, ⟨"inc", "x"⟩⟩],
   [⟨⟨"p", "a"⟩, ["y"], ["A"]⟩, ⟨⟨"real", "b"⟩, ["y"], ["B"]⟩, ⟨⟨"dirA", "t"⟩, ["x"], ["T"]⟩,
    ⟨⟨"real", "y"⟩, ["t"], ["Y"]⟩, ⟨⟨"p", "x"⟩, [], ["XP"]⟩, ⟨⟨"inc", "x"⟩, [], ["XI"]⟩]⟩

/-- each input alone compiles, and `y` means something different in the two: two levels down, `x` is another file -/
example :
    processMains fsTwoLevel ["inc2", "inc"] [⟨"p", "a"⟩] {} = .ok
      [(⟨"p", "a"⟩, ⟨["A"], ["Y", "A"], [⟨"p", "a"⟩, ⟨"real", "y"⟩, ⟨"dirA", "t"⟩, ⟨"p", "x"⟩],
        [(0, ⟨"p", "a"⟩), (1, ⟨"real", "y"⟩), (2, ⟨"dirA", "t"⟩), (3, ⟨"p", "x"⟩)]⟩)] ∧
    processMains fsTwoLevel ["inc2", "inc"] [⟨"real", "b"⟩] {} = .ok
      [(⟨"real", "b"⟩, ⟨["B"], ["Y", "B"], [⟨"real", "b"⟩, ⟨"real", "y"⟩, ⟨"dirA", "t"⟩, ⟨"inc", "x"⟩],
        [(0, ⟨"real", "b"⟩), (1, ⟨"real", "y"⟩), (2, ⟨"dirA", "t"⟩), (3, ⟨"inc", "x"⟩)]⟩)] := by
  rw [processMainsS_eq_l, processMainsS_eq_l]
  decide +kernel

/-- together, in either order, the run is refused: the cached `real/y` would be wrong for the second input, and it is
    `sameIncludes`' recursion into `dirA/t` (reached as `inc2/t`, resp. `p/t`, instead of the path used when it was
    parsed) that finds it out - the direct includes of `real/y` resolve to the same real file from both sides -/
example :
    processMains fsTwoLevel ["inc2", "inc"] [⟨"p", "a"⟩, ⟨"real", "b"⟩] {} = .error (.ambiguous ⟨"inc2", "t"⟩ "x") ∧
    processMains fsTwoLevel ["inc2", "inc"] [⟨"real", "b"⟩, ⟨"p", "a"⟩] {} = .error (.ambiguous ⟨"p", "t"⟩ "x") := by
  rw [processMainsS_eq_l, processMainsS_eq_l]
  decide +kernel

/-- the direct includes of `real/y` do resolve to the same real file from both paths (what a one-level check compares) -/
example :
    (find fsTwoLevel "t" (searchDirs fsTwoLevel ["inc2", "inc"] ⟨"p", "y"⟩)).bind (ident fsTwoLevel) = some ⟨"dirA", "t"⟩ ∧
    (find fsTwoLevel "t" (searchDirs fsTwoLevel ["inc2", "inc"] ⟨"real", "y"⟩)).bind (ident fsTwoLevel) = some ⟨"dirA", "t"⟩ := by
  decide

/-- the order-free meaning of the two paths to `real/y` (`eval`, no cache): same real file, same direct include, another
    include tree - which is why the cached result of one path may not be used for the other -/
example :
    eval fsTwoLevel ["inc2", "inc"] 4 [] ⟨"p", "y"⟩ =
      .ok (["Y"], ["T", "Y"], [(0, ⟨"real", "y"⟩), (1, ⟨"dirA", "t"⟩), (2, ⟨"p", "x"⟩)]) ∧
    eval fsTwoLevel ["inc2", "inc"] 4 [] ⟨"real", "y"⟩ =
      .ok (["Y"], ["T", "Y"], [(0, ⟨"real", "y"⟩), (1, ⟨"dirA", "t"⟩), (2, ⟨"inc", "x"⟩)]) := by
  rw [evalS_eq_l, evalS_eq_l]
  decide +kernel

/-- cache transparency on the first example: what the run gave the second input (which found `real/t` in the cache) is what `eval` gives -/
example : eval fsShared [] 4 [] ⟨"q", "b"⟩ =
    .ok (["B"], ["T", "B"], [(0, ⟨"q", "b"⟩), (1, ⟨"real", "t"⟩), (2, ⟨"real", "u"⟩)]) := by
  rw [evalS_eq_l]
  decide +kernel

/-- `export/ids` is a HARD link to `src/ids`: its real path is itself (`target`), the file it denotes is `src/ids`
    (`ident`, where the content is filed); `pub/ids` is a symbolic link to the hard link -/
def fsHard : FS :=
  ⟨[⟨⟨"src", "a"⟩, ⟨"src", "a"⟩, ⟨"src", "a"⟩⟩, ⟨⟨"export", "b"⟩, ⟨"export", "b"⟩, ⟨"export", "b"⟩⟩,
    ⟨⟨"pub", "c"⟩, ⟨"pub", "c"⟩, ⟨"pub", "c"⟩⟩,
    ⟨⟨"src", "ids"⟩, ⟨"src", "ids"⟩, ⟨"src", "ids"⟩⟩,
    ⟨⟨"export", "ids"⟩, ⟨"export", "ids"⟩, ⟨"src", "ids"⟩⟩,
    ⟨⟨"pub", "ids"⟩, ⟨"export", "ids"⟩, ⟨"src", "ids"⟩⟩],
   [⟨⟨"src", "a"⟩, ["ids"], ["A"]⟩, ⟨⟨"export", "b"⟩, ["ids"], ["B"]⟩, ⟨⟨"pub", "c"⟩, ["ids"], ["C"]⟩,
    ⟨⟨"src", "ids"⟩, [], ["I"]⟩]⟩

/-- (1) `src/a` includes `src/ids`, `export/b` includes the hard link `export/ids`: one file - the run succeeds, both see the
    same exports `["I"]` and the same include tree below them, and `ids` is parsed once (for the first input only) -/
example : processMains fsHard [] [⟨"src", "a"⟩, ⟨"export", "b"⟩] {} = .ok
    [(⟨"src", "a"⟩, ⟨["A"], ["I", "A"], [⟨"src", "a"⟩, ⟨"src", "ids"⟩], [(0, ⟨"src", "a"⟩), (1, ⟨"src", "ids"⟩)]⟩),
     (⟨"export", "b"⟩, ⟨["B"], ["I", "B"], [⟨"export", "b"⟩], [(0, ⟨"export", "b"⟩), (1, ⟨"src", "ids"⟩)]⟩)] := by
  rw [processMainsS_eq_l]
  decide +kernel

/-- the other order: now `ids` is parsed for `export/b` (reached as the hard link), and filed under the same identity -/
example : processMains fsHard [] [⟨"export", "b"⟩, ⟨"src", "a"⟩] {} = .ok
    [(⟨"export", "b"⟩, ⟨["B"], ["I", "B"], [⟨"export", "b"⟩, ⟨"src", "ids"⟩],
        [(0, ⟨"export", "b"⟩), (1, ⟨"src", "ids"⟩)]⟩),
     (⟨"src", "a"⟩, ⟨["A"], ["I", "A"], [⟨"src", "a"⟩], [(0, ⟨"src", "a"⟩), (1, ⟨"src", "ids"⟩)]⟩)] := by
  rw [processMainsS_eq_l]
  decide +kernel

/-- (2) the same through a symbolic link to the hard link (`pub/ids -> export/ids`), all three inputs in one run -/
example : processMains fsHard [] [⟨"src", "a"⟩, ⟨"pub", "c"⟩, ⟨"export", "b"⟩] {} = .ok
    [(⟨"src", "a"⟩, ⟨["A"], ["I", "A"], [⟨"src", "a"⟩, ⟨"src", "ids"⟩], [(0, ⟨"src", "a"⟩), (1, ⟨"src", "ids"⟩)]⟩),
     (⟨"pub", "c"⟩, ⟨["C"], ["I", "C"], [⟨"pub", "c"⟩], [(0, ⟨"pub", "c"⟩), (1, ⟨"src", "ids"⟩)]⟩),
     (⟨"export", "b"⟩, ⟨["B"], ["I", "B"], [⟨"export", "b"⟩], [(0, ⟨"export", "b"⟩), (1, ⟨"src", "ids"⟩)]⟩)] := by
  rw [processMainsS_eq_l]
  decide +kernel

/-- cache transparency on it: `eval` of the input that reaches the file through the symbolic link to the hard link -/
example : eval fsHard [] 3 [] ⟨"pub", "c"⟩ = .ok (["C"], ["I", "C"], [(0, ⟨"pub", "c"⟩), (1, ⟨"src", "ids"⟩)]) := by
  rw [evalS_eq_l]
  decide +kernel

/-- a hard link is one file but another PLACE: when `ids` includes `base`, which exists next to `src/ids` only, the
    include cannot be found from `export/ids` (the real path of a hard link is itself: searched in `export` only), and the
    cached result is refused for it -/
example : processMains
    ⟨⟨⟨"src", "base"⟩, ⟨"src", "base"⟩, ⟨"src", "base"⟩⟩ :: fsHard.entries,
     [⟨⟨"src", "a"⟩, ["ids"], ["A"]⟩, ⟨⟨"export", "b"⟩, ["ids"], ["B"]⟩, ⟨⟨"src", "ids"⟩, ["base"], ["I"]⟩,
      ⟨⟨"src", "base"⟩, [], ["K"]⟩]⟩ [] [⟨"src", "a"⟩, ⟨"export", "b"⟩] {} =
    .error (.ambiguous ⟨"export", "ids"⟩ "base") := by
  rw [processMainsS_eq_l]
  decide +kernel

/-- one real file under two base names: `types` is an alias link to `types_v2`, and `main` includes both -/
def fsAlias : FS :=
  ⟨[⟨⟨"d", "main"⟩, ⟨"d", "main"⟩, ⟨"d", "main"⟩⟩, ⟨⟨"d", "types_v2"⟩, ⟨"d", "types_v2"⟩, ⟨"d", "types_v2"⟩⟩, ⟨⟨"d", "types"⟩, ⟨"d", "types_v2"⟩, ⟨"d", "types_v2"⟩⟩],
   [⟨⟨"d", "main"⟩, ["types", "types_v2"], ["M"]⟩, ⟨⟨"d", "types_v2"⟩, [], ["T"]⟩]⟩

/-- refused (`TwoNamesError`), in either order of the two includes; with one of the names only it compiles -/
example :
    processMains fsAlias [] [⟨"d", "main"⟩] {} = .error (.twoNames ⟨"d", "types_v2"⟩) ∧
    processMains ⟨fsAlias.entries, [⟨⟨"d", "main"⟩, ["types_v2", "types"], ["M"]⟩, ⟨⟨"d", "types_v2"⟩, [], ["T"]⟩]⟩ []
      [⟨"d", "main"⟩] {} = .error (.twoNames ⟨"d", "types"⟩) ∧
    processMains ⟨fsAlias.entries, [⟨⟨"d", "main"⟩, ["types", "types"], ["M"]⟩, ⟨⟨"d", "types_v2"⟩, [], ["T"]⟩]⟩ []
      [⟨"d", "main"⟩] {} = .ok [(⟨"d", "main"⟩, ⟨["M"], ["T", "T", "M"], [⟨"d", "main"⟩, ⟨"d", "types_v2"⟩],
        [(0, ⟨"d", "main"⟩), (1, ⟨"d", "types_v2"⟩), (1, ⟨"d", "types_v2"⟩)]⟩)] := by
  rw [processMainsS_eq_l, processMainsS_eq_l, processMainsS_eq_l]
  decide +kernel

/-- the same across two inputs: the second one uses the other name -/
example :
    processMains ⟨⟨⟨"d", "other"⟩, ⟨"d", "other"⟩, ⟨"d", "other"⟩⟩ :: fsAlias.entries,
        [⟨⟨"d", "main"⟩, ["types"], ["M"]⟩, ⟨⟨"d", "other"⟩, ["types_v2"], ["O"]⟩, ⟨⟨"d", "types_v2"⟩, [], ["T"]⟩]⟩ []
      [⟨"d", "main"⟩, ⟨"d", "other"⟩] {} = .error (.twoNames ⟨"d", "types_v2"⟩) := by
  rw [processMainsS_eq_l]
  decide +kernel

/-- the refinement is not vacuous: the diamond of `Properties/C16.lean` runs in the model with links -/
example : (match processMains (ofFiles [
      ⟨⟨"/p", "main"⟩, ["a", "b"], ["M"]⟩, ⟨⟨"/p/i1", "a"⟩, ["base"], ["A"]⟩,
      ⟨⟨"/p/i2", "b"⟩, ["base"], ["B"]⟩, ⟨⟨"/p/i2", "base"⟩, [], ["K"]⟩]) ["/p/i1", "/p/i2"] [⟨"/p", "main"⟩] {} with
    | .ok [(_, r)] => r.visible == ["A", "B", "M"] && r.parsed.map (·.leaf) == ["main", "a", "base", "b"]
    | _ => false) = true := by
  rw [processMainsS_eq_l]
  decide +kernel

end Prophy.C20L

#print axioms Prophy.C20L.C20_links_cache_transparent
#print axioms Prophy.C20L.C20_links_order_independent
#print axioms Prophy.C20L.C20_links_as_alone
#print axioms Prophy.C20L.C20_links_refines_files
#print axioms Prophy.C20L.C20_links_refines_files_fuel
#print axioms Prophy.C20L.C20_links_processNamed_trivial
#print axioms Prophy.C20L.C20_links_no_twoNames
#print axioms Prophy.C20L.C20_links_parsed_once
#print axioms Prophy.C20L.C20_links_sameIncludes_trivial
#print axioms Prophy.C20L.C20_links_sameIncludes_trivial_inv
