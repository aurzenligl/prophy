/-
  C14, character level: the two lexers of constant expressions (`octal = true`: the prophy-language lexer,
  `octal = false`: prophyc/calc.py) on the TEXT.  The token-level theorems (Properties/C14.lean,
  Properties/C14Host.lean) start from token lists; these start from characters.
-/
import ProphyModel.Lemmas.ExprLexPrint
namespace Prophy.C14
open Prophy Prophy.Expr

/-! ### the two lexers agree away from leading-zero literals

`hasLeadingZero cs` is defined on the text alone (`ExprHosts.lean`, `hlz`): the regular expression
`(?<![A-Za-z0-9_])0[0-9]` matches somewhere.  No further hypothesis is needed: `0x..` never
triggers it wrongly because the hex run swallows every decimal digit, identifiers swallow their digits, and a
decimal run swallows its zeros, so a `'0'` at a token start is never preceded by an identifier character. -/

example : hasLeadingZero "010".toList = true := by decide +kernel
example : hasLeadingZero "1 + 08".toList = true := by decide +kernel
example : hasLeadingZero "100 + a00 + 0x00 + 0 + x_01".toList = false := by decide +kernel

theorem C14_lexers_agree (cs : List Char) (n : Nat) (h : hasLeadingZero cs = false) :
    lex true n cs = lex false n cs :=
  lex_agree n cs h

theorem C14_tokenize_agree (s : String) (h : hasLeadingZero s.toList = false) :
    tokenize true s = tokenize false s :=
  lex_agree _ _ h

/-- the exact relation of the two outcomes on a text without leading-zero literal: the prophy-language
    evaluator refuses `|`, otherwise both give the same outcome -/
theorem C14_evalText_relation (env : String → Option Int) (s : String) (h : hasLeadingZero s.toList = false) :
    evalText true env s =
      match tokenize false s with
      | none => .syntaxError
      | some t => if t.contains .bar then .syntaxError else evalText false env s := by
  unfold evalText
  rw [C14_tokenize_agree s h]
  cases tokenize false s with
  | none => rfl
  | some t =>
    simp

theorem C14_evalText_agree (env : String → Option Int) (s : String) (h : hasLeadingZero s.toList = false)
    (hb : ∀ t, tokenize false s = some t → ¬ t.contains .bar) :
    evalText true env s = evalText false env s := by
  rw [C14_evalText_relation env s h]
  cases ht : tokenize false s with
  | none => simp [evalText, ht]
  | some t =>
    show (if t.contains Tok.bar = true then _ else _) = _
    rw [if_neg (hb t ht)]

/-- a `|` token comes from a `|` character -/
theorem C14_bar_token_from_bar_char (octal : Bool) (s : String) (t : List Tok) (h : tokenize octal s = some t)
    (hb : '|' ∉ s.toList) : ¬ t.contains .bar := by
  have := lex_no_bar octal _ _ t h hb
  simpa using this

/-- on a text without `|` and without leading-zero literal the parse-time evaluator and calc agree -/
theorem C14_evalText_agree_text (env : String → Option Int) (s : String)
    (h : hasLeadingZero s.toList = false) (hb : '|' ∉ s.toList) :
    evalText true env s = evalText false env s :=
  C14_evalText_agree env s h (fun t ht => C14_bar_token_from_bar_char false s t ht hb)

example : tokenize true "010" = some [.num 8] := by decide +kernel
example : tokenize false "010" = some [.num 10] := by decide +kernel
example : tokenize true "08" = none := by decide +kernel
example : tokenize false "08" = some [.num 8] := by decide +kernel
example : tokenize true "0" = some [.num 0] ∧ tokenize false "0" = some [.num 0] := by decide +kernel
example : tokenize true "0x10" = some [.num 16] ∧ tokenize false "0x10" = some [.num 16] := by decide +kernel

/-- `'0'` followed by one or more decimal digits, standing alone: base 8 (an error when a digit 8 or 9
    occurs) for the prophy-language lexer, base 10 for calc -/
theorem C14_leading_zero_literal (ds : List Char) (hne : ds ≠ []) (hd : ∀ d ∈ ds, d.isDigit = true) (n : Nat) :
    lex true (n + 2) ('0' :: ds) =
      (if ('0' :: ds).all (fun d => decide ('0' ≤ d ∧ d ≤ '7')) then some [Tok.num (digitsVal 8 ('0' :: ds))]
       else none) ∧
    lex false (n + 2) ('0' :: ds) = some [Tok.num (digitsVal 10 ('0' :: ds))] :=
  lex_leading_zero ds hne hd n

/-- `Char.isDigit`, `Char.isAlpha`, `Char.isAlphanum` of core Lean are ASCII predicates, so are the
    identifier and hex-digit classes of the lexer -/
theorem C14_classes_ascii (c : Char) :
    (c.isDigit = true → c.val < 128) ∧ (isIdChar c = true → c.val < 128) ∧
    ((hexVal? c).isSome = true → c.val < 128) :=
  ⟨fun h => isIdChar_ascii c (isDigit_isIdChar c h), isIdChar_ascii c, fun h => isIdChar_ascii c (isHexC_isIdChar c h)⟩

theorem C14_lex_ascii (octal : Bool) (s : String) (t : List Tok) (h : tokenize octal s = some t) :
    ∀ c ∈ s.toList, c.val < 128 :=
  lex_induction (P := fun cs _ => ∀ c ∈ cs, c.val < 128) (fun c hc => by cases hc)
    (fun hh _ ih => (lexHead_step hh).ascii ih) h

/-- e.g. an Arabic-Indic digit or a fullwidth digit is a lexical error for both lexers -/
example : tokenize true "١" = none ∧ tokenize false "１" = none := by decide +kernel

theorem C14_lex_fuel (octal : Bool) (n m : Nat) (cs : List Char) (hn : cs.length < n) (hm : cs.length < m) :
    lex octal n cs = lex octal m cs :=
  lex_fuel octal n m cs hn hm

theorem C14_tokenize_fuel (octal : Bool) (s : String) (n : Nat) (hn : s.length < n) :
    tokenize octal s = lex octal n s.toList := by
  unfold tokenize
  apply lex_fuel
  · rw [String.length_toList]; omega
  · rw [String.length_toList]; exact hn

/-- `none` from `tokenize` is a lexical error: no amount of fuel makes the text lexable -/
theorem C14_tokenize_none_is_error (octal : Bool) (s : String) (h : tokenize octal s = none) (n : Nat) :
    lex octal n s.toList = none :=
  lex_none_any_fuel octal (s.length + 1) s.toList (by rw [String.length_toList]; omega) h n

theorem C14_blank_skipped (octal : Bool) (n m : Nat) (c : Char) (cs : List Char) (h : c = ' ' ∨ c = '\t')
    (hn : cs.length + 1 < n) (hm : cs.length < m) : lex octal n (c :: cs) = lex octal m cs := by
  cases n with
  | zero => omega
  | succ n => rw [lex_blank_succ octal n c cs h]; exact lex_fuel octal n m cs (by omega) hm

theorem C14_leading_blank (octal : Bool) (s : String) : tokenize octal (" " ++ s) = tokenize octal s := by
  unfold tokenize
  rw [String.toList_append]
  have e : " ".toList = [' '] := rfl
  rw [e]
  apply C14_blank_skipped octal _ _ ' ' s.toList (Or.inl rfl)
  · rw [String.length_append, String.length_toList]
    have : " ".length = 1 := rfl
    omega
  · rw [String.length_toList]; omega

/-! ### spacing: lexer / printer round trip

`Tok.text` prints a token (numbers in decimal, `Nat.repr`; identifiers as they are; `<<`, `>>`, single
characters); `Tok.valid` says an identifier token holds an identifier `[A-Za-z_][A-Za-z0-9_]*`. -/

example : (" ".intercalate ([Tok.num 10, .shl, .ident "a_1", .plus, .num 0].map Tok.text)) = "10 << a_1 + 0" := by
  decide +kernel

/-- printing tokens with one blank between them and lexing again gives the tokens back (both lexers) -/
theorem C14_lex_print_round_trip (octal : Bool) (ts : List Tok) (hv : ∀ t ∈ ts, t.valid) :
    tokenize octal (" ".intercalate (ts.map Tok.text)) = some ts :=
  tokenize_spaced octal ts hv

/-- the tokens the lexer produces are valid -/
theorem C14_lexed_tokens_valid (octal : Bool) (s : String) (ts : List Tok) (h : tokenize octal s = some ts) :
    ∀ t ∈ ts, t.valid :=
  lex_valid octal _ _ ts h

/-- every lexable text has the same tokens as its normal form (its tokens, numbers in decimal, separated by
    single blanks): putting a blank between any two tokens, or removing the blanks and tabs there and putting
    one blank, never changes the token list - hence (`C14_spacing_irrelevant`) never the outcome -/
theorem C14_spacing_normal_form (octal : Bool) (s : String) (ts : List Tok) (h : tokenize octal s = some ts) :
    tokenize octal (" ".intercalate (ts.map Tok.text)) = some ts :=
  tokenize_spaced octal ts (lex_valid octal _ _ ts h)

theorem C14_spacing_normal_form_outcome (octal : Bool) (env : String → Option Int) (s : String) (ts : List Tok)
    (h : tokenize octal s = some ts) :
    evalText octal env (" ".intercalate (ts.map Tok.text)) = evalText octal env s := by
  unfold evalText
  rw [C14_spacing_normal_form octal s ts h, h]

end Prophy.C14

#print axioms Prophy.C14.C14_lexers_agree
#print axioms Prophy.C14.C14_tokenize_agree
#print axioms Prophy.C14.C14_evalText_relation
#print axioms Prophy.C14.C14_evalText_agree
#print axioms Prophy.C14.C14_bar_token_from_bar_char
#print axioms Prophy.C14.C14_evalText_agree_text
#print axioms Prophy.C14.C14_leading_zero_literal
#print axioms Prophy.C14.C14_classes_ascii
#print axioms Prophy.C14.C14_lex_ascii
#print axioms Prophy.C14.C14_lex_fuel
#print axioms Prophy.C14.C14_tokenize_fuel
#print axioms Prophy.C14.C14_tokenize_none_is_error
#print axioms Prophy.C14.C14_blank_skipped
#print axioms Prophy.C14.C14_leading_blank
#print axioms Prophy.C14.C14_lex_print_round_trip
#print axioms Prophy.C14.C14_lexed_tokens_valid
#print axioms Prophy.C14.C14_spacing_normal_form
#print axioms Prophy.C14.C14_spacing_normal_form_outcome
