/-
  C06 - Python decode is total: any bytes decode or raise ProphyError, nothing else.

  FULL STATEMENT (target):
    theorem C06_only_prophy_error (t : Ty) (bs : Bytes) (e : Endian) : WF t →
      (∃ r, Py.decode t bs e = .ok r) ∨ Py.decode t bs e = .error .prophy
-/
import ProphyModel.Properties.Tables
import ProphyModel.Lemmas.PyDecodeTotal
import ProphyModel.Lemmas.PyDecodeCounts
import ProphyModel.Lemmas.PyDecodeTyped
import ProphyModel.Lemmas.PyRoundTrip
namespace Prophy.C06
open Prophy

/-- the scalar kernel: the length guard of numeric `_decode` (scalar.py:18) makes
    `struct.unpack`'s own `struct.error` unreachable, for every buffer and every
    position, also positions beyond the end -/
theorem C06_scalar_total (e : Endian) (p : Prim) (data : Bytes) (pos : Nat) :
    (∃ r, Py.decScalar e p data pos = .ok r) ∨ Py.decScalar e p data pos = .error .prophy :=
  Py.decScalar_total e p data pos

/-- counters: a decoded counter is never above the guard, whatever the bytes -/
theorem C06_counter_guard (e : Endian) (p : Prim) (shift : Nat) (data : Bytes) (pos : Nat) (c sz : Nat)
    (h : Py.decSizer e p shift data pos = .ok (c, sz)) : c ≤ Py.arrayGuard :=
  (Py.decSizer_spec h).2.1


/-- FULL STATEMENT, first clause: for every schema prophyc accepts and the runtime imports, and
    EVERY byte string, decode returns or raises ProphyError - never struct.error, TypeError or any
    other class, and the `while` loop of greedy composite arrays always ends -/
theorem C06_py_decode_total (t : Ty) (data : Bytes) (e : Endian)
    (hf : Accept.front t = true) (hp : Accept.pyRt t = true) :
    (∃ r, Py.decode t data e = .ok r) ∨ Py.decode t data e = .error .prophy :=
  Py.decode_total t data e hf hp

/-- element counts are bounded: in whatever decode returns, every array or bytes field bound to
    a counter, at any depth, has at most 65536 elements (no schema hypothesis needed) -/
theorem C06_py_counts_bounded (t : Ty) (data : Bytes) (e : Endian) (v : Val) (n : Nat)
    (h : Py.decode t data e = .ok (v, n)) : Py.countsOk t v = true :=
  Py.decode_count_bounded t data e v n h

/-- `Accept.front` is needed: a greedy array of an empty struct (rejected by prophyc, but importable) never ends -/
example : (match Py.decode (.struct "O" [.mk "x" (.struct "E" []) .greedy]) [0] .little with | .error .hang => true | _ => false) = true := by decide +kernel

/-- FULL STATEMENT, second clause: whatever decode returns is a well-typed value whose arrays
    sharing a counter agree in length and respect the counter guard -/
theorem C06_py_decoded_typed (t : Ty) (data : Bytes) (e : Endian) (v : Val) (n : Nat)
    (hf : Accept.front t = true) (hp : Accept.pyRt t = true)
    (h : Py.decode t data e = .ok (v, n)) :
    hasType t v = true ∧ WF.agreeTy t v = true ∧ WF.guardTy t v = true :=
  Py.decode_typed t data e v n hf hp h

/-- the decoded message therefore encodes without error, in both byte orders, to the canonical
    encoding of the decoded value -/
theorem C06_py_decoded_encodes (t : Ty) (data : Bytes) (e : Endian) (v : Val) (n : Nat)
    (hf : Accept.front t = true) (hp : Accept.pyRt t = true)
    (h : Py.decode t data e = .ok (v, n)) :
    ∀ e', Py.encode t v e' = .ok (Spec.enc t v e') :=
  Py.decoded_encodes t data e v n hf hp h

/-- FULL STATEMENT, fixpoint clause: decoding the encoding of whatever decode returned gives the same
    value and consumes it all - whenever the decoded greedy tail ends aligned (`Spec.galTy`; the
    other case is the documented exception of C02 / known finding D21) -/
theorem C06_py_fixpoint (t : Ty) (data : Bytes) (e e' : Endian) (v : Val) (n : Nat)
    (hf : Accept.front t = true) (hp : Accept.pyRt t = true)
    (h : Py.decode t data e = .ok (v, n)) (hg : Spec.galTy t v = true) :
    ∃ b, Py.encode t v e' = .ok b ∧ Py.decode t b e' = .ok (v, b.length) := by
  obtain ⟨h1, h2, h3⟩ := Py.decode_typed t data e v n hf hp h
  exact ⟨Spec.enc t v e', Py.decoded_encodes t data e v n hf hp h e', Py.decode_encode t v e' hf hp h1 h2 hg h3⟩

/-- two arrays on one counter, the second a limited bytes field cut at the end of the input (D50): decode refuses
    the input instead of returning a message that does not encode -/
example : (match Py.decode DecodeTypedCx.T DecodeTypedCx.D_dt .little with | .error .prophy => true | _ => false) = true := by decide +kernel

end Prophy.C06
