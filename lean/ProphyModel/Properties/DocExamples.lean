/-
  The byte examples of docs/encoding.rst, evaluated by the kernel on the Spec AND on the
  model of the Python codec.  These are tests (finite), not the unbounded claim; they tie
  `Spec` to the document: harness/doc_examples.py checks that each hex string below still
  occurs verbatim in /repo/docs/encoding.rst.
-/
import ProphyModel.Spec
import ProphyModel.Py
namespace Prophy.DocExamples
open Prophy

def u8 : Ty := .prim .u8
def u16 : Ty := .prim .u16
def u32 : Ty := .prim .u32
def u64 : Ty := .prim .u64
def plain (n : String) (t : Ty) : Member := .mk n t .plain
def dynArr (n : String) (t : Ty) : List Member := [.mk ("num_of_" ++ n) u32 .plain, .mk n t (.dyn ("num_of_" ++ n) 0)]

def both (t : Ty) (v : Val) (bs : Bytes) : Bool :=
  Spec.enc t v .little == bs && (match Py.encode t v .little with | .ok b => b == bs | _ => false)

-- Fixed array: 01 00 02 00 03 00 04 00
example : both (.struct "X" [.mk "x" u16 (.fixed 4)]) (.struct [.arr [.int 1, .int 2, .int 3, .int 4]])
    [1,0,2,0,3,0,4,0] = true := by decide
-- Dynamic array: 02 00 00 00 01 00 02 00
example : both (.struct "X" (dynArr "x" u16)) (.struct [.sizer, .arr [.int 1, .int 2]])
    [2,0,0,0,1,0,2,0] = true := by decide
-- Limited array: 02 00 00 00 01 00 02 00 00 00 00 00
example : both (.struct "X" [.mk "num_of_x" u32 .plain, .mk "x" u16 (.limited "num_of_x" 4)])
    (.struct [.sizer, .arr [.int 1, .int 2]]) [2,0,0,0,1,0,2,0,0,0,0,0] = true := by decide
-- Greedy array: 01 00 02 00
example : both (.struct "X" [.mk "x" u16 .greedy]) (.struct [.arr [.int 1, .int 2]]) [1,0,2,0] = true := by decide
-- Externally sized array: 02 04 05 00 06 00 07 00
example : both (.struct "X" [.mk "size" u8 .plain, .mk "x" u8 (.dyn "size" 0), .mk "y" u16 (.dyn "size" 0)])
    (.struct [.sizer, .arr [.int 4, .int 5], .arr [.int 6, .int 7]]) [2,4,5,0,6,0,7,0] = true := by decide
-- Optional: 01 00 00 00 01 00 00 00 / 00 00 00 00 00 00 00 00
example : both (.struct "X" [.mk "x" u32 .optional]) (.struct [.present (.int 1)]) [1,0,0,0,1,0,0,0] = true := by decide
example : both (.struct "X" [.mk "x" u32 .optional]) (.struct [.absent]) [0,0,0,0,0,0,0,0] = true := by decide
-- Struct: 01 00 02 00 03 00 00 00
def Nested : Ty := .struct "Nested" [plain "n1" u16, plain "n2" u16]
example : both (.struct "X" [plain "x" Nested, plain "y" u32]) (.struct [.struct [.int 1, .int 2], .int 3])
    [1,0,2,0,3,0,0,0] = true := by decide
-- Union: 00 00 00 00 01 00 00 00 / 01 00 00 00 02 00 03 00
def TwoInts : Ty := .struct "TwoInts" [plain "a1" u16, plain "a2" u16]
def UX : Ty := .union "X" [.mk "x" 0 u32, .mk "y" 1 TwoInts]
example : both UX (.union 0 (.int 1)) [0,0,0,0,1,0,0,0] = true := by decide
example : both UX (.union 1 (.struct [.int 2, .int 3])) [1,0,0,0,2,0,3,0] = true := by decide
-- Integer padding: 01 [00] 02 00
example : both (.struct "X" [plain "a" u8, plain "b" u16]) (.struct [.int 1, .int 2]) [1,0,2,0] = true := by decide
-- Composite padding (32 bytes)
def Nested3 : Ty := .struct "Nested" [plain "n1" u16, plain "n2" u32, plain "n3" u16]
example : both (.struct "X" [plain "x" u64, plain "y" u32, plain "z" u8, plain "n" Nested3])
    (.struct [.int 1, .int 2, .int 3, .struct [.int 4, .int 5, .int 6]])
    [1,0,0,0,0,0,0,0, 2,0,0,0,3,0,0,0, 4,0,0,0,5,0,0,0, 6,0,0,0,0,0,0,0] = true := by decide
-- Dynamic array padding
def XY : Ty := .struct "X" (dynArr "x" u8 ++ dynArr "y" u8)
example : both XY (.struct [.sizer, .arr [.int 1], .sizer, .arr [.int 2, .int 3, .int 4]])
    [1,0,0,0,1,0,0,0, 3,0,0,0,2,3,4,0] = true := by decide
example : both XY (.struct [.sizer, .arr [], .sizer, .arr [.int 1, .int 2, .int 3, .int 4]])
    [0,0,0,0,4,0,0,0,1,2,3,4] = true := by decide
example : both (.struct "X" (dynArr "x" u64)) (.struct [.sizer, .arr [.int 1]])
    [1,0,0,0,0,0,0,0, 1,0,0,0,0,0,0,0] = true := by decide
example : both (.struct "X" (dynArr "x" u64)) (.struct [.sizer, .arr []]) [0,0,0,0,0,0,0,0] = true := by decide
-- Optional padding: 01 00 00 00 01 02 [00 00]
example : both (.struct "X" [.mk "x" u8 .optional, plain "y" u8]) (.struct [.present (.int 1), .int 2])
    [1,0,0,0,1,2,0,0] = true := by decide
example : both (.struct "X" [.mk "x" u64 .optional]) (.struct [.present (.int 1)])
    [1,0,0,0,0,0,0,0, 1,0,0,0,0,0,0,0] = true := by decide
-- Union padding
example : both (.union "X" [.mk "x" 1 u8]) (.union 0 (.int 2)) [1,0,0,0,2,0,0,0] = true := by decide
def U64 : Ty := .union "X" [.mk "x" 1 u64, .mk "y" 2 u8]
example : both U64 (.union 0 (.int 2)) [1,0,0,0,0,0,0,0, 2,0,0,0,0,0,0,0] = true := by decide
example : both U64 (.union 1 (.int 3)) [2,0,0,0,0,0,0,0, 3,0,0,0,0,0,0,0] = true := by decide
-- Fields following dynamic fields (40 bytes)
def Blocks : Ty := .struct "X" (dynArr "a" u8 ++ [plain "b" u8, plain "c" u32] ++ dynArr "d" u8 ++ [plain "e" u8, plain "f" u64])
def blocksV : Val := .struct [.sizer, .arr [.int 1], .int 2, .int 3, .sizer, .arr [.int 4], .int 5, .int 6]
example : both Blocks blocksV
    [1,0,0,0,1,0,0,0, 2,0,0,0,3,0,0,0, 1,0,0,0,4,0,0,0, 5,0,0,0,0,0,0,0, 6,0,0,0,0,0,0,0] = true := by decide
-- Numeric types, big endian: 00 00 00 2a
example : Spec.enc u32 (.int 42) .big = [0,0,0,0x2a] := by decide
example : Spec.enc u64 (.int 42) .little = [0x2a,0,0,0,0,0,0,0] := by decide

end Prophy.DocExamples
