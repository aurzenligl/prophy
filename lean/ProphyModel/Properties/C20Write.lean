/-
  C20 (write_files) - the last step of a prophyc run: the outcome (success and every file of the file system)
  does not depend on the order of the targets; a run succeeds exactly when every target can be opened, no two
  targets are one file and no write fails; a failing run leaves no generated text.
  Model: `ProphyModel/FilesW.lean`; proofs: `Lemmas/FilesWrite.lean`.
-/
import ProphyModel.FilesW
import ProphyModel.Lemmas.FilesWrite
namespace Prophy.C20
open Prophy.FilesW

/-- The command-line order of the inputs is the order of the targets: success and every file of the file system
are the same for every order. -/
theorem C20_write_files_order_independent (full : Ident → Bool) (fs : FS) (ts₁ ts₂ : List Target)
    (h : ts₁.Perm ts₂) :
    (writeFiles full fs ts₁).ok = (writeFiles full fs ts₂).ok ∧
    ∀ i, (writeFiles full fs ts₁).fs i = (writeFiles full fs ts₂).fs i :=
  ((writeFiles_describes full fs ts₁).perm h).unique (writeFiles_describes full fs ts₂)

/-- when the run succeeds, exactly when: every target can be opened, no two targets are one file, no write fails -/
theorem C20_write_files_ok_iff (full : Ident → Bool) (fs : FS) (ts : List Target) :
    (writeFiles full fs ts).ok = true ↔
      (∀ t ∈ ts, t.node.isSome) ∧ (ts.filterMap (·.node)).Nodup ∧ (∀ t ∈ ts, ∀ i, t.node = some i → full i = false) := by
  rw [(writeFiles_describes full fs ts).ok_iff]
  exact and_assoc

/-- a successful run: every target holds its text, nothing else changed -/
theorem C20_write_files_ok_content (full : Ident → Bool) (fs : FS) (ts : List Target)
    (h : (writeFiles full fs ts).ok = true) :
    (∀ t ∈ ts, ∀ i, t.node = some i → (writeFiles full fs ts).fs i = some t.data) ∧
    (∀ i, (∀ t ∈ ts, t.node ≠ some i) → (writeFiles full fs ts).fs i = fs i) := by
  have hd := writeFiles_describes full fs ts
  obtain ⟨ho, hw⟩ := hd.ok_iff.1 h
  exact ⟨hd.success ho hw, fun i hi => hd.other i fun hmem =>
    (mem_idents.1 hmem).elim fun t ht => hi t ht.1 ht.2⟩

/-- a failing run leaves no generated text: every file is as before, or empty (a target that existed), or gone
(only files that did not exist before are gone); a failure of the first phase leaves everything as it was -/
theorem C20_write_files_failure_leaves_nothing (full : Ident → Bool) (fs : FS) (ts : List Target)
    (h : (writeFiles full fs ts).ok = false) :
    ∀ i, (writeFiles full fs ts).fs i = fs i ∨
         ((writeFiles full fs ts).fs i = some [] ∧ (fs i).isSome ∧ ∃ t ∈ ts, t.node = some i) := by
  intro i
  have hd := writeFiles_describes full fs ts
  by_cases ho : OpenOK ts
  · by_cases hi : i ∈ idents ts
    · have hw : ¬ WriteOK full ts := fun hw => by rw [hd.ok_iff.2 ⟨ho, hw⟩] at h; cases h
      have hfs := hd.write_fail ho hw i hi
      cases h0 : fs i with
      | none => exact .inl (by rw [hfs, if_pos h0])
      | some old => exact .inr ⟨by rw [hfs, if_neg (by rw [h0]; exact fun e => nomatch e)], rfl, mem_idents.1 hi⟩
    · exact .inl (hd.other i hi)
  · exact .inl (hd.open_fail ho i)

theorem C20_write_files_open_failure_restores (full : Ident → Bool) (fs : FS) (ts : List Target)
    (h : openAll fs [] [] ts = none) :
    ∀ i, (writeFiles full fs ts).fs i = fs i :=
  (writeFiles_describes full fs ts).open_fail ((openAll_none_iff fs ts).1 h)

/-- a successful run with two targets: file 1 is created, file 2 existed; both hold their text, file 3 is untouched -/
example :
    observe (fun _ => false) (fun i => if i = 2 then some [7] else if i = 3 then some [9] else none)
      [⟨some 1, [65]⟩, ⟨some 2, [66]⟩] [1, 2, 3] = (true, [some [65], some [66], some [9]]) := by decide

/-- the same in the other order -/
example :
    observe (fun _ => false) (fun i => if i = 2 then some [7] else if i = 3 then some [9] else none)
      [⟨some 2, [66]⟩, ⟨some 1, [65]⟩] [1, 2, 3] = (true, [some [65], some [66], some [9]]) := by decide

/-- phase 1 fails: two targets with the identity 1 (a link), the first open creates the file; a third target (4) was
created before the duplicate is noticed.  Everything is as before: 1 and 4 are gone again, 2 keeps its text. -/
example :
    observe (fun _ => false) (fun i => if i = 2 then some [7] else none)
      [⟨some 4, [64]⟩, ⟨some 1, [65]⟩, ⟨some 2, [66]⟩, ⟨some 1, [67]⟩] [1, 2, 4] =
      (false, [none, some [7], none]) := by decide

/-- phase 1 fails because a target cannot be opened -/
example :
    observe (fun _ => false) (fun i => if i = 2 then some [7] else none)
      [⟨some 1, [65]⟩, ⟨none, [66]⟩, ⟨some 2, [67]⟩] [1, 2] = (false, [none, some [7]]) := by decide

/-- phase 2 fails (`full 2`): the created file 1 is removed, the target 2 that existed is emptied, 3 is untouched -/
example :
    observe (fun i => i == 2) (fun i => if i = 2 then some [7] else if i = 3 then some [9] else none)
      [⟨some 1, [65]⟩, ⟨some 2, [66]⟩] [1, 2, 3] = (false, [none, some [], some [9]]) := by decide

/-- the same in the other order (the write to 2 fails before anything is written to 1) -/
example :
    observe (fun i => i == 2) (fun i => if i = 2 then some [7] else if i = 3 then some [9] else none)
      [⟨some 2, [66]⟩, ⟨some 1, [65]⟩] [1, 2, 3] = (false, [none, some [], some [9]]) := by decide

/-- phase 2 fails on a created file (`full 1`): 1 is removed, the target 2 that was written already is emptied -/
example :
    observe (fun i => i == 1) (fun i => if i = 2 then some [7] else none)
      [⟨some 2, [66]⟩, ⟨some 1, [65]⟩] [1, 2] = (false, [none, some []]) := by decide


/-- running prophyc again on the same inputs, whatever order they are given in the second time, ends the same way and leaves
every file as the first run left it - after a success and after a failure of either phase -/
theorem C20_write_files_repeatable (full : Ident → Bool) (fs : FS) (ts₁ ts₂ : List Target) (h : ts₁.Perm ts₂) :
    (writeFiles full (writeFiles full fs ts₁).fs ts₂).ok = (writeFiles full fs ts₁).ok ∧
    ∀ i, (writeFiles full (writeFiles full fs ts₁).fs ts₂).fs i = (writeFiles full fs ts₁).fs i :=
  (writeFiles_describes full _ ts₂).unique ((writeFiles_describes full fs ts₁).again.perm h)

/-! non-vacuity: the second run is given the targets in the other order -/

/-- after a success: file 1 was created by the first run (it exists now, the second run does not create it), file 2 existed;
the second run succeeds and both hold their text again, 3 is untouched -/
example :
    observe (fun _ => false)
      (writeFiles (fun _ => false) (fun i => if i = 2 then some [7] else if i = 3 then some [9] else none)
        [⟨some 1, [65]⟩, ⟨some 2, [66]⟩]).fs
      [⟨some 2, [66]⟩, ⟨some 1, [65]⟩] [1, 2, 3] = (true, [some [65], some [66], some [9]]) ∧
    observe (fun _ => false) (fun i => if i = 2 then some [7] else if i = 3 then some [9] else none)
      [⟨some 1, [65]⟩, ⟨some 2, [66]⟩] [1, 2, 3] = (true, [some [65], some [66], some [9]]) := by decide

/-- after a phase-2 failure (`full 2`): the first run removed the file 1 it had created and emptied 2; the second run creates 1
again, fails again, removes 1 again and leaves 2 empty, 3 is untouched -/
example :
    observe (fun i => i == 2)
      (writeFiles (fun i => i == 2) (fun i => if i = 2 then some [7] else if i = 3 then some [9] else none)
        [⟨some 1, [65]⟩, ⟨some 2, [66]⟩]).fs
      [⟨some 2, [66]⟩, ⟨some 1, [65]⟩] [1, 2, 3] = (false, [none, some [], some [9]]) ∧
    observe (fun i => i == 2) (fun i => if i = 2 then some [7] else if i = 3 then some [9] else none)
      [⟨some 1, [65]⟩, ⟨some 2, [66]⟩] [1, 2, 3] = (false, [none, some [], some [9]]) := by decide

/-- after a phase-1 failure (a target that cannot be opened): nothing changed, the second run fails the same way -/
example :
    observe (fun _ => false)
      (writeFiles (fun _ => false) (fun i => if i = 2 then some [7] else none)
        [⟨some 1, [65]⟩, ⟨none, [66]⟩, ⟨some 2, [67]⟩]).fs
      [⟨some 2, [67]⟩, ⟨some 1, [65]⟩, ⟨none, [66]⟩] [1, 2] = (false, [none, some [7]]) := by decide

end Prophy.C20

#print axioms Prophy.C20.C20_write_files_order_independent
#print axioms Prophy.C20.C20_write_files_ok_iff
#print axioms Prophy.C20.C20_write_files_ok_content
#print axioms Prophy.C20.C20_write_files_failure_leaves_nothing
#print axioms Prophy.C20.C20_write_files_open_failure_restores
#print axioms Prophy.C20.C20_write_files_repeatable
