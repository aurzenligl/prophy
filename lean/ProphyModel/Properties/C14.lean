/-
  C14 - Constant expressions denote one integer, the same in every back-end.
-/
import ProphyModel.Expr
import ProphyModel.Generated.Precedence
import ProphyModel.Lemmas.ExprPrint
namespace Prophy.C14
open Prophy Prophy.Expr

/-- position (level, counted from 1) and associativity of a token in a yacc precedence table -/
def tableLevel (table : List (String × List String)) (tok : String) : Option (Nat × String) :=
  go table 1
where
  go : List (String × List String) → Nat → Option (Nat × String)
    | [], _ => none
    | (a, toks) :: r, n => if toks.contains tok then some (n, a) else go r (n + 1)

def tokName : Tok → String
  | .plus => "+" | .minus => "-" | .star => "*" | .slash => "/"
  | .shl => "LSHIFT" | .shr => "RSHIFT" | .bar => "|"
  | _ => ""

def binToks : List Tok := [.plus, .minus, .star, .slash, .shl, .shr]

/-- the parse-time evaluator and calc are generated from the same precedence table -/
theorem C14_precedence_tables_agree : Generated.prophyPrecedence = Generated.calcPrecedence := by decide

/-- the model parser's levels are exactly the positions in that table, all binary operators
    left-associative, unary minus on the highest level, `|` absent (level 0 in PLY) -/
theorem C14_model_levels_are_table :
    (binToks.all fun t =>
      match binInfo t, tableLevel Generated.prophyPrecedence (tokName t) with
      | some (lvl, rightAssoc, _), some (n, a) => lvl == n && a == "left" && !rightAssoc
      | _, _ => false) = true
    ∧ tableLevel Generated.prophyPrecedence "UMINUS" = some (4, "right")
    ∧ tableLevel Generated.calcPrecedence "|" = none := by decide

/-- which Python operator the binop actions apply: `/` is floor division in both evaluators,
    and both apply the same operator to every symbol they share -/
theorem C14_binop_actions_integer :
    Generated.prophyBinops = [("*", "mul"), ("+", "add"), ("-", "sub"), ("/", "floordiv"), ("<<", "lshift"), (">>", "rshift")]
    ∧ Generated.calcBinops = Generated.prophyBinops ++ [("|", "or")] := by decide

/-- `/` denotes the integer quotient for non-negative operands and a non-zero divisor -/
theorem C14_div_is_integer_quotient (a b : Nat) (hb : 0 < b) :
    rawBinop .div (a : Int) (b : Int) = .ok (((a / b : Nat) : Int)) := by
  unfold rawBinop
  have h0 : ¬ ((b : Int) = 0) := by omega
  simp only [h0, if_false]
  congr 1
  exact Int.fdiv_eq_ediv_of_nonneg _ (by omega)

/-- `<<` multiplies by a power of two, for every left operand (also negative) -/
theorem C14_shl_is_mul (a : Int) (k : Nat) : rawBinop .shl a (k : Int) = .ok (a * (2 ^ k : Nat)) := by
  unfold rawBinop
  have : ¬ ((k : Int) < 0) := by omega
  simp [this]

/-- the evaluators return the plain integer result whenever it fits (-2^64, 2^64) and shift counts
    are at most 64; otherwise they report it - never a wrapped or approximate value -/
theorem C14_binop_exact_or_reported (op : BinOp) (a b v : Int) (h : binop op a b = .ok v) :
    rawBinop op a b = .ok v ∧ inRange64 v = true := rawBinop_of_binop h

/-- the value of an expression does not depend on how it was parenthesised or spaced:
    it is a function of the tree (trivial by construction, stated for the record) and the
    evaluation never produces anything but an integer or one of the four errors of `EvalErr` -/
theorem C14_eval_total (env : String → Option Int) (e : Ast) :
    (∃ v, eval env e = .ok v) ∨ (∃ x, eval env e = .error x) := by
  cases h : eval env e with
  | ok v => exact Or.inl ⟨v, rfl⟩
  | error x => exact Or.inr ⟨x, rfl⟩

def evalsTo (toks : List Tok) (v : Int) : Bool :=
  match parse toks with
  | some e => match eval (fun _ => none) e with
    | .ok x => x == v
    | .error _ => false
  | none => false

/-- documentation example of docs/schema.rst: `(MyEnum_1 + MyEnum_2) << 2` with 1 and 2 -/
example : evalsTo [.lpar, .num 1, .plus, .num 2, .rpar, .shl, .num 2] 12 = true := by decide +kernel
/-- shift binds tighter than `*`, `*` tighter than `+` (the language's precedence): `1 + 2 * 3 << 1` -/
example : evalsTo [.num 1, .plus, .num 2, .star, .num 3, .shl, .num 1] 13 = true := by decide +kernel
/-- unary minus binds tighter than every binary operator: `-2 << 1 + 3` -/
example : evalsTo [.minus, .num 2, .shl, .num 1, .plus, .num 3] (-1) = true := by decide +kernel

/-- every constant the prophy parser accepts is representable in the generated C++ (`enum { K = v }` with an
    `int64_t` or, with the `u` suffix `_to_literal` adds to positive numbers, a `uint64_t` enumerator) as the same integer -/
theorem C14_constant_fits_64_bits (env : String → Option Int) (s : String) (v : Int)
    (h : constText env s = .value v) :
    (-((2 ^ 63 : Nat) : Int) ≤ v ∧ v < ((2 ^ 63 : Nat) : Int)) ∨ (0 < v ∧ v < ((2 ^ 64 : Nat) : Int)) := by
  unfold constText at h
  split at h
  · rename_i w _
    split at h
    · rename_i hc
      injection h with h
      subst h
      simp only [constOk, Bool.and_eq_true, decide_eq_true_eq] at hc
      omega
    · cases h
  · rename_i o hne
    exact absurd h (hne v)

/-- the parser's language is exactly "the tree written with the parentheses the precedence table
    requires, plus any redundant ones" (`Rep 0`): levels 1 `+ -`, 2 `* /`, 3 `<< >>`, unary minus
    above, left-associative; so every text denotes at most one tree -/
theorem C14_parser_language (t : List Tok) (a : Ast) : parse t = some a ↔ Rep 0 a t := parse_iff_rep t a

theorem C14_one_tree_per_text (t : List Tok) (a b : Ast) (ha : parse t = some a) (hb : parse t = some b) : a = b := by
  rw [ha] at hb; injection hb

/-- printing a tree with minimal or with full parentheses and parsing it back gives the tree:
    grouping and redundant parentheses never change the value -/
theorem C14_parse_print (a : Ast) : parse (toks a) = some a ∧ parse (toksFull a) = some a :=
  ⟨parse_toks a, parse_toksFull a⟩

theorem C14_grouping_irrelevant (env : String → Option Int) (a : Ast) :
    evalToks env (toks a) = evalToks env (toksFull a) := by
  unfold evalToks
  rw [parse_toks, parse_toksFull]

/-- texts with the same tokens (they differ in spacing only) have the same outcome -/
theorem C14_spacing_irrelevant (octal : Bool) (env : String → Option Int) (s₁ s₂ : String)
    (h : tokenize octal s₁ = tokenize octal s₂) : evalText octal env s₁ = evalText octal env s₂ := by
  unfold evalText
  rw [h]

end Prophy.C14
