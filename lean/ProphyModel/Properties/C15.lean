/-
  C15 - Definition order does not matter: output is dependency-ordered and complete.
  For EVERY node list (duplicates, Include nodes anywhere): what the sort returns is a permutation of its input in which
  each node comes after every definition it depends on; Include nodes written first stay first and do not influence the
  order of the definitions.
-/
import ProphyModel.Lemmas.TopoSort
namespace Prophy.C15
open Prophy Prophy.Topo

/-- every node is listed exactly once: the output is a permutation of the input -/
theorem C15_sort_permutation (g r : List TNode) (h : sort g = some r) : r.Perm g :=
  sortFrom_perm _ _ _ _ _ _ h

/-- the output is dependency-ordered: each node comes after everything it depends on
    (among the builtins and the names of the non-Include nodes of the input) -/
theorem C15_sort_ordered (g r : List TNode) (h : sort g = some r) :
    Ordered (availableOf g) builtins r :=
  sortFrom_ordered _ _ _ _ _ _ (Nat.le_refl _) h

/-- the simple form, about EVERY node of the result (Include or not): each dependency that is the
    name of a definition of the input and no builtin is the name of a definition (a non-Include node)
    standing strictly earlier in the result -/
theorem C15_sort_ordered_nodes (g r : List TNode) (h : sort g = some r)
    (pre post : List TNode) (n : TNode) (hr : r = pre ++ n :: post)
    (d : String) (hd : d ∈ n.deps) (hdef : d ∈ availableOf g) (hb : d ∉ builtins) :
    ∃ m ∈ pre, m.incl = false ∧ m.name = d := by
  have ho := C15_sort_ordered g r h
  rw [hr] at ho
  rcases Ordered.split _ pre builtins n post ho d hd (by simpa using hdef) with hk | hm
  · exact absurd (by simpa using hk) hb
  · exact hm

/-- When the sort succeeds, every definition `n` of the result (at any of its
    places: `r = pre ++ n :: post`) comes after each of its dependencies `d` that is the name of a
    definition (non-Include node) of the input and is no builtin: a non-Include node named `d`
    stands in `pre`, i.e. STRICTLY earlier.  This also holds for `d = n.name`: a definition that
    depends on its own name is only sorted (and not reported as a cycle) when ANOTHER definition of
    that name stands before it, which needs a duplicated name (see `C15_sort_no_self_dependency`). -/
theorem C15_sort_ordered_definitions (g r : List TNode) (h : sort g = some r)
    (pre post : List TNode) (n : TNode) (hr : r = pre ++ n :: post) (_hn : n.incl = false)
    (d : String) (hd : d ∈ n.deps)
    (hdef : ∃ m ∈ g, m.incl = false ∧ m.name = d) (hb : d ∉ builtins) :
    ∃ m ∈ pre, m.incl = false ∧ m.name = d :=
  C15_sort_ordered_nodes g r h pre post n hr d hd (mem_availableOf.2 hdef) hb

/-- the same with positions: the definition at position `i` of the result has each such dependency
    defined at a position `j < i` -/
theorem C15_sort_ordered_definitions_idx (g r : List TNode) (h : sort g = some r)
    (i : Nat) (hi : i < r.length) (_hn : r[i].incl = false)
    (d : String) (hd : d ∈ r[i].deps)
    (hdef : ∃ m ∈ g, m.incl = false ∧ m.name = d) (hb : d ∉ builtins) :
    ∃ (j : Nat) (hj : j < i), (r[j]'(Nat.lt_trans hj hi)).incl = false ∧ (r[j]'(Nat.lt_trans hj hi)).name = d := by
  have hr : r = r.take i ++ r[i] :: r.drop (i + 1) := by
    rw [List.getElem_cons_drop, List.take_append_drop]
  obtain ⟨m, hm, hm'⟩ := C15_sort_ordered_definitions g r h _ _ _ hr _hn d hd hdef hb
  obtain ⟨j, hj, hjm⟩ := List.mem_take_iff_getElem.1 hm
  have hji : j < i := by omega
  exact ⟨j, hji, by rw [hjm]; exact hm'⟩

/-- with distinct definition names a sorted definition never depends on its own name
    (such an input is reported as a cycle) -/
theorem C15_sort_no_self_dependency (g r : List TNode) (h : sort g = some r)
    (hnd : (availableOf g).Nodup) (n : TNode) (hn : n ∈ r) (hi : n.incl = false)
    (hb : n.name ∉ builtins) : n.name ∉ n.deps := by
  intro hd
  obtain ⟨pre, post, hr⟩ := List.append_of_mem hn
  have hp := C15_sort_permutation g r h
  have hng : n ∈ g := hp.mem_iff.1 hn
  obtain ⟨m, hm, hmi, hmn⟩ := C15_sort_ordered_definitions g r h pre post n hr hi n.name hd
    ⟨n, hng, hi, rfl⟩ hb
  have hnd' : (availableOf r).Nodup := (availableOf_perm hp).nodup_iff.2 hnd
  rw [hr] at hnd'
  simp only [availableOf, List.filter_append, List.filter_cons, hi, Bool.not_false, if_true,
    List.map_append, List.map_cons] at hnd'
  have := (List.nodup_append.1 hnd').2.2 n.name
    (List.mem_map.2 ⟨m, List.mem_filter.2 ⟨hm, by simp [hmi]⟩, hmn⟩) n.name (by simp)
  exact this rfl

/-- Include nodes written first (where the isar and prophy parsers put them) stay first and do not
    influence the order of the definitions.  General form: nothing is asked of `defs`. -/
theorem C15_includes_inert' (incs defs : List TNode)
    (hi : ∀ n ∈ incs, n.incl = true ∧ n.deps = []) :
    sort (incs ++ defs) = (sort defs).map (incs ++ ·) := by
  unfold sort
  rw [availableOf_incs incs defs (fun n hn => (hi n hn).1), List.length_append,
    sortFrom_incs _ _ defs defs.length incs builtins hi,
    sortFrom_bound_irrelevant (incs.length + defs.length) defs.length _ (by omega) _ _ _ (Nat.le_refl _)]

/-- the same with the hypothesis that `defs` holds definitions only (it is not needed) -/
theorem C15_includes_inert (incs defs : List TNode)
    (hi : ∀ n ∈ incs, n.incl = true ∧ n.deps = [])
    (_hd : ∀ n ∈ defs, n.incl = false) :
    sort (incs ++ defs) = (sort defs).map (incs ++ ·) :=
  C15_includes_inert' incs defs hi

/-- non-vacuity: a three-node DAG given in reverse order is sorted -/
example : (sort [⟨"C", ["B", "A"], false⟩, ⟨"B", ["A", "u8"], false⟩, ⟨"A", [], false⟩]).map (·.map (·.name))
    = some ["A", "B", "C"] := by
  decide
/-- a definition cycle is reported (the sort returns, with an error) -/
example : sort [⟨"A", ["B"], false⟩, ⟨"B", ["A"], false⟩] = none := by decide
/-- two Include nodes in the list: they keep their places, the definitions are sorted behind them -/
example : (sort [⟨"i1", [], true⟩, ⟨"i2", [], true⟩, ⟨"C", ["B"], false⟩, ⟨"B", ["A"], false⟩, ⟨"A", [], false⟩]).map
    (·.map (·.name)) = some ["i1", "i2", "A", "B", "C"] := by decide
/-- an Include node named like a definition another node depends on is not taken for that definition -/
example : sort [⟨"S", [], true⟩, ⟨"T", ["S"], false⟩, ⟨"S", [], false⟩]
    = some [⟨"S", [], true⟩, ⟨"S", [], false⟩, ⟨"T", ["S"], false⟩] := by decide
/-- a definition that depends on its own name is sorted when an earlier definition carries the name too -/
example : sort [⟨"A", ["A"], false⟩, ⟨"A", [], false⟩] = some [⟨"A", [], false⟩, ⟨"A", ["A"], false⟩] := by decide

end Prophy.C15

#print axioms Prophy.C15.C15_sort_permutation
#print axioms Prophy.C15.C15_sort_ordered
#print axioms Prophy.C15.C15_sort_ordered_nodes
#print axioms Prophy.C15.C15_sort_ordered_definitions
#print axioms Prophy.C15.C15_sort_ordered_definitions_idx
#print axioms Prophy.C15.C15_sort_no_self_dependency
#print axioms Prophy.C15.settle_fuel
#print axioms Prophy.C15.C15_includes_inert
