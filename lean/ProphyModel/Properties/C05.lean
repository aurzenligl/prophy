/-
  C05 - C++ full codec: get_byte_size equals bytes written; encode stays in bounds.

  The property, informally: for an accepted schema and an object `x` of its class,
      (Cpp.encodePtr t x e).length = Cpp.getByteSize t x
-/
import ProphyModel.Lemmas.CppEncodeBounds
namespace Prophy.C05
open Prophy Prophy.Cpp

/-- whenever the vector API returns (no write outside the vector's storage), the vector it
    returns has exactly `get_byte_size()` bytes, for every type, value and byte order -/
theorem C05_vector_length (t : Ty) (v : Val) (e : Endian) (b : Bytes)
    (h : encodeVec t v e = .ok b) : b.length = getByteSize t v :=
  Cpp.encodeVec_length t v e b h

/-- the vector API faults exactly when the pointer encoder writes a byte at an index
    `≥ get_byte_size()`: in-bounds is decided by comparing the written cells with the size -/
theorem C05_fault_iff_write_beyond (t : Ty) (v : Val) (e : Endian) :
    encodeVec t v e = .fault ↔
      (getByteSize t v < (encodePtr t v e).length ∧
        ((encodePtr t v e).drop (getByteSize t v)).all (·.isNone) = false) := by
  unfold encodeVec
  simp only
  constructor
  · intro h
    split at h
    · cases h
    · split at h
      · cases h
      · rename_i h1 h2
        exact ⟨by omega, by simpa using h2⟩
  · intro ⟨h1, h2⟩
    rw [if_neg (by omega)]
    simp [h2]

/-- `nearest<N>` rounds up to a multiple of `N` and never down -/
theorem C05_nearest_ge (n : Nat) (x : Int) (hn : 0 < n) : x ≤ nearest n x ∧ (n : Int) ∣ nearest n x := by
  unfold nearest
  have hn' : (0 : Int) < n := by omega
  constructor
  · have := Int.lt_ediv_add_one_mul_self (x + n - 1) hn'
    have h2 : (x + ↑n - 1) / ↑n * ↑n + ↑n > x + ↑n - 1 := by
      have : ((x + ↑n - 1) / ↑n + 1) * ↑n = (x + ↑n - 1) / ↑n * ↑n + ↑n := by
        rw [Int.add_mul]; simp
      omega
    omega
  · exact Int.dvd_mul_left _ _


/-- FULL STATEMENT: `get_byte_size()` is the length of the canonical encoding, which is what the
    pointer encoder writes and the length of the vector `encode()` returns; nothing is written
    beyond it (`encodeVec` is `.ok`, never `.fault`) -/
theorem C05_byte_size_is_canonical_length (t : Ty) (v : Val) (e : Endian)
    (hf : Accept.front t = true) (hns : Accept.noShift t = true) (hm : Cpp.optMisaligned t = false)
    (hv : hasType t v = true) (ha : WF.agreeTy t v = true)
    (hlen : (Spec.enc t v e).length < 2 ^ 64) :
    getByteSize t v = (Spec.enc t v e).length ∧ encodeVec t v e = .ok (Spec.enc t v e) ∧ encodeVec t v e ≠ .fault := by
  have h := Cpp.encodeVec_canonical t v e hf hns hm hv ha hlen
  refine ⟨Cpp.getByteSize_spec t v e hf hns hm hv ha hlen, h, ?_⟩
  rw [h]; intro c; cases c

/-- the quantifier of C05 is "every C++ object": `objOk` is `hasType` WITHOUT the limits of limited
    arrays, the counters' ranges and enumerator membership (a std::vector can be over-full, an enum
    can hold any integer).  For every such object the vector encoder never writes outside its
    `get_byte_size()` bytes and returns exactly that many -/
theorem C05_every_object_in_bounds (t : Ty) (v : Val) (e : Endian)
    (hf : Accept.front t = true) (hns : Accept.noShift t = true) (hm : Cpp.optMisaligned t = false)
    (ho : Cpp.objOk t v = true) (hlen : Cpp.byteSizeTy t v < 2 ^ 64) :
    encodeVec t v e ≠ .fault ∧ ∃ b, encodeVec t v e = .ok b ∧ b.length = getByteSize t v :=
  Cpp.encodeVec_in_bounds t v e hf hns hm ho hlen

/-- the pointer encoder never advances past `get_byte_size()`, and advances exactly that far when
    no array exceeds what its counter's type can represent (`countsFit`) ... -/
theorem C05_pointer_encoder (t : Ty) (v : Val) (e : Endian)
    (hf : Accept.front t = true) (hns : Accept.noShift t = true) (hm : Cpp.optMisaligned t = false)
    (ho : Cpp.objOk t v = true) (hlen : Cpp.byteSizeTy t v < 2 ^ 64) :
    (encodePtr t v e).length ≤ getByteSize t v ∧
      (Cpp.countsFit t v = true → (encodePtr t v e).length = getByteSize t v) :=
  ⟨Cpp.encodePtr_le_getByteSize t v e hf hns hm ho hlen, fun hc => Cpp.encodePtr_length t v e hf hns hm ho hc hlen⟩

/-- ... and NOT otherwise (known finding D51, replayed on the real code): 256 elements under a u8
    counter give get_byte_size() = 257 while encode writes 1 byte -/
theorem C05_counter_wrap_breaks_size :
    ¬ (∀ (t : Ty) (v : Val) (e : Endian), Accept.front t = true → Accept.noShift t = true →
        Cpp.optMisaligned t = false → Cpp.objOk t v = true → Cpp.byteSizeTy t v < 2 ^ 64 →
        (encodePtr t v e).length = getByteSize t v) := Cpp.Bounds.encodePtr_length_unrestricted_false

/-- every well-typed value is such an object whose counters fit -/
theorem C05_typed_is_object (t : Ty) (v : Val) (hw : WF.wfTy t = true) (hv : hasType t v = true) :
    Cpp.objOk t v = true ∧ Cpp.countsFit t v = true := Cpp.objOk_of_hasType t v hw hv

end Prophy.C05
