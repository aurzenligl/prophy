/-
  C18 - Text rendering is the same in Python and C++: `str(message)` and `print()` give the same text for
  the values `okField` admits, and printing leaves the stream state as it was.
-/
import ProphyModel.Text
import ProphyModel.Generated.CppPrinter
namespace Prophy.C18
open Prophy Prophy.Text

/-- byte kernel: inside single quotes, Python's `repr` and C++ `print_byte` write the same text
    for every one of the 256 byte values -/
theorem C18_byte_eq (b : UInt8) : pyByte '\'' b = cppByte b := by
  unfold pyByte cppByte
  by_cases h92 : b = 92
  · subst h92; decide
  · by_cases h39 : b = 39
    · subst h39; decide
    · have hq : ¬ (b.toNat = ('\'' : Char).toNat) := by
        intro h
        apply h39
        apply UInt8.toNat_inj.1
        simpa using h
      simp only [h92, if_false, hq, h39]

/-- hence every bytes field whose Python repr uses single quotes renders identically -/
theorem C18_bytes_eq (b : Bytes) (h : pyQuote b = '\'') : pyReprBytes b = cppBytes b := by
  unfold pyReprBytes cppBytes
  simp only [h]
  have : b.map (pyByte '\'') = b.map cppByte := List.map_congr_left (fun x _ => C18_byte_eq x)
  rw [this]

section
variable (k : MKind) (name : String) (lvl : Nat) (s : Stream)

theorem cppField_bytes (t : Ty) (b : Bytes) :
    cppField k name t (.bytes b) lvl s = ([(lvl, name ++ ": " ++ cppBytes (b.take (printCount k b.length)))], s) := by
  cases t <;> rfl

theorem cppMs_cons (n : String) (t : Ty) (r : List Member) (v : Val) (vs : List Val) :
    cppMs (.mk n t k :: r) (v :: vs) lvl s =
      ((cppField k n t v lvl s).1 ++ (cppMs r vs lvl (cppField k n t v lvl s).2).1,
        (cppMs r vs lvl (cppField k n t v lvl s).2).2) := rfl

theorem cppElems_cons (t : Ty) (x : Val) (xs : List Val) (n : Nat) :
    cppElems name t (x :: xs) (n + 1) lvl s =
      ((cppField .plain name t x lvl s).1 ++ (cppElems name t xs n lvl (cppField .plain name t x lvl s).2).1,
        (cppElems name t xs n lvl (cppField .plain name t x lvl s).2).2) := rfl

theorem cppPrint_union_state (n : String) (arms : List Arm) (idx : Nat) (v : Val)
    (ih : ∀ k name t lvl s, (cppField k name t v lvl s).2 = s) :
    (cppPrint (.union n arms) (.union idx v) lvl s).2 = s := by
  show (match arms[idx]? with
    | some (.mk n _ t) => cppField .plain n t v lvl s
    | none => ([], s)).2 = s
  split
  · exact ih _ _ _ _ _
  · rfl

end

/- rendering one field never changes how later fields are rendered: printing any member of
   any kind and type, at any depth, leaves the stream's formatting state as it found it
   (every clause hands its state on; `cppMs_eq` and `cppElems_eq` rewrite with it) -/
mutual
  theorem cppField_state : (v : Val) → ∀ (k : MKind) (name : String) (t : Ty) (lvl : Nat) (s : Stream),
      (cppField k name t v lvl s).2 = s
    | .int i, k, name, t, lvl, s => by cases t <;> rfl
    | .bytes b, k, name, t, lvl, s => by cases t <;> rfl
    | .arr xs, k, name, t, lvl, s => by cases t <;> exact cppElems_state xs _ _ _ _ _
    | .struct fs, k, name, t, lvl, s => by
      cases t with
      | struct n ms => exact cppMs_state fs _ _ _
      | _ => rfl
    | .union arm v, k, name, t, lvl, s => by
      cases t with
      | union n arms => exact cppPrint_union_state _ _ n arms arm v (cppField_state v)
      | _ => rfl
    | .absent, k, name, t, lvl, s => by cases t <;> rfl
    | .present v, k, name, t, lvl, s => by cases t <;> exact cppField_state v _ _ _ _ _
    | .sizer, k, name, t, lvl, s => by cases t <;> rfl
  theorem cppMs_state : (vs : List Val) → ∀ (ms : List Member) (lvl : Nat) (s : Stream),
      (cppMs ms vs lvl s).2 = s
    | [], ms, lvl, s => by
      cases ms with
      | nil => rfl
      | cons m r => cases m; rfl
    | v :: vs, [], lvl, s => rfl
    | v :: vs, .mk n t k :: r, lvl, s => by
      rw [cppMs_cons, cppMs_state vs r lvl _, cppField_state v k n t lvl s]
  theorem cppElems_state : (vs : List Val) → ∀ (name : String) (t : Ty) (n lvl : Nat) (s : Stream),
      (cppElems name t vs n lvl s).2 = s
    | [], name, t, n, lvl, s => rfl
    | v :: vs, name, t, 0, lvl, s => rfl
    | v :: vs, name, t, n + 1, lvl, s => by
      rw [cppElems_cons, cppElems_state vs name t n lvl _, cppField_state v .plain name t lvl s]
end

/-- printing a whole message leaves the stream's formatting state unchanged -/
theorem C18_stream_state_unchanged (t : Ty) (v : Val) (lvl : Nat) (s : Stream) :
    (cppPrint t v lvl s).2 = s := by
  cases t with
  | struct n ms =>
    cases v with
    | struct vs => exact cppMs_state vs ms lvl s
    | _ => rfl
  | union n arms =>
    cases v with
    | union idx x => exact cppPrint_union_state lvl s n arms idx x (cppField_state x)
    | _ => rfl
  | _ => cases v <;> rfl

/- what `C18_str_eq_print` quantifies over (a float member holds an `.int` in the model and is rendered like an
   integer by both functions).  Outside it the texts differ: bytes holding `'` and no `"` get double quotes in Python; for a value that is no
   enumerator Python prints `<KeyError>`, C++ the number; of an over-full array C++ prints `printCount` elements -/
mutual
  def okField (k : MKind) : Ty → Val → Bool
    | _, .sizer => true
    | _, .absent => true
    | t, .present x => okField .plain t x
    | _, .bytes b => pyQuote b == '\'' && printCount k b.length == b.length
    | t, .arr xs => printCount k xs.length == xs.length && okElems t xs
    | .enum _ es, .int i => (enumName es i).isSome
    | .struct _ ms, .struct vs => okMs ms vs
    | .union _ arms, .union idx v =>
      match arms[idx]? with
      | some (.mk _ _ t) => okField .plain t v
      | none => true
    | _, _ => true
  def okMs : List Member → List Val → Bool
    | .mk _ t k :: r, v :: vs => okField k t v && okMs r vs
    | _, _ => true
  def okElems : Ty → List Val → Bool
    | _, [] => true
    | t, x :: xs => okField .plain t x && okElems t xs
end

/-- Python renders nested text by indenting it; C++ passes the level down -/
def shift (lvl : Nat) (ls : List Line) : List Line := ls.map fun (l, x) => (l + lvl, x)

theorem shift_append (lvl : Nat) (a b : List Line) : shift lvl (a ++ b) = shift lvl a ++ shift lvl b := by
  simp [shift]

theorem shift_bump (lvl : Nat) (ls : List Line) : shift lvl (bump ls) = shift (lvl + 1) ls := by
  simp [shift, bump, List.map_map, Function.comp_def]
  intro a b _
  omega

theorem shift_block (lvl : Nat) (hd ft : String) (inner : List Line) :
    shift lvl ((0, hd) :: bump inner ++ [(0, ft)]) = (lvl, hd) :: shift (lvl + 1) inner ++ [(lvl, ft)] := by
  have hb := shift_bump lvl inner
  simp only [shift] at hb ⊢
  simp [hb]

theorem shift_single (lvl : Nat) (x : String) : shift lvl [(0, x)] = [(lvl, x)] := by
  simp [shift]

theorem shift_zero (ls : List Line) : shift 0 ls = ls := by simp [shift]

def plainStream : Stream := { hex := false }

theorem cppPrint_union_eq (n : String) (arms : List Arm) (idx : Nat) (v : Val) (lvl : Nat)
    (ih : ∀ k name t lvl, okField k t v = true → (cppField k name t v lvl plainStream).1 = shift lvl (pyField k name t v))
    (h : okField .plain (.union n arms) (.union idx v) = true) :
    (cppPrint (.union n arms) (.union idx v) lvl plainStream).1 = shift lvl (pyStr (.union n arms) (.union idx v)) := by
  have h' : (match arms[idx]? with
    | some (.mk _ _ t) => okField .plain t v
    | none => true) = true := h
  show (match arms[idx]? with
    | some (.mk n _ t) => cppField .plain n t v lvl plainStream
    | none => ([], plainStream)).1 = shift lvl (match arms[idx]? with
    | some (.mk n _ t) => pyField .plain n t v
    | none => [])
  cases harm : arms[idx]? with
  | none => rfl
  | some a =>
    obtain ⟨an, ad, at_⟩ := a
    rw [harm] at h'
    exact ih .plain an at_ lvl h'

mutual
  theorem cppField_eq : (v : Val) → ∀ (k : MKind) (name : String) (t : Ty) (lvl : Nat),
      okField k t v = true → (cppField k name t v lvl plainStream).1 = shift lvl (pyField k name t v)
    | .sizer, k, name, t, lvl, _ => by cases t <;> rfl
    | .absent, k, name, t, lvl, _ => by cases t <;> rfl
    | .present x, k, name, t, lvl, h => by
      have h' : okField .plain t x = true := by cases t <;> exact h
      have := cppField_eq x .plain name t lvl h'
      cases t <;> exact this
    | .bytes b, k, name, t, lvl, h => by
      have hb : (pyQuote b == '\'' && printCount k b.length == b.length) = true := by cases t <;> exact h
      rw [Bool.and_eq_true, beq_iff_eq, beq_iff_eq] at hb
      rw [cppField_bytes, hb.2, List.take_length, ← C18_bytes_eq b hb.1]
      cases t <;> exact (shift_single lvl _).symm
    | .arr xs, k, name, t, lvl, h => by
      have hx : (printCount k xs.length == xs.length && okElems t xs) = true := by cases t <;> exact h
      rw [Bool.and_eq_true, beq_iff_eq] at hx
      have := cppElems_eq xs name t lvl hx.2
      rw [← hx.1] at this
      cases t <;> exact this
    | .int i, k, name, t, lvl, h => by
      cases t with
      | prim p => exact (shift_single lvl _).symm
      | byte => exact (shift_single lvl _).symm
      | enum n es =>
        obtain ⟨nm, hn⟩ := Option.isSome_iff_exists.1 (show (enumName es i).isSome = true from h)
        show [(lvl, name ++ ": " ++ (match enumName es i with
          | some n => n
          | none => cppInt plainStream i))] = shift lvl [(0, name ++ ": " ++ (enumName es i).getD "<KeyError>")]
        rw [hn, shift_single]
        rfl
      | struct n ms => rfl
      | union n arms => rfl
    | .struct fs, k, name, t, lvl, h => by
      cases t with
      | struct n ms =>
        show (lvl, name ++ " {") :: (cppMs ms fs (lvl + 1) plainStream).1 ++ [(lvl, "}")]
          = shift lvl ((0, name ++ " {") :: bump (pyMs ms fs) ++ [(0, "}")])
        rw [shift_block, cppMs_eq fs ms (lvl + 1) h]
      | _ => rfl
    | .union idx v, k, name, t, lvl, h => by
      cases t with
      | union n arms =>
        show (lvl, name ++ " {") :: (cppPrint (.union n arms) (.union idx v) (lvl + 1) plainStream).1 ++ [(lvl, "}")]
          = shift lvl ((0, name ++ " {") :: bump (pyStr (.union n arms) (.union idx v)) ++ [(0, "}")])
        rw [shift_block, cppPrint_union_eq n arms idx v (lvl + 1) (cppField_eq v) h]
      | _ => rfl
  theorem cppMs_eq : (vs : List Val) → ∀ (ms : List Member) (lvl : Nat),
      okMs ms vs = true → (cppMs ms vs lvl plainStream).1 = shift lvl (pyMs ms vs)
    | [], ms, lvl, _ => by
      cases ms with
      | nil => rfl
      | cons m r => cases m; rfl
    | v :: vs, [], lvl, _ => rfl
    | v :: vs, .mk n t k :: r, lvl, h => by
      have h' : (okField k t v && okMs r vs) = true := h
      rw [Bool.and_eq_true] at h'
      show _ = shift lvl (pyField k n t v ++ pyMs r vs)
      rw [cppMs_cons, cppField_state v k n t lvl plainStream, shift_append, cppField_eq v k n t lvl h'.1,
        cppMs_eq vs r lvl h'.2]
  theorem cppElems_eq : (vs : List Val) → ∀ (name : String) (t : Ty) (lvl : Nat),
      okElems t vs = true → (cppElems name t vs vs.length lvl plainStream).1 = shift lvl (pyElems name t vs)
    | [], name, t, lvl, _ => rfl
    | v :: vs, name, t, lvl, h => by
      have h' : (okField .plain t v && okElems t vs) = true := h
      rw [Bool.and_eq_true] at h'
      show (cppElems name t (v :: vs) (vs.length + 1) lvl plainStream).1
        = shift lvl (pyField .plain name t v ++ pyElems name t vs)
      rw [cppElems_cons, cppField_state v .plain name t lvl plainStream, shift_append,
        cppField_eq v .plain name t lvl h'.1, cppElems_eq vs name t lvl h'.2]
end

/-- `str(message)` in Python and `print()` in C++ give the same text, for every message type built from
    integers, enums, bytes and composites (any nesting, any member kinds) and every value that is `okField`:
    bytes fields with a single-quote Python repr, enum values that are enumerators, fixed and limited arrays
    that print all their elements -/
theorem C18_str_eq_print (t : Ty) (v : Val) (h : okField .plain t v = true) :
    cppText t v = pyText t v := by
  unfold cppText pyText
  congr 1
  cases t with
  | struct n ms =>
    cases v with
    | struct vs =>
      show (cppMs ms vs 0 plainStream).1 = pyMs ms vs
      rw [cppMs_eq vs ms 0 h, shift_zero]
    | _ => rfl
  | union n arms =>
    cases v with
    | union idx x => rw [← shift_zero (pyStr _ _)]; exact cppPrint_union_eq n arms idx x 0 (cppField_eq x) h
    | _ => rfl
  | _ => cases v <;> rfl

/-- non-vacuity: a struct with a bytes field holding a quote, a double quote, a backslash and a
    non-ASCII byte, followed by an integer, an enum array and a nested union meets the hypothesis -/
example : okField .plain
    (.struct "X" [.mk "b" .byte (.fixed 4), .mk "n" (.prim .u8) .plain,
                  .mk "e" (.enum "E" [("A", 0), ("B", 5)]) (.limited "num_of_e" 3),
                  .mk "u" (.union "U" [.mk "x" 1 (.prim .i64)]) .plain])
    (.struct [.bytes [39, 34, 92, 200], .int 255, .arr [.int 5, .int 0], .union 0 (.int (-1))]) = true := by
  decide
/-- print_byte as T1 reads it off printer.hpp on every run: the switch, then the printable range,
    else `\\xNN` -/
def cppByteFromSource (b : UInt8) : String :=
  match Generated.cppByteEscapes.lookup b.toNat with
  | some s => s
  | none =>
    if Generated.cppPrintableLo ≤ b.toNat ∧ b.toNat ≤ Generated.cppPrintableHi then String.ofList [Char.ofNat b.toNat]
    else hexEscape b

theorem cppByte_table_all :
    (List.range 256).all (fun n => cppByte (UInt8.ofNat n) == cppByteFromSource (UInt8.ofNat n)) = true := by
  decide +kernel

/-- T1 obligation: the model of `print_byte` is the function the header defines, for all 256 bytes
    (an edit of the escapes or of the printable range in printer.hpp breaks this theorem) -/
theorem C18_cppByte_is_source (b : UInt8) : cppByte b = cppByteFromSource b := by
  have h := List.all_eq_true.1 cppByte_table_all b.toNat (List.mem_range.2 b.toNat_lt)
  have hb : UInt8.ofNat b.toNat = b := by simp
  rw [hb] at h
  simpa using h

end Prophy.C18
