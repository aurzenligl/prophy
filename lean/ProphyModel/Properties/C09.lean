/-
  C09 - Raw C++ swap converts a whole foreign-endian message to native in place.

  Informally: WF t → HasType t v → ¬ unlimited t →
      Raw.swap t (Spec.enc t v foreign ++ tail) = some (Spec.enc t v native ++ tail, alignedEnd);
  the theorems are in C09Complete.
-/
import ProphyModel.Lemmas.RawBytes
namespace Prophy.C09
open Prophy Prophy.Raw

/-- scalar kernel: swapping a `k`-byte scalar in place turns its big-endian bytes into its
    little-endian bytes and touches nothing else, at any position of any buffer -/
theorem C09_scalar_swap (k n : Nat) (pre post : Bytes) :
    reverseAt (pre ++ scalarBytes .big k n ++ post) pre.length k
      = some (pre ++ scalarBytes .little k n ++ post) := by
  simpa only [List.append_assoc] using reverseAt_scalar k n pre post pre.length rfl

/-- swapping twice restores the buffer (prophy::swap is its own inverse on a scalar) -/
theorem C09_scalar_swap_involutive (buf b1 : Bytes) (pos k : Nat) (h : reverseAt buf pos k = some b1) :
    reverseAt b1 pos k = some buf := by
  have hfit : pos + k ≤ buf.length := by
    unfold reverseAt at h; split at h
    · assumption
    · cases h
  -- the buffer in three pieces: before `pos`, the `k` bytes, the rest
  have hb : buf = buf.take pos ++ ((buf.drop pos).take k ++ buf.drop (pos + k)) := by
    rw [← List.drop_drop, List.take_append_drop, List.take_append_drop]
  have hp : (buf.take pos).length = pos := by simp; omega
  have hk : ((buf.drop pos).take k).length = k := by simp; omega
  have h1 := reverseAt_append (buf.take pos) ((buf.drop pos).take k) (buf.drop (pos + k)) pos hp
  have h2 := reverseAt_append (buf.take pos) ((buf.drop pos).take k).reverse (buf.drop (pos + k)) pos hp
  rw [hk, ← hb] at h1
  rw [List.length_reverse, hk, List.reverse_reverse, ← hb] at h2
  rw [h1] at h
  injection h with h
  rw [← h, h2]

end Prophy.C09
