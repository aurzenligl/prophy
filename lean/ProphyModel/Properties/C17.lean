/-
  C17 - Front-ends agree: isar (+patch) and prophy text give the same wire layout.

  The prophy parser desugars `T x<>` / `T x<N>` into a u32 counter member followed by the array
  bound to it (prophyc/parsers/prophy.py, `p_struct_member_4` ff.), `T x<@s>` into an array bound to `s`,
  `T x[N]` into a sized member, `T x<...>` into a greedy member, `T* x` into an optional one.
  The theorems state, for the isar `<dimension>` forms `size`, `isVariableSize`, both, and one
  `size` x `size2` instance, and for the patch rules `dynamic`, `static`, `greedy` on structs of one or
  two members, that they produce exactly the member records of the corresponding prophy syntax (the
  implicit counter is called `<name>_len` instead of `num_of_<name>`: member names do not exist on
  the wire), and that rules which cannot be applied are errors.
-/
import ProphyModel.Patch
namespace Prophy.C17
open Prophy Prophy.Patch

/-- what the prophy parser produces -/
def prophyPlain (n t : String) : List PM := [{ name := n, type := t }]
def prophyOptional (n t : String) : List PM := [{ name := n, type := t, optional := true }]
def prophyFixed (n t size : String) : List PM := [{ name := n, type := t, size := some size }]
def prophyDynamic (counter n t : String) : List PM :=
  [{ name := counter, type := "u32" }, { name := n, type := t, bound := some counter }]
def prophyLimited (counter n t size : String) : List PM :=
  [{ name := counter, type := "u32" }, { name := n, type := t, bound := some counter, size := some size }]
def prophyExt (n t sizer : String) : List PM := [{ name := n, type := t, bound := some sizer }]
def prophyGreedy (n t : String) : List PM := [{ name := n, type := t, greedy := true }]

theorem C17_isar_plain (n t : String) : isarMembers n t false none false = prophyPlain n t := rfl
theorem C17_isar_optional (n t : String) : isarMembers n t true none false = prophyOptional n t := rfl

/-- `<dimension size="N"/>` = `T x[N]`, for every size expression -/
theorem C17_isar_fixed (n t sz : String) :
    isarMembers n t false (some { size := some sz }) false = prophyFixed n t sz := by
  simp [isarMembers, isarMembers.body, prophyFixed]

/-- `<dimension isVariableSize="true"/>` = `T x<>` with the counter named `<name>_len` -/
theorem C17_isar_dynamic (n t : String) :
    isarMembers n t false (some { isVariable := true }) false = prophyDynamic (n ++ "_len") n t := by
  simp [isarMembers, isarMembers.body, prophyDynamic]

/-- `<dimension isVariableSize="true" size="N"/>` in a struct = `T x<N>`; in a `<message>` the
    array is dynamic -/
theorem C17_isar_limited (n t sz : String) :
    isarMembers n t false (some { isVariable := true, size := some sz }) false = prophyLimited (n ++ "_len") n t sz
    ∧ isarMembers n t false (some { isVariable := true, size := some sz }) true = prophyDynamic (n ++ "_len") n t := by
  constructor <;> simp [isarMembers, isarMembers.body, prophyLimited, prophyDynamic]

/-- patch `dynamic`, on a size field followed by the array: binds the array to the EARLIER field and drops its
    size: `T x<@len>` -/
theorem C17_patch_dynamic (c m : PM) (hne : m.name ≠ c.name) :
    applyAction [c, m] (.dynamic m.name c.name)
      = .ok [c, { m with bound := some c.name, size := none, greedy := false, optional := false }] := by
  have h1 : (c.name == m.name) = false := by simp [beq_eq_false_iff_ne]; exact fun h => hne h.symm
  simp [applyAction, findIdx, modifyAt, List.findIdx?_cons, h1, List.mapIdx_cons]

/-- `dynamic` naming a size field that does not precede the array cannot be applied -/
theorem C17_patch_dynamic_needs_sizer (m : PM) (l : String) :
    applyAction [m] (.dynamic m.name l) = .error .lenNotFound := by
  simp [applyAction, findIdx, List.findIdx?_cons]

/-- `static`, on a struct of one member: the field becomes a fixed array of the given (symbolic or positive)
    size: `T x[N]` -/
theorem C17_patch_static (m : PM) (s : String) (h : nonPositiveInt s = false) :
    applyAction [m] (.static m.name s) = .ok [{ m with bound := none, size := some s, greedy := false, optional := false }] := by
  simp [applyAction, findIdx, modifyAt, List.findIdx?_cons, List.mapIdx_cons, h]

/-- and a non-positive size cannot be applied -/
theorem C17_patch_static_needs_positive (m : PM) (s : String) (h : nonPositiveInt s = true) :
    applyAction [m] (.static m.name s) = .error .badSize := by
  simp [applyAction, findIdx, List.findIdx?_cons, h]

/-- `greedy`, on a struct of one member: it becomes `T x<...>`; the rule applies to the last field only (next) -/
theorem C17_patch_greedy (m : PM) :
    applyAction [m] (.greedy m.name) = .ok (prophyGreedy m.name m.type) := by
  simp [applyAction, findIdx, modifyAt, prophyGreedy, List.findIdx?_cons, List.mapIdx_cons]

theorem C17_patch_greedy_not_last (m r : PM) :
    applyAction [m, r] (.greedy m.name) = .error .notLast := by
  simp [applyAction, findIdx, List.findIdx?_cons]

/-- a rule naming a member that does not exist cannot be applied: the compilation fails -/
theorem C17_patch_missing_member_fails (ms : List PM) (n x : String) (h : findIdx ms n = none) :
    applyAction ms (.dynamic n x) = .error .memberNotFound ∧ applyAction ms (.greedy n) = .error .memberNotFound
    ∧ applyAction ms (.static n x) = .error .memberNotFound ∧ applyAction ms (.limited n x) = .error .memberNotFound
    ∧ applyAction ms (.remove n) = .error .memberNotFound ∧ applyAction ms (.type n x) = .error .memberNotFound
    ∧ applyAction ms (.rename n x) = .error .memberNotFound := by
  simp [applyAction, h]

/-- a once-greedy member made static or dynamic again is an ordinary array: nothing of `greedy` is left (defect D69) -/
theorem C17_patch_greedy_then_static (m : PM) (s : String) (h : nonPositiveInt s = false) :
    applyAll [m] [.greedy m.name, .static m.name s] = .ok (prophyFixed m.name m.type s) := by
  simp [applyAll, applyAction, findIdx, modifyAt, prophyFixed, List.findIdx?_cons, List.mapIdx_cons, h]

/-- whatever a script of rules leaves has no two members of one name (defect D94) -/
theorem C17_patched_names_unique (ms ms' : List PM) (a : Action) (as : List Action)
    (h : applyRules ms (a :: as) = .ok ms') : uniqNames ms' = true := by
  unfold applyRules at h
  split at h
  · rename_i r hr
    simp only [List.isEmpty_cons, Bool.false_or] at h
    split at h
    · rename_i hu
      injection h with h
      subst h
      exact hu
    · cases h
  · cases h

/-- the product of two isar dimensions is the product of the two expressions, on the instance `K+1` times `2`
    (defect D67) -/
theorem C17_isar_size2_parenthesised (n t : String) :
    isarMembers n t false (some { size := some "K+1", size2 := some "2" }) false = prophyFixed n t "(K+1)*2" := by
  have h1 : factor "K+1" = "(K+1)" := by decide
  have h2 : factor "2" = "2" := by decide
  simp [isarMembers, isarMembers.body, prophyFixed, h1, h2]

/-- a failing rule fails the whole script -/
theorem C17_patch_script_fails_on_first_error (ms : List PM) (a : Action) (r : List Action) (e : PErr)
    (h : applyAction ms a = .error e) : applyAll ms (a :: r) = .error e := by
  simp [applyAll, h]

end Prophy.C17
