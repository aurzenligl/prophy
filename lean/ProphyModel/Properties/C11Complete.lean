/-
  C11 for well-typed and reachable messages (a well-typed value has the shape of its type, Lemmas/CopyTyped.lean):
  the copy is the source value with nothing shared, encodes alike and behaves alike afterwards.
-/
import ProphyModel.Text
import ProphyModel.Properties.C11
import ProphyModel.Lemmas.ApiTyped
import ProphyModel.Lemmas.CopyTyped
namespace Prophy
open Prophy Prophy.Copy

/-- all of C11 for a well-typed source in one statement -/
theorem Copy.copy_spec (t : Ty) (v : Val) (hv : hasType t v = true) : Copy.copyFrom t v = (v, false) :=
  C11.copyField_spec v .plain t (Copy.shape_of_typed.1 v [] .plain t ((hasType_iff t v).1 hv).2)

theorem Copy.copy_eq (t : Ty) (v : Val) (hv : hasType t v = true) : (Copy.copyFrom t v).1 = v := by
  rw [Copy.copy_spec t v hv]

theorem Copy.copy_typed (t : Ty) (v : Val) (hv : hasType t v = true) :
    hasType t (Copy.copyFrom t v).1 = true := by
  rw [Copy.copy_eq t v hv]; exact hv

/-! `copyFrom` computes, following `set_field` / `extend` statement by statement, whether a mutable object is stored as
it is (`shared`); only the two clauses of `copyField` for a value off the shape of its type set the flag. -/

theorem Copy.copy_independent (t : Ty) (v : Val) (hv : hasType t v = true) : (Copy.copyFrom t v).2 = false := by
  rw [Copy.copy_spec t v hv]

/-- nothing is shared when a member of a struct is set (`set_field`); the kind plays no part: `copyField` does not read it -/
theorem Copy.copyField_typed (all : List Member) (k : MKind) (t : Ty) (v : Val)
    (hv : hasField all k t v = true) : copyField k t v = (v, false) :=
  C11.copyField_spec v k t (Copy.shape_of_typed.1 v all k t hv)

theorem Copy.copyElems_typed (t : Ty) (xs : List Val) (hv : hasElems t xs = true) :
    copyElems t xs = (xs, false) :=
  C11.copyElems_spec xs t (Copy.shape_of_typed.2.2 xs t hv)

theorem Copy.copy_text (t : Ty) (v : Val) (hv : hasType t v = true) :
    Text.pyText t (Copy.copyFrom t v).1 = Text.pyText t v ∧
    Text.cppText t (Copy.copyFrom t v).1 = Text.cppText t v := by
  rw [Copy.copy_eq t v hv]; exact ⟨rfl, rfl⟩

/-- non-vacuity: a set optional struct, a limited array of structs, a dynamic array of unions, a union holding a struct -/
example : hasType
    (.struct "S" [.mk "o" (.struct "I" [.mk "a" (.prim .u8) .plain]) .optional,
                  .mk "k" (.prim .u32) .plain,
                  .mk "cs" (.struct "I" [.mk "a" (.prim .u8) .plain]) (.limited "k" 2),
                  .mk "n" (.prim .u32) .plain,
                  .mk "us" (.union "U" [.mk "x" 1 (.prim .u32)]) (.dyn "n" 0),
                  .mk "u" (.union "V" [.mk "x" 1 (.prim .u32), .mk "y" 2 (.struct "I" [.mk "a" (.prim .u8) .plain])]) .plain])
    (.struct [.present (.struct [.int 5]), .sizer, .arr [.struct [.int 1]], .sizer, .arr [.union 0 (.int 7)],
              .union 1 (.struct [.int 9])]) = true := by decide

end Prophy

namespace Prophy.C11
open Prophy Prophy.Copy

/-- for every well-typed message - in particular every state reachable through the API - the copy
    IS the source value and shares no mutable object with it (`shared = false` is the model-level
    content of independence: the model is value-based, aliasing is the only thing the implementation
    can get wrong), at any nesting depth, for optional composites, limited and dynamic composite
    arrays and every union arm -/
theorem C11_copy_of_typed (t : Ty) (v : Val) (hv : hasType t v = true) : Copy.copyFrom t v = (v, false) :=
  Copy.copy_spec t v hv

theorem C11_copy_of_reachable (t : Ty) (ops : List Api.Op) (hf : Accept.front t = true) (hp : Accept.pyRt t = true)
    (hfit : ∀ op ∈ ops, Api.opFits t op = true) :
    Copy.copyFrom t (Api.run t ops (Api.defaultTy t) []).1 = ((Api.run t ops (Api.defaultTy t) []).1, false) :=
  Copy.copy_spec t _ (Api.run_typed t ops hf hp hfit)

/-- the copy encodes exactly like the source (same bytes or same exception), for EVERY value -/
theorem C11_copy_encoding (t : Ty) (v : Val) (e : Endian) : Py.encode t (Copy.copyFrom t v).1 e = Py.encode t v e :=
  Copy.copy_encoding t v e

/-- later operations act on the copy exactly as on the source -/
theorem C11_copy_behaves_alike (t : Ty) (v : Val) (op : Api.Op) (hv : hasType t v = true) :
    Api.step t (Copy.copyFrom t v).1 op = Api.step t v op := by
  rw [Copy.copy_eq t v hv]

theorem C11_copy_idempotent (t : Ty) (v : Val) : (Copy.copyFrom t (Copy.copyFrom t v).1).1 = (Copy.copyFrom t v).1 :=
  Copy.copy_idempotent t v

end Prophy.C11

#print axioms Prophy.Copy.copy_typed
#print axioms Prophy.Copy.copy_independent
