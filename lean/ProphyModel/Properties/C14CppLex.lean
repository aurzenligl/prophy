/-
  C14, the host LEXER: a C++ compiler cuts pasted expression text into the tokens calc read, when the text is
  "writable".

  The host's LEXER (`Expr.cppLex`, translation phase 3 by maximal munch: pp-numbers `0xE+1`, `++`, `--`, `->`, `||`,
  `//`, `/*`) against calc's (`Expr.lex false`); the host PARSER on the same tokens is Properties/C14Host.lean.

  prophyc refuses every text matching
  `UNWRITABLE_TEXT = [\x00-\x08\x0a-\x1f]|--|\+\+|(?<![A-Za-z0-9_])0[xX][0-9a-fA-F]*[eE][-+]`
  (`Expr.unwritable`; `C14_unwritable_is_regex` says the scan is that regular expression).

  Result (`C14_cpp_lexes_like_calc`): for a text that calc lexes and PARSES, that
  UNWRITABLE_TEXT lets pass and that has no leading-zero literal (D63, `hasLeadingZero`), the C++ token stream,
  read back as calc tokens (`Expr.ofCTok`: decimal and `0x` literals with their values, identifiers,
  `+ - * / | ( ) << >>`; nothing else), IS calc's token list.  No further clause is missing from UNWRITABLE_TEXT.

  Converse (`C14_unwritable_is_exact`): on such a text a match of UNWRITABLE_TEXT means the C++ tokens are NOT
  calc's; so (`C14_unwritable_exact_iff`) UNWRITABLE_TEXT refuses exactly the accepted texts a C++ compiler would
  cut differently.  (A TAB, and `0x1e+` inside an identifier such as `OFFSET_0xE+1`, are not refused.)

  What the proof uses of "calc parses the tokens" is only `Expr.okSeq`: operands and operators alternate
  (`C14_parse_alternates`).  That excludes `12ab`, `0x1p+3`, `1e+5` (literal directly followed by a name),
  `1->>2` (`-` then `>>`), `1||2`, `7//2`, `a/*b` - all lexed by calc, passed by UNWRITABLE_TEXT, and cut
  differently by C++ (witnesses in Lemmas/ExprCppLex.lean).
-/
import ProphyModel.Expr
import ProphyModel.Lemmas.ExprLex
import ProphyModel.Lemmas.ExprPrint
import ProphyModel.Lemmas.ExprHostTree
import ProphyModel.Lemmas.ExprCppLex
namespace Prophy.C14
open Prophy Prophy.Expr

/-- `unwritable` = `re.search(UNWRITABLE_TEXT, text)`: somewhere in the text there is a control character other
    than TAB, `--`, `++`, or - not directly after an identifier character - `0`, `x`/`X`, hex digits, `e`/`E`,
    a sign -/
theorem C14_unwritable_is_regex (cs : List Char) :
    unwritable cs = true ↔ ∃ pre c r, cs = pre ++ c :: r ∧
      ((c.toNat < 32 ∧ c ≠ '\t') ∨ (c = '-' ∧ ∃ r', r = '-' :: r') ∨ (c = '+' ∧ ∃ r', r = '+' :: r') ∨
       ((∀ p, pre.getLast? = some p → isIdChar p = false) ∧ c = '0' ∧
         ∃ X hs E S rest, r = X :: (hs ++ E :: S :: rest) ∧ (X = 'x' ∨ X = 'X') ∧
         (∀ h ∈ hs, isHexC h = true) ∧ (E = 'e' ∨ E = 'E') ∧ (S = '+' ∨ S = '-'))) := by
  rw [unwritable_iff]
  constructor
  · rintro ⟨pre, c, r, e, h | h | h | ⟨hp, h⟩⟩
    · exact ⟨pre, c, r, e, Or.inl h⟩
    · exact ⟨pre, c, r, e, Or.inr (Or.inl h)⟩
    · exact ⟨pre, c, r, e, Or.inr (Or.inr (Or.inl h))⟩
    · exact ⟨pre, c, r, e, Or.inr (Or.inr (Or.inr ⟨(prevId_false_iff pre).mp hp, h⟩))⟩
  · rintro ⟨pre, c, r, e, h | h | h | ⟨hp, h⟩⟩
    · exact ⟨pre, c, r, e, Or.inl h⟩
    · exact ⟨pre, c, r, e, Or.inr (Or.inl h)⟩
    · exact ⟨pre, c, r, e, Or.inr (Or.inr (Or.inl h))⟩
    · exact ⟨pre, c, r, e, Or.inr (Or.inr (Or.inr ⟨(prevId_false_iff pre).mpr hp, h⟩))⟩

/-- the hex clause, as the scan sees it: after `0x` the maximal run of hex digits ends in `e`/`E` and a sign
    follows (a sign is not a hex digit, so backtracking finds nothing else) -/
theorem C14_unwritable_hex_clause (r : List Char) :
    hexE false r = true ↔ ∃ hs E S rest, r = hs ++ E :: S :: rest ∧ (∀ h ∈ hs, isHexC h = true) ∧
      (E = 'e' ∨ E = 'E') ∧ isSignC S = true :=
  hexE_iff r

/-- a token list calc parses alternates: where an operand is expected comes a literal, a name, `-` or `(`; after
    an operand comes a binary operator or `)` -/
theorem C14_parse_alternates (ts : List Tok) (hp : (parse ts).isSome) : okSeq true ts = true :=
  okSeq_of_parse ts hp

theorem C14_cpp_lexes_like_calc (cs : List Char) (ts : List Tok) (n : Nat) (hn : cs.length < n)
    (hl : lex false n cs = some ts) (hp : (parse ts).isSome) (hw : unwritable cs = false)
    (hz : hasLeadingZero cs = false) :
    (cppLex n cs).bind (fun cts => cts.mapM ofCTok) = some ts :=
  cpp_lex_agree hl true (okSeq_of_parse ts hp) hw hz n hn

/-- **Converse**: on a text calc lexes and parses (no leading-zero literal), a match of UNWRITABLE_TEXT means the
    C++ compiler does not read calc's tokens -/
theorem C14_unwritable_is_exact (cs : List Char) (ts : List Tok) (n : Nat)
    (hl : lex false n cs = some ts) (hp : (parse ts).isSome) (hz : hasLeadingZero cs = false)
    (hw : unwritable cs = true) :
    (cppLex n cs).bind (fun cts => cts.mapM ofCTok) ≠ some ts :=
  cpp_lex_differs hl true (okSeq_of_parse ts hp) hz hw n

/-- both directions: UNWRITABLE_TEXT refuses exactly the accepted texts that C++ would cut differently -/
theorem C14_unwritable_exact_iff (cs : List Char) (ts : List Tok) (n : Nat) (hn : cs.length < n)
    (hl : lex false n cs = some ts) (hp : (parse ts).isSome) (hz : hasLeadingZero cs = false) :
    (cppLex n cs).bind (fun cts => cts.mapM ofCTok) = some ts ↔ unwritable cs = false := by
  constructor
  · intro h
    cases hw : unwritable cs with
    | false => rfl
    | true => exact (C14_unwritable_is_exact cs ts n hl hp hz hw h).elim
  · exact fun hw => C14_cpp_lexes_like_calc cs ts n hn hl hp hw hz

/-- on texts: the C++ compiler reads the tokens calc read -/
theorem C14_cpp_reads_text (s : String) (ts : List Tok) (a : Ast) (hl : tokenize false s = some ts)
    (hp : parse ts = some a) (hw : unwritable s.toList = false) (hz : hasLeadingZero s.toList = false) :
    ∃ cts, cppLex (s.length + 1) s.toList = some cts ∧ cts.mapM ofCTok = some ts := by
  have h := C14_cpp_lexes_like_calc s.toList ts (s.length + 1) (by rw [String.length_toList]; omega) hl
    (by rw [hp]; rfl) hw hz
  cases hc : cppLex (s.length + 1) s.toList with
  | none => rw [hc] at h; cases h
  | some cts => rw [hc] at h; exact ⟨cts, rfl, h⟩

/-- ... hence the tree the C++ compiler builds from the TEXT is the tree the host grammar builds from calc's
    tokens (`parseWith hostInfo`, Properties/C14Host.lean) -/
theorem C14_cpp_reads_host_tree (s : String) (ts : List Tok) (a b : Ast) (hl : tokenize false s = some ts)
    (hp : parse ts = some a) (hw : unwritable s.toList = false) (hz : hasLeadingZero s.toList = false)
    (hb : parseWith hostInfo ts = some b) :
    ∃ cts ts', cppLex (s.length + 1) s.toList = some cts ∧ cts.mapM ofCTok = some ts' ∧
      parseWith hostInfo ts' = some b := by
  obtain ⟨cts, h1, h2⟩ := C14_cpp_reads_text s ts a hl hp hw hz
  exact ⟨cts, ts, h1, h2, hb⟩

/-- ... and it is calc's tree exactly when the text, as grouped by calc (its concrete syntax tree `c`), is
    grouped the same way by the host table (`C14_text_same_tree_iff`) -/
theorem C14_cpp_reads_same_tree_iff (s : String) (ts : List Tok) (a : Ast) (hl : tokenize false s = some ts)
    (hp : parse ts = some a) (hw : unwritable s.toList = false) (hz : hasLeadingZero s.toList = false) :
    ∃ cts, cppLex (s.length + 1) s.toList = some cts ∧ cts.mapM ofCTok = some ts ∧
      ∃ c : Cst, c.toks = ts ∧ c.ast = a ∧ c.okT calcT 0 = true ∧
        (parseWith hostInfo ts = some a ↔ c.okT hostT 0 = true) := by
  obtain ⟨cts, h1, h2⟩ := C14_cpp_reads_text s ts a hl hp hw hz
  exact ⟨cts, h1, h2, text_same_tree_iff ts a hp⟩

theorem C14_minusminus_is_one_token (r : List Char) :
    cppHead '-' ('-' :: r) = some (some .minusminus, r) ∧ ofCTok .minusminus = none := cppHead_minusminus r

theorem C14_plusplus_is_one_token (r : List Char) :
    cppHead '+' ('+' :: r) = some (some .plusplus, r) ∧ ofCTok .plusplus = none := cppHead_plusplus r

theorem C14_hex_e_sign_is_one_token (hs : List Char) (E S : Char) (rest : List Char)
    (hall : ∀ h ∈ hs, isHexC h = true) (hE : E = 'e' ∨ E = 'E') (hS : isSignC S = true) :
    ∃ more rest', cppHead '0' ('x' :: (hs ++ E :: S :: rest)) =
        some (some (.ppnum ('0' :: 'x' :: (hs ++ E :: S :: more))), rest') ∧
      ofCTok (.ppnum ('0' :: 'x' :: (hs ++ E :: S :: more))) = none :=
  cppHead_hex_e_sign hs E S rest hall hE hS

-- D175: `0xE+1`
example : tokenize false "0xE+1" = some [.num 14, .plus, .num 1] ∧ evalText false envNone "0xE+1" = .value 15 ∧
    cppLex 6 "0xE+1".toList = some [.ppnum "0xE+1".toList] ∧ unwritable "0xE+1".toList = true := by decide +kernel
-- D158: `2--1`
example : tokenize false "2--1" = some [.num 2, .minus, .minus, .num 1] ∧ evalText false envNone "2--1" = .value 3 ∧
    cppLex 5 "2--1".toList = some [.ppnum ['2'], .minusminus, .ppnum ['1']] ∧ unwritable "2--1".toList = true := by
  decide +kernel
-- the same with blanks: writable, same tokens
example : unwritable "0xE + 1".toList = false ∧ cppToks 8 "0xE + 1".toList = tokenize false "0xE + 1" := by decide +kernel
example : unwritable "2 - -1".toList = false ∧ cppToks 7 "2 - -1".toList = tokenize false "2 - -1" := by decide +kernel
example : unwritable "1 << 2".toList = false ∧ cppToks 7 "1 << 2".toList = tokenize false "1 << 2" := by decide +kernel
example : unwritable "(1)<<(31)".toList = false ∧ cppToks 10 "(1)<<(31)".toList = tokenize false "(1)<<(31)" := by
  decide +kernel
-- TAB: writable, same tokens, value 3
example : unwritable "1\t+ 2".toList = false ∧ cppToks 7 "1\t+ 2".toList = tokenize false "1\t+ 2" ∧
    tokenize false "1\t+ 2" = some [.num 1, .plus, .num 2] ∧ evalText false envNone "1\t+ 2" = .value 3 := by decide +kernel
-- the look-behind: `0xE+` at the end of a name is no number - writable, same tokens; the literal is refused
example : unwritable "OFFSET_0xE+1".toList = false ∧ cppToks 13 "OFFSET_0xE+1".toList = tokenize false "OFFSET_0xE+1" ∧
    tokenize false "OFFSET_0xE+1" = some [.ident "OFFSET_0xE", .plus, .num 1] := by decide +kernel
example : unwritable "0xE+1".toList = true ∧ unwritable "(0xE+1)".toList = true := by decide +kernel
-- the theorem applied
example : ∃ cts, cppLex 10 "(1)<<(31)".toList = some cts ∧
    cts.mapM ofCTok = some [.lpar, .num 1, .rpar, .shl, .lpar, .num 31, .rpar] :=
  C14_cpp_reads_text "(1)<<(31)" _ (.bin .shl (.num 1) (.num 31)) (by decide +kernel) (by decide +kernel) (by decide +kernel) (by decide +kernel)

end Prophy.C14

#print axioms Prophy.C14.C14_unwritable_is_regex
#print axioms Prophy.C14.C14_unwritable_hex_clause
#print axioms Prophy.C14.C14_parse_alternates
#print axioms Prophy.C14.C14_cpp_lexes_like_calc
#print axioms Prophy.C14.C14_unwritable_is_exact
#print axioms Prophy.C14.C14_unwritable_exact_iff
#print axioms Prophy.C14.C14_cpp_reads_text
#print axioms Prophy.C14.C14_cpp_reads_host_tree
#print axioms Prophy.C14.C14_cpp_reads_same_tree_iff
#print axioms Prophy.C14.C14_minusminus_is_one_token
#print axioms Prophy.C14.C14_plusplus_is_one_token
#print axioms Prophy.C14.C14_hex_e_sign_is_one_token
