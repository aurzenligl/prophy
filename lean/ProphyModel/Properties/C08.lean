/-
  C08 - Raw C++ struct layout coincides with the wire layout.

  For every schema the front end accepts (`Accept.front`) whose member names do not imitate the generated
  `_paddingN`: Raw.offsets of every member of every block of the generated struct = Spec.blockOffsets,
  and sizeof = Spec.sizeTy for fixed t.
-/
import ProphyModel.Raw
import ProphyModel.Spec
import ProphyModel.Lemmas.RawLayout
namespace Prophy.C08
open Prophy Prophy.Raw

/-- the packed layout rule: the offset of a field is the sum of the sizes of the fields before it
    (so manual padding members are the only way to realise wire padding) -/
theorem C08_offsets_are_prefix_sums (pre : List Field) (f : Field) (post : List Field) (off : Nat) :
    (offsets (pre ++ f :: post) off)[pre.length]? = some (f.name, off + totalSize pre) := by
  induction pre generalizing off with
  | nil => simp [offsets, totalSize]
  | cons g r ih =>
    simp only [List.cons_append, offsets, List.length_cons, List.getElem?_cons_succ, totalSize]
    rw [ih]; congr 2; omega

/-- every part's size is a multiple of its declared alignment -/
theorem C08_block_sizeof_aligned (b : Block) (h : 0 < b.align) : b.sizeof % b.align = 0 :=
  Nat.mod_eq_zero_of_dvd (dvd_alignUp _ _ h)


/-- FULL STATEMENT: for every schema prophyc accepts (and whose member names do not imitate the
    generated `_paddingN` members - such a schema does not even compile, finding D40), every declared
    member of every block of the generated raw struct - optional flags and values, counters, first
    array elements, members of each partN relative to the part - lies at the offset the wire format
    assigns; each part is declared with the wire alignment of its block; sizeof of every fixed struct
    and union is its wire size; a union has its discriminator at 0 and every arm at max(4, alignment) -/
theorem C08_offsets_are_wire_offsets (n : String) (ms : List Member) (hf : Accept.front (.struct n ms) = true)
    (hn : ∀ m ∈ ms, m.name.startsWith "_padding" = false) :
    (Raw.structBlocks ms).map (fun b => (Raw.offsets b.fields 0).filter (fun p => !(p.1.startsWith "_padding")))
      = Spec.blockOffsets ms := Raw.offsets_spec n ms hf hn

theorem C08_part_alignments (n : String) (ms : List Member) (hf : Accept.front (.struct n ms) = true) :
    (Raw.structBlocks ms).map (·.align) = Spec.alignMs ms :: (Spec.blocks ms).tail.map Spec.blockAlign :=
  Raw.block_align_spec n ms hf

theorem C08_sizeof_fixed (t : Ty) (hf : Accept.front t = true) (hx : Spec.fixedTy t = true) :
    Raw.sizeofTy t = Spec.sizeTy t := Raw.sizeofTy_fixed t hf hx

theorem C08_union_layout (arms : List Arm) (hn : ∀ a ∈ arms, a.name.startsWith "_padding" = false) :
    (Raw.unionLayout arms).filter (fun p => !(p.1.startsWith "_padding"))
      = ("discriminator", 0) :: arms.map (fun a => (a.name, max Spec.flagSize (Spec.alignArms arms))) :=
  Raw.union_spec arms hn

end Prophy.C08
