/-
  Model of the Python runtime codec (prophy/*.py) on classes generated by
  prophyc's Python back-end.  It follows the code statement by statement:

    statics   prophy/scalar.py numeric_decorator, prophy/optional.py optional(),
              prophy/container.py array(), prophy/composite.py bytes_(),
              prophy/generators.py struct_generator.add_attributes (:199),
              union_generator.add_attributes (:419)
    encode    prophy/composite.py struct.encode (:59), union.encode (:141),
              prophy/descriptor.py encode_* (:72-98), container.py _encode_impl,
              generators.py container_len.evaluate_size/_encode (:377)
    decode    composite.py struct._decode_impl (:76), union._decode_impl (:152),
              descriptor.py decode_* (:100-140), container.py _decode_impl,
              composite.py bytes_._decode (:218), generators.py container_len._decode

  Exceptions are data: primitives return the exception class CPython raises.
  Member kind -> descriptor type is prophyc/generators/python.py:23
  (_form_struct_member): optional -> prophy.optional, byte arrays -> prophy.bytes,
  other arrays -> prophy.array(bound=, size=).
-/
import ProphyModel.Schema
namespace Prophy
namespace Py

/-- exception classes; `hang` stands for a loop that never ends -/
inductive Exc
  | prophy | structError | index | value | type | overflow | key | attribute
  | assertion | recursion | zeroDiv | hang
  deriving DecidableEq, Repr, Inhabited

abbrev M := Except Exc

/-- static attributes of a (field) type: `_SIZE`, `_ALIGNMENT`, `_DYNAMIC`, `_UNLIMITED`.
    For a struct field, `size`/`align` are the optional-aware ones
    (`_OPTIONAL_SIZE`/`_OPTIONAL_ALIGNMENT` for an optional field,
    composite.py `field_alignment`). -/
structure St where
  size : Nat
  align : Nat
  dyn : Bool
  unl : Bool
  deriving DecidableEq, Repr, Inhabited

def flagSize : Nat := 4       -- scalar.u32._SIZE, the optional flag and union discriminator

/-- descriptor type of a struct member from the type's statics (optional(), array(), bytes_()) -/
def fieldSt (s : St) : MKind → St
  | .plain => s
  | .optional => ⟨max flagSize s.align + s.size, max flagSize s.align, s.dyn, s.unl⟩
  | .fixed n => ⟨n * s.size, s.align, false, false⟩
  | .dyn _ _ => ⟨0, s.align, true, false⟩
  | .limited _ n => ⟨n * s.size, s.align, false, false⟩
  | .greedy => ⟨0, s.align, true, true⟩

/-- `get_padded_sizes` (generators.py:219): paddings after each field up to the next
    field's alignment, after the last one up to the struct alignment -/
def paddings : List St → Nat → Nat → Nat
  | [], _, _ => 0
  | f :: r, sa, off =>
    let a := match r with
      | [] => sa
      | g :: _ => g.align
    let off1 := off + f.size
    let p := padTo off1 a
    p + paddings r sa (off1 + p)

def sumSizes : List St → Nat
  | [] => 0
  | f :: r => f.size + sumSizes r

def maxAlign : List St → Nat
  | [] => 1
  | f :: r => max f.align (maxAlign r)

def maxSize : List St → Nat
  | [] => 0
  | f :: r => max f.size (maxSize r)

/-- struct_generator.add_attributes -/
def structSt (fs : List St) : St :=
  let a := maxAlign fs
  ⟨sumSizes fs + paddings fs a 0, a, fs.any (·.dyn), fs.any (·.unl)⟩

/-- union_generator.add_attributes -/
def unionSt (fs : List St) : St :=
  let a := max flagSize (maxAlign fs)
  let natural := a + maxSize fs
  ⟨natural + padTo natural a, a, false, false⟩

mutual
  def stTy : Ty → St
    | .prim p => ⟨p.size, p.size, false, false⟩
    | .byte => ⟨1, 1, false, false⟩
    | .enum _ _ => ⟨4, 4, false, false⟩
    | .struct _ ms => structSt (stMs ms)
    | .union _ arms => unionSt (stArms arms)
  def stMs : List Member → List St
    | [] => []
    | .mk _ t k :: r => fieldSt (stTy t) k :: stMs r
  def stArms : List Arm → List St
    | [] => []
    | .mk _ _ t :: r => stTy t :: stArms r
end

/-- the reversed scan of add_attributes: per field the alignment of the block that
    follows it (`partial_alignment`, only on dynamic fields), and the alignment
    accumulated so far from the right -/
def partialsAux : List St → List (Option Nat) × Nat
  | [] => ([], 1)
  | f :: r =>
    let (ps, al) := partialsAux r
    if f.dyn then (some al :: ps, max f.align 1) else (none :: ps, max f.align al)

def partials (fs : List St) : List (Option Nat) := (partialsAux fs).1

/-! ### encode -/

def primRange (p : Prim) : Int × Int :=
  if p.isFloat then (0, (256 ^ p.size : Nat) - 1)          -- floats travel as bit patterns
  else if p.isSigned then (-((256 ^ p.size / 2 : Nat) : Int), ((256 ^ p.size / 2 : Nat) : Int) - 1)
  else (0, ((256 ^ p.size : Nat) : Int) - 1)

/-- `struct.pack(endianness + id, value)`: `struct.error` when out of range -/
def pack (e : Endian) (p : Prim) (i : Int) : M Bytes :=
  let (lo, hi) := primRange p
  if lo ≤ i ∧ i ≤ hi then .ok (scalarBytes e p.size (toUnsigned p.size i)) else .error .structError

/-- `bytes.ljust(n, b'\x00')` -/
def ljust (b : Bytes) (n : Nat) : Bytes := b ++ zeros (n - b.length)

/-- container_len.evaluate_size: all arrays bound to the sizer must agree -/
def evaluateSize (s : String) (ms : List Member) (vs : List Val) : M Nat :=
  match (boundLens s ms vs).eraseDups with
  | [n] => .ok n
  | _ => .error .prophy

def sizerPrim : Ty → Prim
  | .prim p => p
  | _ => .u32

mutual
  def encTy (e : Endian) : Ty → Val → M Bytes
    | .prim p, .int i => pack e p i
    | .byte, .int i => pack e .u8 i
    | .enum _ _, .int i => pack e .u32 i
    | .struct _ ms, .struct vs => do
      let fs := stMs ms
      let body ← encMs e ms vs ms vs fs (partials fs) 0
      pure (body ++ zeros (padTo body.length (structSt fs).align))
    | .union _ arms, .union idx v =>
      match arms[idx]? with
      | some (.mk _ d t) => do
        let u := unionSt (stArms arms)
        let disc ← pack e .u32 d
        let body ← encTy e t v
        pure (ljust (ljust disc u.align ++ body) u.size)
      | none => .error .attribute
    | _, _ => .error .type
  /-- the loop of struct.encode; `off` is `len(data)` -/
  def encMs (e : Endian) (all : List Member) (allv : List Val) :
      List Member → List Val → List St → List (Option Nat) → Nat → M Bytes
    | .mk n t k :: r, v :: vs, f :: fs, p :: ps, off => do
      let pad1 := padTo off f.align
      let body ← (match k, v with
        | .plain, v =>
          if isSizer n all then do
            let c ← evaluateSize n all allv
            pack e (sizerPrim t) (c + sizerShift n all)
          else encTy e t v
        | .optional, .absent => pure (zeros f.size)
        | .optional, .present x => do
          let flag ← pack e .u32 1
          let b ← encTy e t x
          pure (ljust flag f.align ++ b)
        | .fixed _, .arr xs => encElems e t xs
        | .fixed c, .bytes b => pure (ljust b c)
        | .dyn _ _, .arr xs => encElems e t xs
        | .dyn _ _, .bytes b => pure b
        | .limited _ _, .arr xs => do
          let b ← encElems e t xs
          pure (ljust b f.size)
        | .limited _ c, .bytes b => pure (ljust b c)
        | .greedy, .arr xs => encElems e t xs
        | .greedy, .bytes b => pure b
        | _, _ => .error .type)
      let off1 := off + pad1 + body.length
      let pad2 := match p with
        | some a => padTo off1 a
        | none => 0
      let rest ← encMs e all allv r vs fs ps (off1 + pad2)
      pure (zeros pad1 ++ body ++ zeros pad2 ++ rest)
    | [], _, _, _, _ => pure []
    | _, _, _, _, _ => .error .type
  def encElems (e : Endian) : Ty → List Val → M Bytes
    | _, [] => pure []
    | t, x :: xs => do
      let b ← encTy e t x
      let r ← encElems e t xs
      pure (b ++ r)
end

/-- `Message.encode(endianness)` -/
def encode (t : Ty) (v : Val) (e : Endian) : M Bytes := encTy e t v

/-! ### decode -/

/-- `data[pos:pos+n]` -/
def slice (data : Bytes) (pos n : Nat) : Bytes := (data.drop pos).take n

/-- `struct.unpack(endianness + id, s)`: `struct.error` unless `len(s) == size` -/
def unpack (e : Endian) (p : Prim) (s : Bytes) : M Int :=
  if s.length = p.size then
    let n := scalarVal e s
    .ok (if p.isSigned then toSigned p.size n else (n : Int))
  else .error .structError

/-- numeric `_decode` (scalar.py:18): the length guard, then unpack -/
def decScalar (e : Endian) (p : Prim) (data : Bytes) (pos : Nat) : M (Int × Nat) :=
  if (data.length : Int) - (pos : Int) < (p.size : Int) then .error .prophy
  else do
    let v ← unpack e p (slice data pos p.size)
    pure (v, p.size)

def arrayGuard : Nat := 65536

/-- container_len._decode followed by decode_array_delimiter's sign check -/
def decSizer (e : Endian) (p : Prim) (shift : Nat) (data : Bytes) (pos : Nat) : M (Nat × Nat) := do
  let (v, sz) ← decScalar e p data pos
  -- `value -= bound_shift` comes first (since the repair of D144): the guard bounds the element count, not the raw counter
  if v - (shift : Int) > (arrayGuard : Int) then .error .prophy
  else if v - (shift : Int) < 0 then .error .prophy      -- "decoded array length smaller than shift"
  else pure ((v - (shift : Int)).toNat, sz)

/-- enum `_check` on a decoded integer -/
def checkEnum (es : List (String × Nat)) (v : Int) : M Int :=
  if es.any (fun en => (en.2 : Int) = v) then .ok v else .error .prophy

/-- `for _ in xrange(n): cursor += decode(pos + cursor)` -/
def decN (f : Bytes → Nat → M (Val × Nat)) : Nat → Bytes → Nat → Nat → M (List Val × Nat)
  | 0, _, _, cursor => pure ([], cursor)
  | n + 1, data, pos, cursor => do
    let (v, sz) ← f data (pos + cursor)
    let (vs, c) ← decN f n data pos (cursor + sz)
    pure (v :: vs, c)

/-- `while (pos + cursor) < len(data): cursor += decode(pos + cursor)`; out of fuel = never ends -/
def decWhile (f : Bytes → Nat → M (Val × Nat)) : Nat → Bytes → Nat → Nat → M (List Val × Nat)
  | 0, data, pos, cursor => if pos + cursor < data.length then .error .hang else pure ([], cursor)
  | fuel + 1, data, pos, cursor =>
    if pos + cursor < data.length then do
      let (v, sz) ← f data (pos + cursor)
      let (vs, c) ← decWhile f fuel data pos (cursor + sz)
      pure (v :: vs, c)
    else pure ([], cursor)

def lookupHint (hints : List (String × Nat)) (n : String) : M Nat :=
  match hints.lookup n with
  | some c => .ok c
  | none => .error .type          -- xrange(None) / slice with None

mutual
  /-- `_decode_impl(data, pos, endianness, terminal)` of a message of type `t`, resp. the
      scalar decoders; returns the decoded value and the number of bytes consumed -/
  def decTy (e : Endian) : Ty → Bytes → Nat → Bool → M (Val × Nat)
    | .prim p, data, pos, _ => do
      let (v, sz) ← decScalar e p data pos
      pure (.int v, sz)
    | .byte, data, pos, _ => do
      let (v, sz) ← decScalar e .u8 data pos
      pure (.int v, sz)
    | .enum _ es, data, pos, _ => do
      let (v, sz) ← decScalar e .u32 data pos
      let v ← checkEnum es v
      pure (.int v, sz)
    | .struct _ ms, data, pos, terminal => do
      let fs := stMs ms
      let (vs, pos1) ← decMs e ms ms fs (partials fs) data pos []
      let pos2 := pos1 + padTo pos1 (structSt fs).align
      if terminal && pos2 < data.length then .error .prophy
      else pure (.struct vs, pos2 - pos)
    | .union _ arms, data, pos, terminal => do
      let u := unionSt (stArms arms)
      let (d, _) ← decScalar e .u32 data pos
      let (idx, v) ← decArms e arms arms d data (pos + u.align) 0
      let bytesRead : Int := (data.length : Int) - (pos : Int)
      if bytesRead < (u.size : Int) then .error .prophy
      else if terminal && bytesRead > (u.size : Int) then .error .prophy
      else pure (.union idx v, u.size)
  /-- `_get_discriminated_field` + the arm's decode -/
  def decArms (e : Endian) (all : List Arm) :
      List Arm → Int → Bytes → Nat → Nat → M (Nat × Val)
    | [], _, _, _, _ => .error .prophy
    | .mk _ d t :: r, disc, data, pos, idx =>
      if (d : Int) = disc then do
        let (v, _) ← decTy e t data pos false
        pure (idx, v)
      else decArms e all r disc data pos (idx + 1)
  /-- the loop of struct._decode_impl; returns the values and the position reached -/
  def decMs (e : Endian) (all : List Member) :
      List Member → List St → List (Option Nat) → Bytes → Nat → List (String × Nat) →
      M (List Val × Nat)
    | .mk n t k :: r, f :: fs, p :: ps, data, pos, hints => do
      let pos0 := pos + padTo pos f.align
      let (v, sz, hints') ← (match k with
        | .plain =>
          if isSizer n all then do
            let (c, sz) ← decSizer e (sizerPrim t) (sizerShift n all) data pos0
            let bound := all.filterMap (fun m => if m.kind.sizer? = some n then some (m.name, c) else none)
            pure (Val.sizer, sz, bound ++ hints)
          else do
            let (v, sz) ← decTy e t data pos0 false
            pure (v, sz, hints)
        | .optional => do
          let (flag, _) ← decScalar e .u32 data pos0
          if flag ≠ 0 then do
            let (v, sz) ← decTy e t data (pos0 + f.align) false
            pure (Val.present v, f.align + sz, hints)
          else pure (Val.absent, f.align + (stTy t).size, hints)
        | .fixed c =>
          match t with
          | .byte =>
            if (data.length : Int) - (pos0 : Int) < (c : Int) then .error .prophy
            else pure (Val.bytes (slice data pos0 c), c, hints)
          | _ => do
            -- descriptor.decode_array: `if type_._SIZE > len(data) - pos: raise ProphyError` (an array of a fixed extent
            -- is not built for an input that cannot hold it)
            if (f.size : Int) > (data.length : Int) - (pos0 : Int) then .error .prophy
            let (vs, cur) ← decN (fun d q => decTy e t d q false) c data pos0 0
            pure (Val.arr vs, cur, hints)
        | .dyn _ _ => do
          let c ← lookupHint hints n
          match t with
          | .byte =>
            if (data.length : Int) - (pos0 : Int) < (c : Int) then .error .prophy
            else pure (Val.bytes (slice data pos0 c), c, hints)
          | _ => do
            if (f.size : Int) > (data.length : Int) - (pos0 : Int) then .error .prophy
            let (vs, cur) ← decN (fun d q => decTy e t d q false) c data pos0 0
            pure (Val.arr vs, max cur f.size, hints)
        | .limited _ lim => do
          let c ← lookupHint hints n
          match t with
          | .byte =>
            if (data.length : Int) - (pos0 : Int) < (lim : Int) then .error .prophy
            else if c > lim then .error .prophy        -- `if len_hint > size: raise ProphyError("too long")`
            else
              let b := slice data pos0 c               -- `data[pos:pos+len_hint]`: within the `lim` bytes checked above
              if b.length > lim then .error .prophy    -- `_check`: too long (unreachable now)
              else pure (Val.bytes b, lim, hints)
          | _ => do
            if (f.size : Int) > (data.length : Int) - (pos0 : Int) then .error .prophy
            let (vs, cur) ← decN (fun d q => decTy e t d q false) (min c lim) data pos0 0
            if c > lim then .error .prophy             -- exceeded array limit
            pure (Val.arr vs, max cur f.size, hints)
        | .greedy =>
          match t with
          | .byte =>
            -- bytes_._decode: `if (len(data) - pos) < size` with size 0 rejects a position beyond the end
            if (data.length : Int) - (pos0 : Int) < 0 then .error .prophy
            else pure (Val.bytes (data.drop pos0), data.length - pos0, hints)
          | .struct _ _ | .union _ _ => do
            if (f.size : Int) > (data.length : Int) - (pos0 : Int) then .error .prophy
            let (vs, cur) ← decWhile (fun d q => decTy e t d q false) data.length data pos0 0
            pure (Val.arr vs, max cur f.size, hints)
          | _ => do
            if (f.size : Int) > (data.length : Int) - (pos0 : Int) then .error .prophy
            -- decode_scalar_array with count None: items + bool(remainder)
            let remaining : Int := (data.length : Int) - (pos0 : Int)
            let esz := (stTy t).size
            let cnt := if remaining ≤ 0 then 0 else (remaining.toNat / esz) + (if remaining.toNat % esz = 0 then 0 else 1)
            let (vs, cur) ← decN (fun d q => decTy e t d q false) cnt data pos0 0
            pure (Val.arr vs, max cur f.size, hints))
      let pos1 := pos0 + sz
      let pos2 := match p with
        | some a => pos1 + padTo pos1 a
        | none => pos1
      let (vs, posEnd) ← decMs e all r fs ps data pos2 hints'
      pure (v :: vs, posEnd)
    | [], _, _, _, pos, _ => pure ([], pos)
    | _, _, _, _, _, _ => .error .type
end

/-- `Message.decode(data, endianness)`: the value and the reported size -/
def decode (t : Ty) (data : Bytes) (e : Endian) : M (Val × Nat) := decTy e t data 0 true

end Py
end Prophy
