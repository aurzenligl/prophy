/-
  Model of prophyc/file_processor.py FileProcessor as it is now, over an abstract file system WITH
  symbolic links (ProphyModel/Files.lean is the model without links, same names and limits; the
  refinement between the two is `Lemmas/FilesLinksPlain.lean`).

  What the code does and this model mirrors, line by line:
    * a path is (directory, leaf); a directory entry is a regular file or a symbolic link to a
      regular file; `os.path.realpath` of a path is the entry's target (directories are not links
      here: `realpath(dirname)` is the directory itself);
    * `_directories_of(path)`: `[dir]` when the file really lives in `dir`, `[real dir, dir]` when
      it is reached through a link;
    * the search context of a file: `include_dirs[0]` = first of these, `own_dirs` = the rest;
      an include is searched in `[first] ++ own ++ -I directories` (`_find`);
    * a file is identified by device and inode (`ident`): a symbolic or a hard link to it is the same file;
      `realpath` (`real`) only decides where its includes are searched;
    * `_process_file`: the base name must stand for one real file (`SameNameError`) and a file is used under one
      base name (`TwoNamesError`: the outputs are named after it); results are
      cached by real path (`None` = in progress = cycle marker); on a cache hit `_same_includes`
      compares, from the path used now, the includes of the file (and of the includes reached
      through another path than before) with what was found when it was parsed
      (`AmbiguousIncludeError`); each (real path, directories) pair is compared once (`verified`);
    * after the content is processed the height (longest include chain) is recorded and a file
      higher than `INCLUDE_DEPTH_LIMIT` is refused (`IncludeDepthError`);
    * every error ends the run (prophyc reports it and exits).
-/
import ProphyModel.Basic
namespace Prophy
namespace FilesL

structure Path where
  dir : String
  leaf : String
  deriving DecidableEq, Repr, Inhabited

/-- a directory entry: a regular file (`target = path`) or a symbolic link to a regular file (`target` = what
    `os.path.realpath` gives).  `ident` stands for (device, inode): the representative path of the file the entry
    denotes - the target itself, or for a hard link the path the content is filed under (`FS.files`). -/
structure Entry where
  path : Path
  target : Path
  ident : Path
  deriving DecidableEq, Repr, Inhabited

/-- what the parser reads in a regular file: the leaves it includes, the names it defines -/
structure File where
  id : Path
  includes : List String
  defines : List String
  deriving Repr, Inhabited

structure FS where
  entries : List Entry
  files : List File
  deriving Repr, Inhabited

/-- `os.path.realpath(path)` of an existing path (`none`: no such entry) -/
def real (fs : FS) (p : Path) : Option Path :=
  (fs.entries.find? (fun e => e.path == p)).map (·.target)

/-- `_identity(path)`: the file an existing path denotes, whatever link - symbolic or hard - leads to it -/
def ident (fs : FS) (p : Path) : Option Path :=
  (fs.entries.find? (fun e => e.path == p)).map (·.ident)

def content (fs : FS) (r : Path) : Option File := fs.files.find? (fun f => f.id == r)

/-- `_directories_of(path)` -/
def directoriesOf (fs : FS) (p : Path) : List String :=
  match real fs p with
  | some r => if r.dir = p.dir then [p.dir] else [r.dir, p.dir]
  | none => [p.dir]

/-- `include_dirs[:1] + own_dirs + include_dirs[1:]` while the file reached as `p` is processed -/
def searchDirs (fs : FS) (incs : List String) (p : Path) : List String :=
  directoriesOf fs p ++ incs

/-- `_get_first_existing_path(leaf, dirs)` (`os.path.isfile` follows links) -/
def find (fs : FS) (leaf : String) : List String → Option Path
  | [] => none
  | d :: r => if (real fs ⟨d, leaf⟩).isSome then some ⟨d, leaf⟩ else find fs leaf r

inductive Err
  | notFound (leaf : String)
  | cyclic (p : Path)
  | sameName (leaf : String)
  | ambiguous (p : Path) (leaf : String)
  | tooDeep (p : Path)
  | twoNames (p : Path)
  deriving DecidableEq, Repr

/-- as `Files.Result`: the names a file makes visible to its includer, the names visible inside
    it, the (real) files parsed for the first time while it was processed -/
structure Result where
  exports : List String
  visible : List String
  parsed : List Path
  /-- what the generated output of the file is a function of: the real files its includes resolve to, transitively,
      as the preorder list (depth, real path) of the include tree (the file itself at depth 0) -/
  shape : List (Nat × Path)
  deriving Repr, Inhabited, DecidableEq

/-- the include tree of a child, one level down -/
def deeper (t : List (Nat × Path)) : List (Nat × Path) := t.map fun (d, p) => (d + 1, p)

def depthLimit : Nat := 64

structure State where
  cache : List (Path × Option Result) := []               -- `self.files`, keyed by real path
  names : List (String × Path) := []                       -- `self.names`: leaf of the given path -> real path
  nameOf : List (Path × String) := []                      -- `self.name_of`: real path -> the leaf it is used under
  includesOf : List (Path × List (String × Option Path)) := []   -- `self.includes_of`
  heights : List (Path × Nat) := []                        -- `self.heights`
  verified : List (Path × List String) := []               -- `self.verified`
  deriving Repr, Inhabited

def maxList : List Nat → Nat
  | [] => 0
  | x :: r => max x (maxList r)

/-- `_same_includes(abspath, path)`: `r` is the real path, `p` the path used now -/
def sameIncludes (fs : FS) (incs : List String) : Nat → State → Path → Path → Except Err State
  | 0, _, _, p => .error (.cyclic p)
  | fuel + 1, st, r, p =>
    let key := (r, directoriesOf fs p)
    if st.verified.contains key then .ok st
    else
      let st1 := { st with verified := key :: st.verified }
      let rec go (st : State) : List (String × Option Path) → Except Err State
        | [] => .ok st
        | (leaf, found) :: rest =>
          let here := find fs leaf (searchDirs fs incs p)
          if here.bind (ident fs) ≠ found then .error (.ambiguous p leaf)
          else
            match here, found with
            | some h, some f =>
              match sameIncludes fs incs fuel st f h with
              | .error e => .error e
              | .ok st' => go st' rest
            | _, _ => go st rest
      go st1 ((st.includesOf.lookup r).getD [])

mutual
  /-- `_process_file(path)`; the caller has set the search context to that of `p` -/
  def processFile (fs : FS) (incs : List String) : Nat → State → Path → Except Err (Result × State)
    | 0, _, p => .error (.cyclic p)
    | fuel + 1, st, p =>
      match ident fs p with
      | none => .error (.notFound p.leaf)
      | some r =>
        -- `if self.names.setdefault(name, abspath) != abspath: raise SameNameError`
        match st.names.lookup p.leaf with
        | some q => if q ≠ r then .error (.sameName p.leaf) else processNamed fs incs fuel st p r
        | none => processNamed fs incs fuel { st with names := (p.leaf, r) :: st.names } p r
  /-- `if self.name_of.setdefault(abspath, name) != name: raise TwoNamesError`: a file is used under one base name -/
  def processNamed (fs : FS) (incs : List String) : Nat → State → Path → Path → Except Err (Result × State)
    | 0, _, p, _ => .error (.cyclic p)
    | fuel + 1, st, p, r =>
      match st.nameOf.lookup r with
      | some l => if l ≠ p.leaf then .error (.twoNames p) else processKnown fs incs fuel st p r
      | none => processKnown fs incs fuel { st with nameOf := (r, p.leaf) :: st.nameOf } p r
  /-- the rest of `_process_file` once the name is registered -/
  def processKnown (fs : FS) (incs : List String) : Nat → State → Path → Path → Except Err (Result × State)
    | 0, _, p, _ => .error (.cyclic p)
    | fuel + 1, st, p, r =>
      match st.cache.lookup r with
      | some none => .error (.cyclic p)
      | some (some res) =>
        match sameIncludes fs incs (fuel + 1) st r p with
        | .error e => .error e
        | .ok st' => .ok ({ res with parsed := [] }, st')
      | none =>
        match content fs r with
        | none => .error (.notFound p.leaf)
        | some file =>
          let st1 : State := { st with cache := (r, none) :: st.cache,
                                       includesOf := (r, []) :: st.includesOf,
                                       verified := (r, directoriesOf fs p) :: st.verified }
          match processIncludes fs incs fuel st1 p r file.includes with
          | .error e => .error e
          | .ok (vis, parsed, found, shapes, st2) =>
            let h := 1 + maxList (found.map fun f => (st2.heights.lookup f).getD 0)
            if h > depthLimit then .error (.tooDeep p)
            else
              let res : Result := { exports := file.defines, visible := vis ++ file.defines, parsed := r :: parsed,
                                    shape := (0, r) :: shapes }
              .ok (res, { st2 with heights := (r, h) :: st2.heights, cache := (r, some res) :: st2.cache })
  /-- the `#include`s of the file reached as `p` (real path `r`), in order: `process_leaf` for each;
      returns the visible names, the files parsed, the real paths found, the include trees (one level down), the state -/
  def processIncludes (fs : FS) (incs : List String) : Nat → State → Path → Path → List String →
      Except Err (List String × List Path × List Path × List (Nat × Path) × State)
    | _, st, _, _, [] => .ok ([], [], [], [], st)
    | 0, _, _, _, leaf :: _ => .error (.notFound leaf)
    | fuel + 1, st, p, r, leaf :: rest =>
      let here := find fs leaf (searchDirs fs incs p)
      -- `self.includes_of[self.including].append((leaf, path and realpath(path)))`
      let st1 := { st with includesOf := (r, (st.includesOf.lookup r).getD [] ++ [(leaf, here.bind (ident fs))]) :: st.includesOf }
      match here with
      | none => .error (.notFound leaf)
      | some g =>
        match processFile fs incs fuel st1 g with
        | .error e => .error e
        | .ok (res, st2) =>
          match processIncludes fs incs fuel st2 p r rest with
          | .error e => .error e
          | .ok (vis, parsed, found, shapes, st3) =>
            .ok (res.exports ++ vis, res.parsed ++ parsed, ((ident fs g).toList ++ found), deeper res.shape ++ shapes, st3)
end

/-- enough fuel for every run of a file system whose files name each include once: each level of recursion enters a
    file that is not in progress (at most `entries` of them, four calls per level) and walking the includes of a file
    costs one unit per include.  (A file that includes the same leaf more often than there are entries can exhaust
    it - `C20L.fsTen` - and is then reported as `.cyclic`; the theorems are about runs that succeed.) -/
def fuelOf (fs : FS) : Nat := 5 * fs.entries.length + 5

/-- `process_main(path)` for each input in command-line order, one shared FileProcessor -/
def processMains (fs : FS) (incs : List String) : List Path → State → Except Err (List (Path × Result))
  | [], _ => .ok []
  | m :: rest, st =>
    match processFile fs incs (fuelOf fs) st m with
    | .error e => .error e
    | .ok (res, st1) =>
      match processMains fs incs rest st1 with
      | .error e => .error e
      | .ok rs => .ok ((m, res) :: rs)

/-! ### The order-free meaning of a path: what a fresh processor gives for it alone -/

/-- `eval fs incs fuel ancestors p`: exports, visible names and include tree of the file reached as `p`,
    computed without any cache (every include is walked again in the context of the path that reaches it);
    `ancestors` are the real paths in progress -/
def eval (fs : FS) (incs : List String) : Nat → List Path → Path →
    Except Err (List String × List String × List (Nat × Path))
  | 0, _, p => .error (.cyclic p)
  | fuel + 1, anc, p =>
    match ident fs p with
    | none => .error (.notFound p.leaf)
    | some r =>
      if anc.contains r then .error (.cyclic p)
      else
        match content fs r with
        | none => .error (.notFound p.leaf)
        | some file =>
          let rec go : List String → Except Err (List String × List (Nat × Path))
            | [] => .ok ([], [])
            | leaf :: rest =>
              match find fs leaf (searchDirs fs incs p) with
              | none => .error (.notFound leaf)
              | some g =>
                match eval fs incs fuel (r :: anc) g with
                | .error e => .error e
                | .ok (ex, _, sh) =>
                  match go rest with
                  | .error e => .error e
                  | .ok (vis, shapes) => .ok (ex ++ vis, deeper sh ++ shapes)
          match go file.includes with
          | .error e => .error e
          | .ok (vis, shapes) => .ok (file.defines, vis ++ file.defines, (0, r) :: shapes)

end FilesL
end Prophy
